import EpModel.Model.Dec.Types
/-
  Reference semantics of whole-packet decoding, written from the wire formats (RFC 791, 8200,
  4302, 768, 9293, 792, 4443, 826, IEEE 802.1Q / 802.1AE, LINKTYPE_LINUX_SLL) and the crate's
  documented conventions (at most three link extensions; MACsec short length counts the ether
  type; zero IPv6 payload length / UDP length = up to the end of the enclosing data; fragments
  stop the walk).

  One generic walk: a *tag* says what the next bytes are claimed to be, a *context* says where
  they start, where the data available to them ends and which length field put the end there.
  Each step decodes one header according to its format, records the layer, and yields the next
  tag.  The walk shares only the result types with the model (so that both can be rendered and
  compared); no decoding code is shared.

  `lax = true` gives the documented lax behaviour: a length field that promises more than is
  present (or less than its own header) does not fault, the data up to the end of the slice is
  handed out and marked incomplete where more was promised; the first fault ends the walk and is
  recorded as stop fault, the layers in front of it are kept.
-/
namespace EpModel.Spec
open EpModel EpModel.Dec

inductive FaultClass
  | cutShort          -- a header needs more bytes than are available
  | claimsMore        -- a length field promises more bytes than are available
  | claimsLess        -- a length field is smaller than the header that contains it
  | tooLong           -- more bytes than the format admits (ICMPv4 timestamp: exactly 20)
  | content           -- a documented content rule is violated
deriving DecidableEq, Repr, Inhabited

/-- which protocol unit faulted (coarser than the crate's `Layer`) -/
inductive Unit_
  | eth | sll | vlan | macsecHeader | macsecPacket | ipAny | ipv4Header | ipv4Packet | ipv6Header
  | ipv6Packet | auth | hopByHop | destOpts | route | fragHeader | arp | udpHeader | udpPayload
  | tcp | icmp4 | icmp6
deriving DecidableEq, Repr, Inhabited

structure Fault where
  cls : FaultClass
  unit : Unit_
  off : Nat            -- absolute offset of the faulting unit
  avail : Nat          -- bytes really available to it
  need : Nat           -- bytes it really needs (cutShort/claimsMore/claimsLess) or admits (tooLong)
  lim : LenSource      -- what put the end of the available data where it is
  value : Nat          -- content: the offending value present in the bytes
deriving DecidableEq, Repr, Inhabited

inductive Tag
  | eth | sll
  | ether (et : Nat)
  | ipAny | ipv4 | ipv6
  | tp (num : Nat)
  | done
deriving DecidableEq, Repr, Inhabited

structure Ctx where
  off : Nat            -- where the next unit starts
  stop : Nat           -- end (absolute) of the data available to it
  lim : LenSource      -- the length field (or the slice) that put `stop` there
  nExt : Nat           -- link extensions so far
deriving Repr, Inhabited

def Ctx.avail (c : Ctx) : Nat := c.stop - c.off

def mkFault (c : Ctx) (cls : FaultClass) (u : Unit_) (need : Nat) (value : Nat := 0) : Fault :=
  { cls := cls, unit := u, off := c.off, avail := c.avail, need := need, lim := c.lim, value := value }

/-! ### formats -/

def isVlanType (et : Nat) : Bool := et = 0x8100 ∨ et = 0x88a8 ∨ et = 0x9100

/-- Linux "non standard ether types" (if_ether.h, values below 0x600 that are no ether types) -/
def sllNonStandard (v : Nat) : Bool :=
  v ∈ [1, 2, 3, 4, 5, 6, 7, 8, 9, 0x0c, 0x0d, 0x0e, 0x10, 0x11, 0x15, 0x16, 0x17, 0x18, 0x19, 0x1a,
    0x1b, 0x1c, 0xf5, 0xf6, 0xf7, 0xf8, 0xf9, 0xfa]

/-- ARPHRD values whose SLL protocol field the crate interprets -/
def sllSupportedHw (hw : Nat) : Bool := hw ∈ [1, 770, 778, 803, 824]

/-- length of an 802.1AE SecTAG: 6 octets, + 8 with an SCI, + 2 for the ether type of an
    unmodified frame (which the crate counts as part of the header) -/
def secTagLen (sc unmod : Bool) : Nat := 6 + (if sc then 8 else 0) + (if unmod then 2 else 0)

/-- outcome of one step: the packet with everything decoded so far (also in front of a fault),
    the next tag and context, and the fault if this unit is faulty -/
structure StepR where
  p : Packet
  next : Tag
  c : Ctx
  fault : Option Fault
deriving Repr, Inhabited

/-- IPv4 fragmentation: more-fragments flag or a non-zero fragment offset (RFC 791) -/
def v4Fragmented (g : Mem) (o : Nat) : Bool :=
  let w := g16 g (o + 6)
  (w / 8192) % 2 = 1 ∨ w % 8192 ≠ 0

/-- IPv6 fragment header (RFC 8200 4.5): offset in the upper 13 bits, M flag in bit 0 -/
def v6Fragmented (g : Mem) (o : Nat) : Bool :=
  let w := g16 g (o + 2)
  w % 2 = 1 ∨ w / 8 ≠ 0

/-- result of walking an IPv6 extension chain inside `[o, stop)` -/
structure Chain where
  next : Nat
  frag : Bool
  off : Nat
deriving Repr, Inhabited

/-- The IPv6 extension headers the crate decodes: hop-by-hop (only directly behind the IPv6 header),
    destination options, routing, fragment, authentication.  `first`: at the start of the chain. -/
def chain (g : Mem) (lim : LenSource) (first : Bool) (nh : Nat) (frag : Bool) (o stop : Nat) :
    Chain × Option Fault :=
  let c : Ctx := { off := o, stop := stop, lim := lim, nExt := 0 }
  let here : Chain := { next := nh, frag := frag, off := o }
  let generic (u : Unit_) : Chain × Option Fault :=
    -- RFC 8200 4.x: Hdr Ext Len in 8-octet units, not including the first 8 octets
    if h : stop - o < 8 then (here, some (mkFault c .cutShort u 8))
    else
      let len := (g (o + 1) + 1) * 8
      if h' : stop - o < len then (here, some (mkFault c .cutShort u len))
      else chain g lim false (g o) frag (o + len) stop
  if nh = 0 then
    if first then generic .hopByHop else (here, some (mkFault c .content .hopByHop 0 0))
  else if nh = 60 then generic .destOpts
  else if nh = 43 then generic .route
  else if nh = 44 then
    if h : stop - o < 8 then (here, some (mkFault c .cutShort .fragHeader 8))
    else chain g lim false (g o) (frag || v6Fragmented g o) (o + 8) stop
  else if nh = 51 then
    -- RFC 4302: payload len in 32 bit words minus 2; 0 is not a valid value
    if h : stop - o < 12 then (here, some (mkFault c .cutShort .auth 12))
    else if g (o + 1) = 0 then (here, some (mkFault c .content .auth 0 0))
    else
      let len := (g (o + 1) + 2) * 4
      if h' : stop - o < len then (here, some (mkFault c .cutShort .auth len))
      else chain g lim false (g o) frag (o + len) stop
  else (here, none)
termination_by stop - o
decreasing_by all_goals omega

def setLink (p : Packet) (x : LinkR) : Packet := { p with link := some x }
def addExt (p : Packet) (x : ExtR) : Packet := { p with exts := p.exts ++ [x] }
def setNet (p : Packet) (x : NetR) : Packet := { p with net := some x }
def setTp (p : Packet) (x : TpR) : Packet := { p with tp := some x }

/-- the payload rule of a unit with a length field: `total` = what the field prescribes for the
    whole unit, `hl` = the unit's own header. strict: faults; lax: falls back to the end of the data.
    Returns (end of the unit's data, limiter, incomplete). -/
def bound (lax : Bool) (c : Ctx) (u : Unit_) (field : LenSource) (hl total : Nat) :
    Except Fault (Nat × LenSource × Bool) :=
  if total < hl then
    if lax then .ok (c.stop, .slice, false)
    else .error { cls := .claimsLess, unit := u, off := c.off, avail := total, need := hl,
                  lim := field, value := 0 }
  else if c.avail < total then
    if lax then .ok (c.stop, .slice, true) else .error (mkFault c .claimsMore u total)
  else .ok (c.off + total, field, false)

/-- the limiter that applies behind a unit: a unit that runs up to the end of its enclosing data
    inherits the enclosing limiter -/
def inherit (outer inner : LenSource) : LenSource := if inner = .slice then outer else inner

/-- one step of the walk -/
def step (lax : Bool) (g : Mem) (p : Packet) (t : Tag) (c : Ctx) : StepR :=
  let o := c.off
  let good (p' : Packet) (t' : Tag) (c' : Ctx) : StepR := { p := p', next := t', c := c', fault := none }
  let bad (f : Fault) : StepR := { p := p, next := .done, c := c, fault := some f }
  match t with
  | .done => good p .done c
  | .eth =>
    -- Ethernet II: destination, source, ether type
    if c.avail < 14 then bad (mkFault c .cutShort .eth 14)
    else good (setLink p (.eth2 ⟨o, c.avail⟩)) (.ether (g16 g (o + 12))) { c with off := o + 14 }
  | .sll =>
    -- LINKTYPE_LINUX_SLL: packet type, ARPHRD type, address length, address (8), protocol
    if c.avail < 16 then bad (mkFault c .cutShort .sll 16)
    else if g16 g o > 7 then bad (mkFault c .content .sll 0 (g16 g o))
    else if ¬ sllSupportedHw (g16 g (o + 2)) then bad (mkFault c .content .sll 0 (g16 g (o + 2)))
    else
      let proto := g16 g (o + 14)
      let next : Tag := if g16 g (o + 2) = 1 ∧ ¬ sllNonStandard proto then .ether proto else .done
      good (setLink p (.sll ⟨o, c.avail⟩)) next { c with off := o + 16 }
  | .ether et =>
    if isVlanType et then
      -- 802.1Q tag: PCP/DEI/VID, ether type
      if c.nExt = 3 then good p .done c
      else if c.avail < 4 then bad (mkFault c .cutShort .vlan 4)
      else
        good (addExt p (.vlan ⟨o, c.avail⟩)) (.ether (g16 g (o + 2)))
          { c with off := o + 4, nExt := c.nExt + 1 }
    else if et = 0x88e5 then
      -- 802.1AE SecTAG: TCI/AN, SL, PN, optional SCI; an unmodified frame carries the ether type
      if c.nExt = 3 then good p .done c
      else if c.avail < 6 then bad (mkFault c .cutShort .macsecHeader 6)
      else
        let tci := g o
        let sc := (tci / 32) % 2 = 1
        let unmod := (tci / 8) % 2 = 0 ∧ (tci / 4) % 2 = 0
        let sl := g (o + 1) % 64
        if tci / 128 = 1 then bad (mkFault c .content .macsecHeader 0 1)
        else if unmod ∧ sl = 1 then bad (mkFault c .content .macsecHeader 0 1)
        else
          let hl := secTagLen sc unmod
          if c.avail < hl then bad (mkFault c .cutShort .macsecHeader hl)
          else
            -- short length: number of octets behind the SecTAG (incl. the ether type), 0 = 48 or more
            let plen := if unmod then sl - 2 else sl
            let r : Except Fault (Nat × LenSource × Bool) :=
              if sl = 0 then .ok (c.stop, .slice, false)
              else if c.avail < hl + plen then
                if lax then .ok (c.stop, .slice, true)
                else .error (mkFault c .claimsMore .macsecPacket (hl + plen))
              else .ok (o + hl + plen, .macsecShortLength, false)
            match r with
            | .error f => bad f
            | .ok (stop', lim', inc) =>
              let p' := addExt p (.macsec ⟨o, hl⟩ ⟨o + hl, stop' - (o + hl)⟩ lim' inc)
              let c' : Ctx :=
                { off := o + hl, stop := stop', lim := inherit c.lim lim', nExt := c.nExt + 1 }
              if unmod then good p' (.ether (g16 g (o + hl - 2))) c' else good p' .done c'
    else if et = 0x0806 then
      -- RFC 826: hardware/protocol type, address lengths, operation, four addresses
      if c.avail < 8 then bad (mkFault c .cutShort .arp 8)
      else
        let total := 8 + 2 * g (o + 4) + 2 * g (o + 5)
        if c.avail < total then bad (mkFault c .cutShort .arp total)
        else good (setNet p (.arp ⟨o, total⟩)) .done { c with off := o + total }
    else if et = 0x0800 then good p (if lax then .ipAny else .ipv4) c
    else if et = 0x86dd then good p (if lax then .ipAny else .ipv6) c
    else good p .done c
  | .ipAny =>
    if c.avail < 1 then bad (mkFault c .cutShort .ipAny 1)
    else if g o / 16 = 4 then good p .ipv4 c
    else if g o / 16 = 6 then good p .ipv6 c
    else bad (mkFault c .content .ipAny 0 (g o / 16))
  | .ipv4 =>
    -- RFC 791
    if c.avail < 20 then bad (mkFault c .cutShort .ipv4Header 20)
    else if g o / 16 ≠ 4 then bad (mkFault c .content .ipv4Header 0 (g o / 16))
    else if g o % 16 < 5 then bad (mkFault c .content .ipv4Header 0 (g o % 16))
    else
      let hl := (g o % 16) * 4
      if c.avail < hl then bad (mkFault c .cutShort .ipv4Header hl)
      else
        match bound lax c .ipv4Packet .ipv4HeaderTotalLen hl (g16 g (o + 2)) with
        | .error f => bad f
        | .ok (stop', lim', inc) =>
          let frag := v4Fragmented g o
          let c' : Ctx := { off := o + hl, stop := stop', lim := inherit c.lim lim', nExt := c.nExt }
          let layer (auth : Option Win) (num po : Nat) : Packet :=
            setNet p (.ip
              { v4 := true, hdr := ⟨o, hl⟩, auth := auth, exts := ⟨o, 0⟩, first := none,
                slots := ExtSlots.none,
                pl := { num := num, frag := frag, src := lim', w := ⟨po, stop' - po⟩, inc := inc } })
          let authFault (f : Fault) : StepR :=
            { p := layer none 51 c'.off, next := .done, c := c', fault := some f }
          if g (o + 9) = 51 then
            -- RFC 4302 authentication header: payload len in 32 bit words minus 2, never 0
            if c'.avail < 12 then authFault (mkFault c' .cutShort .auth 12)
            else if g (c'.off + 1) = 0 then authFault (mkFault c' .content .auth 0 0)
            else
              let al := (g (c'.off + 1) + 2) * 4
              if c'.avail < al then authFault (mkFault c' .cutShort .auth al)
              else
                good (layer (some ⟨c'.off, al⟩) (g c'.off) (c'.off + al))
                  (if frag then .done else .tp (g c'.off)) { c' with off := c'.off + al }
          else good (layer none (g (o + 9)) c'.off) (if frag then .done else .tp (g (o + 9))) c'
  | .ipv6 =>
    -- RFC 8200
    if c.avail < 40 then bad (mkFault c .cutShort .ipv6Header 40)
    else if g o / 16 ≠ 6 then bad (mkFault c .content .ipv6Header 0 (g o / 16))
    else
      let plen := g16 g (o + 4)
      let r : Except Fault (Nat × LenSource × Bool) :=
        -- a zero payload length means: up to the end of the enclosing data (documented convention)
        if plen = 0 ∧ c.avail > 40 then .ok (c.stop, .slice, false)
        else bound lax c .ipv6Packet .ipv6HeaderPayloadLen 40 (40 + plen)
      match r with
      | .error f => bad f
      | .ok (stop', lim', inc) =>
        let lim'' := inherit c.lim lim'
        let (ch, f) := chain g lim'' true (g (o + 6)) false (o + 40) stop'
        let p' : Packet :=
          setNet p (.ip
            { v4 := false, hdr := ⟨o, 40⟩, auth := none, exts := ⟨o + 40, ch.off - (o + 40)⟩,
              first := if ch.off = o + 40 then none else some (g (o + 6)), slots := ExtSlots.none,
              pl := { num := ch.next, frag := ch.frag, src := lim', w := ⟨ch.off, stop' - ch.off⟩,
                      inc := inc } })
        let c' : Ctx := { off := ch.off, stop := stop', lim := lim'', nExt := c.nExt }
        match f with
        | some f => { p := p', next := .done, c := c', fault := some f }
        | none => good p' (if ch.frag then .done else .tp ch.next) c'
  | .tp num =>
    if num = 17 then
      -- RFC 768: length covers header and data; 0 = up to the end of the enclosing data
      if c.avail < 8 then bad (mkFault c .cutShort .udpHeader 8)
      else
        let len := g16 g (o + 4)
        if len = 0 then good (setTp p (.udp ⟨o, c.avail⟩)) .done c
        else if c.avail < len then
          if lax then good (setTp p (.udp ⟨o, c.avail⟩)) .done c
          else bad (mkFault c .claimsMore .udpPayload len)
        else if len < 8 then
          if lax then good (setTp p (.udp ⟨o, c.avail⟩)) .done c
          else bad { cls := .claimsLess, unit := .udpHeader, off := o, avail := len, need := 8,
                     lim := .udpHeaderLen, value := 0 }
        else good (setTp p (.udp ⟨o, len⟩)) .done c
    else if num = 6 then
      -- RFC 9293: data offset in 32 bit words, at least 5
      if c.avail < 20 then bad (mkFault c .cutShort .tcp 20)
      else if g (o + 12) / 16 < 5 then bad (mkFault c .content .tcp 0 (g (o + 12) / 16))
      else if c.avail < (g (o + 12) / 16) * 4 then bad (mkFault c .cutShort .tcp ((g (o + 12) / 16) * 4))
      else good (setTp p (.tcp ⟨o, c.avail⟩ ((g (o + 12) / 16) * 4))) .done c
    else if num = 1 then
      -- RFC 792: 8 byte header; timestamp / timestamp reply messages are exactly 20 bytes
      if c.avail < 8 then bad (mkFault c .cutShort .icmp4 8)
      else if (g o = 13 ∨ g o = 14) ∧ g (o + 1) = 0 ∧ c.avail ≠ 20 then
        bad (mkFault c (if c.avail < 20 then .cutShort else .tooLong) .icmp4 20)
      else good (setTp p (.icmp4 ⟨o, c.avail⟩)) .done c
    else if num = 58 then
      -- RFC 4443: 8 byte header
      if c.avail < 8 then bad (mkFault c .cutShort .icmp6 8)
      else if c.avail > 4294967295 then bad (mkFault c .tooLong .icmp6 4294967295)
      else good (setTp p (.icmp6 ⟨o, c.avail⟩)) .done c
    else good p .done c

/-- the walk: at most 3 link extensions + 8 other steps in front of the transport layer are
    possible, so a small structural counter suffices (`done` is absorbing). -/
def walkN (lax : Bool) (g : Mem) : Nat → Packet → Tag → Ctx → Packet × Option Fault
  | 0, p, t, c =>
    -- never reached with `maxSteps` (theorem `walkN_fuel`); made visible, not silent
    if t = .done then (p, none) else (p, some (mkFault c .content .eth 0 999999))
  | k + 1, p, t, c =>
    if t = .done then (p, none)
    else
      let r := step lax g p t c
      match r.fault with
      | some f => (r.p, some f)
      | none => walkN lax g k r.p r.next r.c

inductive Start
  | eth | sll | etherType (et : Nat) | ip
deriving DecidableEq, Repr, Inhabited

def startTag (lax : Bool) : Start → Tag
  | .eth => .eth
  | .sll => .sll
  | .etherType et => .ether et
  | .ip => if lax then .ipAny else .ipAny

def startPacket (n : Nat) : Start → Packet
  | .etherType et => setLink Packet.empty (.etherPayload et ⟨0, n⟩)
  | _ => Packet.empty

/-- number of steps that can happen: start header, 3 link extensions, the stop at a fourth one,
    ether type dispatch, IP dispatch, IP, transport, done. -/
def maxSteps : Nat := 12

/-- a strict decoder rejects at the first fault -/
def verdict : Packet × Option Fault → Except Fault Packet
  | (p, none) => .ok p
  | (_, some f) => .error f

/-- strict decoding: the layers, or the first fault -/
def decode (st : Start) (g : Mem) (n : Nat) : Except Fault Packet :=
  verdict (walkN false g maxSteps (startPacket n st) (startTag false st)
      { off := 0, stop := n, lim := .slice, nExt := 0 })

/-- lax decoding: every layer in front of the first fault, and the fault -/
def decodeLax (st : Start) (g : Mem) (n : Nat) : Packet × Option Fault :=
  walkN true g maxSteps (startPacket n st) (startTag true st)
    { off := 0, stop := n, lim := .slice, nExt := 0 }

end EpModel.Spec
