import EpModel.Lemmas.TcpOptions
/-
  C13 — TCP options encode and decode faithfully; iteration is bounded.

  Model: EpModel.Model.TcpOptions (tcp_options.rs `try_from_elements` / `try_from_slice`,
  tcp_options_iterator.rs `next`).  Spec: EpModel.Spec.TcpOptions (wire formats of RFC 9293 / 7323 /
  2018, `normSack`, value ranges `WF`, truthful errors `ErrAt`).
  All statements quantify over every element list / every byte string; no size bound.
  `iterate b` are the items a loop over the iterator sees until the first `None`, `endState b` is
  the iterator state after that `None`, `next` is one call.
-/
namespace EpModel.Props.C13
open EpModel EpModel.TcpOptions EpModel.Spec.TcpOpt EpModel.Lemmas.TcpOptions

/-- lists that do not fit are rejected with the required size (no range hypothesis needed). -/
theorem too_big (es : List Elem) (h : 40 < size es) :
    encode es = .err (.notEnoughSpace (size es)) := by
  unfold encode
  simp [h]

/-- `required_len` is the sum of the wire lengths. -/
theorem size_is_wire_length (es : List Elem) : size es = (wireAll es).length := size_eq es

/-- lists that fit are encoded (no slice-index panic), the result is the concatenated wire forms
    followed by fewer than four END bytes; its length is a multiple of four, at most 40, and is
    the required size rounded up. -/
theorem encode_len (es : List Elem) (h : size es ≤ 40) :
    ∃ pad, pad < 4 ∧ encode es = .ok (wireAll es ++ List.replicate pad 0) ∧
      (wireAll es ++ List.replicate pad 0).length % 4 = 0 ∧
      (wireAll es ++ List.replicate pad 0).length ≤ 40 ∧
      (wireAll es ++ List.replicate pad 0).length = (size es + 3) / 4 * 4 := by
  have hp := padLen_spec (size es)
  refine ⟨padLen (size es) - size es, by omega, encode_fits es h, ?_⟩
  rw [List.length_append, List.length_replicate, ← size_eq]
  omega

/-- the encoder never takes the panic branch. -/
theorem encode_total (es : List Elem) : encode es ≠ .panic := by
  by_cases h : size es ≤ 40
  · rw [encode_fits es h]; intro hc; cases hc
  · rw [too_big es (by omega)]; intro hc; cases hc

/-- encode then iterate: for every list of in-range elements that fits, iterating the encoding
    yields exactly the elements with the `None` holes of SACK compacted (`normSack`), all `Ok`, and
    then nothing: what follows the elements is only END padding (`pad < 4` zero bytes), on which
    the iterator stops.  `normSack` does not change the wire form. -/
theorem encode_iter (es : List Elem) (hwf : ∀ e ∈ es, WF e) (h : size es ≤ 40) :
    ∃ pad, pad < 4 ∧ encode es = .ok (wireAll es ++ List.replicate pad 0) ∧
      iterate (wireAll es ++ List.replicate pad 0) = (es.map normSack).map .ok ∧
      endState (wireAll es ++ List.replicate pad 0) = [] ∧
      wireAll (es.map normSack) = wireAll es := by
  have hp := padLen_spec (size es)
  refine ⟨padLen (size es) - size es, by omega, encode_fits es h, ?_, ?_, ?_⟩
  · rw [iterate_wireAll es _ hwf, iterate_zeros]; simp
  · obtain ⟨_, _, _, _, hend, _⟩ := run_spec (wireAll es ++ List.replicate (padLen (size es) - size es) 0)
    exact hend
  · unfold wireAll
    rw [List.map_map]
    congr 1
    apply List.map_congr_left
    intro e _
    exact wire_normSack e

/-- elements without holes come back unchanged. -/
theorem normSack_fixed (e : Elem) :
    (∀ f r0 r1 r2, e = .sack f r0 r1 r2 → (r0 = none → r1 = none) ∧ (r1 = none → r2 = none)) →
      normSack e = e := by
  intro h
  cases e with
  | sack f r0 r1 r2 => exact normSack_noHoles f r0 r1 r2 (h f r0 r1 r2 rfl).1 (h f r0 r1 r2 rfl).2
  | _ => rfl

/-- one call of `next` on an arbitrary byte string `b`:
    * `None` only on the empty slice or on an END byte, and the state is exhausted afterwards;
    * an `Ok` element is in range, has no holes, and its wire form followed by the new state is `b`;
    * an error describes the real kind byte / length byte / remaining length (`ErrAt`), and the
      state is exhausted afterwards. -/
theorem step_spec (b : Bytes) :
    match next b with
    | (none, s) => s = [] ∧ (b = [] ∨ (0 < b.length ∧ bAt b 0 = 0))
    | (some (.ok e), rest) => b = wire e ++ rest ∧ WF e ∧ normSack e = e
    | (some (.error err), s) => s = [] ∧ ErrAt err b :=
  next_spec b

/-- completeness of one call: whenever the slice starts with the wire form of an in-range element,
    `next` yields that element (holes compacted) and the state is what follows it — a well-formed
    option is never reported as an error, whatever comes behind it. -/
theorem step_complete (e : Elem) (t : Bytes) (h : WF e) :
    next (wire e ++ t) = (some (.ok (normSack e)), t) :=
  next_wire e t h

/-- the tiling is unique: a byte string starts with the wire form of at most one in-range element
    without holes, so "the elements that tile a prefix" are determined by the bytes. -/
theorem wire_unique (e e' : Elem) (t t' : Bytes) (h : WF e) (h' : WF e')
    (hn : normSack e = e) (hn' : normSack e' = e') (heq : wire e ++ t = wire e' ++ t') :
    e = e' ∧ t = t' := by
  have h1 := next_wire e t h
  have h2 := next_wire e' t' h'
  rw [heq, h2, hn, hn'] at h1
  injection h1 with ha hb
  injection ha with ha
  injection ha with ha
  exact ⟨ha.symm, hb.symm⟩

/-- tiling: for EVERY byte string `b` there are elements `els` and a rest such that
    `b = wire(els) ++ rest`; the iterator yields exactly `els` (all `Ok`, in range, without holes) and
    then either stops because the rest is empty or starts with END, or yields one error — as its
    last item — that truthfully describes the start of the rest (kind byte, length byte, remaining
    length); afterwards the state is the empty slice. -/
theorem iter_tiles (b : Bytes) :
    ∃ (els : List Elem) (rest : Bytes),
      b = wireAll els ++ rest ∧ (∀ e ∈ els, WF e ∧ normSack e = e) ∧ endState b = [] ∧
        ((iterate b = els.map .ok ∧ (rest = [] ∨ (0 < rest.length ∧ bAt rest 0 = 0))) ∨
          (∃ err, iterate b = els.map .ok ++ [.error err] ∧ ErrAt err rest)) :=
  run_spec b

/-- exhaustion: after END / the end of the slice / an error the state is the empty slice, and
    on the empty slice `next` returns `None` and stays there, any number of times. -/
theorem iter_exhausted (b : Bytes) :
    endState b = [] ∧
      (∀ s, next b = (none, s) → s = []) ∧
      (∀ e s, next b = (some (.error e), s) → s = []) ∧
      (∀ n : Nat, Nat.repeat (fun st => (next st).2) n [] = [] ∧ (next []).1 = none) := by
  have hs := next_spec b
  refine ⟨?_, ?_, ?_, ?_⟩
  · obtain ⟨_, _, _, _, hend, _⟩ := run_spec b; exact hend
  · intro s h; rw [h] at hs; exact hs.1
  · intro e s h; rw [h] at hs; exact hs.1
  · intro n
    refine ⟨?_, by simp [next_nil]⟩
    induction n with
    | zero => rfl
    | succ n ih => simp [Nat.repeat, ih, next_nil]

/-- bound: every `Some` step strictly shrinks the remaining slice, hence the number of yielded
    items is at most the length of the area. -/
theorem iter_bound (b : Bytes) :
    (iterate b).length ≤ b.length ∧
      (∀ r s, next b = (some r, s) → s.length < b.length) :=
  ⟨iterate_length b, next_shrinks b⟩

/-- `try_from_slice` (`set_options_raw`): areas longer than 40 bytes are rejected with their
    length. -/
theorem raw_too_big (s : Bytes) (h : 40 < s.length) :
    fromSlice s = .err (.notEnoughSpace s.length) := by
  unfold fromSlice; simp [h]

/-- areas that fit are stored unchanged, followed by fewer than four zero (END) bytes up to the
    next multiple of four. -/
theorem raw_pad (s : Bytes) (h : s.length ≤ 40) :
    ∃ pad, pad < 4 ∧ fromSlice s = .ok (s ++ List.replicate pad 0) ∧ (s.length + pad) % 4 = 0 ∧
      s.length + pad ≤ 40 :=
  ⟨(s.length + 3) / 4 * 4 - s.length, by omega, fromSlice_fits s h, by omega, by omega⟩

/-! non-vacuity: the hypotheses are the value ranges of the Rust types and the 40 byte limit. -/
example : (∀ e ∈ [Elem.mss 1400, .noop, .ws 7, .sackPerm, .sack (1, 2) none (some (3, 4)) none, .ts 1 4294967295],
    WF e) := by decide
example : size [Elem.mss 1400, .noop, .ws 7, .sackPerm, .sack (1, 2) none (some (3, 4)) none, .ts 1 2] = 38 := by
  decide
example : 40 < size [Elem.ts 1 2, .ts 1 2, .ts 1 2, .ts 1 2, .noop] := by decide
example : normSack (.sack (1, 2) none (some (3, 4)) none) = .sack (1, 2) (some (3, 4)) none none := by
  decide
example : encode [Elem.mss 1400, .noop, .sack (1, 2) none (some (3, 4)) none] =
    .ok [2, 4, 5, 120, 1, 5, 18, 0, 0, 0, 1, 0, 0, 0, 2, 0, 0, 0, 3, 0, 0, 0, 4, 0] := by decide
example : next [2, 4, 5, 120, 1] = (some (.ok (.mss 1400)), [1]) := by rfl
example : next [2, 4, 5] = (some (.error (.eos 2 4 3)), []) := by rfl
example : ErrAt (.eos 2 4 3) [2, 4, 5] := by decide

end EpModel.Props.C13
