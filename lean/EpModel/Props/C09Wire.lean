import EpModel.Lemmas.WireChains
/-
  C09, closing the loop between the code and the RFC forms for the PROTOCOL checksums.

  The `ck.w.*` operations compare, on every run, every route the crate offers to a protocol checksum with
  `wireIpv4 / wireUdp4 / wireUdp6 / wireTcp4 / wireTcp6 / wireIcmp4 / wireIcmp6 / wireIgmp`
  (Model/ChecksumWire.lean): the
  RFC 1071 checksum `Spec.checksum` over (pseudo header ++) header bytes with a zeroed checksum field ++
  payload.  The theorems below prove, for all inputs, that the MODEL of the crate's own chains of
  `Sum16BitWords` calls (`udpPostIp`, `tcpPostIp`, `icmp4Checksum`, `ck6 (.icmp6 _)`, `igmpChecksum`,
  `Ipv4Header.calcHeaderChecksum` - Model/Builder.lean, Model/ChecksumIgmp.lean, Model/Codec/NetIpv4.lean; tied to the code by the
  builder and codec correspondence of C10 / C08) equals those same functions.  So the value the code model
  computes is the RFC value for every header, address pair and payload, not only for the sampled ones.

  Hypotheses: address lengths (4 / 16 bytes), well-formed headers (`WF`: the field ranges of the Rust types),
  and for UDP that the length field of the header is the real length (`calc_checksum_*` sums the field, the
  RFC form the real length; over IPv6 additionally `< 65536`, see the known finding on C14).
-/
namespace EpModel.Props.C09
open EpModel EpModel.Codec EpModel.CodecNet EpModel.Builder EpModel.Checksum EpModel.Lemmas.Builder
open EpModel.Lemmas.WireChains

/-- **UDP over IPv4**: the chain of `UdpHeader::calc_checksum_ipv4_raw` (model `udpPostIp`) is the RFC 768
    checksum over pseudo header, the header bytes with a zeroed checksum field, and the payload - the
    function `wireUdp4` that the `ck.w.udp4` operations compare the implementation with - whenever the
    length field of the header is the real length -/
theorem udp4_chain_is_wire (h : Udp) (src dst p : Bytes) (hs : src.length = 4) (hd : dst.length = 4)
    (hl : h.len = 8 + p.length) :
    udpPostIp h [src, dst, [0, 17], enc16 h.len] p = wireUdp4 src dst (Udp.toBytes h) p := by
  rw [udp_words h _ p (by simp [PartOk, hs, hd]), wireUdp4, Checksum.pseudo4, noZeroW_eq, udp_zeroAt,
    EpModel.Props.C08Link.Udp.toBytes_length, ← hl]
  congr 1
  apply checksum_congr
  simp [Checksum.beWords_append_even, Spec.beWords, hs, hd, u8]

/-- **UDP over IPv6** (`UdpHeader::calc_checksum_ipv6_raw`): equal to the RFC 8200 8.1 form `wireUdp6` whenever
    the length field of the header is the real length (so below 65 536: the crate sums the 16 bit field, see
    the known finding on C14 for longer payloads) -/
theorem udp6_chain_is_wire (h : Udp) (src dst p : Bytes) (hs : src.length = 16) (hd : dst.length = 16)
    (hl : h.len = 8 + p.length) (hlt : h.len < 65536) :
    udpPostIp h (split16 src ++ split16 dst ++ [[0, 17], enc16 h.len]) p = wireUdp6 src dst (Udp.toBytes h) p := by
  rw [udp_words h _ p (by simp [PartOk, split16, hs, hd]), wireUdp6, Checksum.pseudo6, noZeroW_eq, udp_zeroAt,
    EpModel.Props.C08Link.Udp.toBytes_length, ← hl]
  congr 1
  apply checksum_congr
  -- the crate's words `[0, 17], len` against the RFC's 32 bit length and `[0, 0, 0, 17]`
  simp [Checksum.beWords_append_even, split16_flatten, Spec.beWords, hs, hd,
    Lemmas.Codec.enc32_small _ hlt, u8]
  omega

/-- **TCP over IPv4** (`TcpHeader::calc_checksum_ipv4_raw`, model `tcpPostIp` with the IPv4 pseudo header
    words): the RFC 9293 checksum over pseudo header, header bytes with a zeroed checksum field, payload -/
theorem tcp4_chain_is_wire (h : Tcp) (src dst p : Bytes) (hw : h.WF) (hs : src.length = 4) (hd : dst.length = 4) :
    tcpPostIp h [src, dst, [0, 6], enc16 (h.headerLen + p.length)] p = wireTcp4 src dst (Tcp.toBytes h) p := by
  have ho := tcp_opts_even h hw
  simp only [tcpPostIp]
  rw [chain_eq2 _ _ _ (by simp [PartOk, hs, hd]) ho, wireTcp4, Checksum.pseudo4, tcp_zeroAt h,
    EpModel.Props.C08Link.Tcp.toBytes_length h hw]
  apply checksum_congr
  simp [Checksum.beWords_append_even, beWords_enc32_append, Spec.beWords, hs, hd, ho,
    Tcp.headerLen, u8]

/-- **TCP over IPv6** (`TcpHeader::calc_checksum_ipv6_raw`: 32 bit length, then `[0, 6]`): the RFC 8200 8.1
    pseudo header form `wireTcp6`, for every segment length -/
theorem tcp6_chain_is_wire (h : Tcp) (src dst p : Bytes) (hw : h.WF) (hs : src.length = 16) (hd : dst.length = 16) :
    tcpPostIp h (split16 src ++ split16 dst ++ [enc32 (h.headerLen + p.length), [0, 6]]) p
      = wireTcp6 src dst (Tcp.toBytes h) p := by
  have ho := tcp_opts_even h hw
  simp only [tcpPostIp]
  rw [chain_eq2 _ _ _ (by simp [PartOk, split16, hs, hd]) ho, wireTcp6, Checksum.pseudo6, tcp_zeroAt h,
    EpModel.Props.C08Link.Tcp.toBytes_length h hw]
  apply checksum_congr
  -- the crate's words `[0, 6]` against the RFC's `[0, 0, 0, 6]`
  simp [Checksum.beWords_append_even, beWords_enc32_append, split16_flatten,
    Spec.beWords, hs, hd, ho, Tcp.headerLen, u8]

/-- **IPv4 header checksum** (`Ipv4Header::calc_header_checksum`): RFC 791 over the header bytes with a zeroed
    checksum field, for every well-formed header (options included, whatever checksum is stored) -/
theorem ipv4_chain_is_wire (h : Ipv4Header) (wf : h.WF) : h.calcHeaderChecksum = wireIpv4 h.toBytes := by
  rw [EpModel.Lemmas.CodecNet.Ipv4.toBytes_eq h wf, wireIpv4]
  obtain ⟨_, _, _, _, _, _, _, _, h9, h10, _, _⟩ := wf
  rw [ipv4_header_words h h9 h10]
  apply checksum_congr
  simp [zeroAt, Ipv4Header.fixedPart, Checksum.beWords_append_even, Spec.beWords, enc16, h9, h10]

/-- **ICMPv4** (`Icmpv4Type::calc_checksum`, per variant the `add_2bytes` / `add_4bytes` calls of `icmp4Parts`):
    RFC 792 over the whole message - header bytes with a zeroed checksum field, then the payload -/
theorem icmp4_chain_is_wire (t : Icmp4Type) (ck : Nat) (p : Bytes) (ok : icmp4LenOk t) :
    icmp4Checksum t p = wireIcmp4 (Icmp4.toBytes ⟨t, ck⟩ ++ p) := by
  obtain ⟨hw, he1, he2, h4⟩ := icmp4_parts_words t ck ok
  rw [icmp4_words t p ok]
  unfold wireIcmp4
  rw [zeroAt_append_right _ _ _ _ h4]
  apply checksum_congr
  rw [Checksum.beWords_append_even _ _ he1, Checksum.beWords_append_even _ _ he2, hw]

/-- **ICMPv6** (`Icmpv6Type::calc_checksum`; the chain of `ck6 (.icmp6 h)`): RFC 4443 2.3 - the RFC 8200
    pseudo header with the 32 bit message length and next header 58, the header bytes with a zeroed checksum
    field, the payload; for every message length -/
theorem icmp6_chain_is_wire (h : Icmp6) (ip : Ipv6Header) (p : Bytes) (hs : ip.source.length = 16)
    (hd : ip.destination.length = 16) (ok : icmp6LenOk h.ty) :
    ck6 (.icmp6 h) ip p = wireIcmp6 ip.source ip.destination (Icmp6.toBytes h ++ p) := by
  obtain ⟨ty, ck⟩ := h
  obtain ⟨hw, he1, hlen⟩ := icmp6_parts_words ty ck ok
  rw [icmp6_words _ ip p hs hd ok, wireIcmp6, Checksum.pseudo6, zeroAt_append_right _ _ _ _ (by omega),
    List.length_append, hlen, Nat.add_comm 8]
  apply checksum_congr
  -- the crate's words `[0, 58]`, 32 bit length against the RFC's order with `[0, 0, 0, 58]`
  simp [Checksum.beWords_append_even, beWords_enc32_append, Spec.beWords, hs, hd, hlen, zeroAt_length, u8]
  rw [Checksum.beWords_append_even _ _ he1, hw]
  omega

/-- **IGMP** (`IgmpHeader::calc_checksum`, all seven message kinds): RFC 1071 over the whole message - header bytes
    with a zeroed checksum field, then the payload (RFC 2236 / 9776) -/
theorem igmp_chain_is_wire (t : IgmpType) (ck : Nat) (p : Bytes) (wf : Igmp.IgmpType.WF t) :
    igmpChecksum t p = wireIgmp (Igmp.toBytes ⟨t, ck⟩ ++ p) := by
  obtain ⟨hw, he1, he2, h4⟩ := igmp_parts_words t ck wf
  unfold igmpChecksum wireIgmp
  rw [chain_eq _ _ (igmp_parts_ok t wf), zeroAt_append_right _ _ _ _ h4]
  apply checksum_congr
  rw [Checksum.beWords_append_even _ _ he1, Checksum.beWords_append_even _ _ he2, hw]

/-- the hypotheses are met by real values: a UDP header with ports 1 / 2, length field 10 and two payload
    bytes over 10.0.0.1 → 10.0.0.2 (both sides evaluate to 0x4007 with `#eval`; the kernel does not unfold the
    well-founded recursion of the accumulators, so the number is not part of the example) -/
example : ({ sp := 1, dp := 2, len := 10, ck := 0 } : Udp).len = 8 + ([0xab, 0xcd] : Bytes).length ∧
    ([10, 0, 0, 1] : Bytes).length = 4 ∧ ([10, 0, 0, 2] : Bytes).length = 4 := by decide

example : udpPostIp { sp := 1, dp := 2, len := 10, ck := 0 } [[10, 0, 0, 1], [10, 0, 0, 2], [0, 17], enc16 10] [0xab, 0xcd]
    = wireUdp4 [10, 0, 0, 1] [10, 0, 0, 2] (Udp.toBytes { sp := 1, dp := 2, len := 10, ck := 0 }) [0xab, 0xcd] :=
  udp4_chain_is_wire _ _ _ _ rfl rfl rfl

end EpModel.Props.C09
