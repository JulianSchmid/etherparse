import EpModel.Lemmas.Io
/-
  C07 for the length-limited readers (`io::LimitedReader`, the `read_limited` functions and
  `IpHeaders::read`): a length error produced by ANY program of `read_exact` / `start_layer` calls on a
  `LimitedReader` describes the real fault.

  Model: EpModel.Io.Limited / LProg (Model/Io.lean; tied to io/limited_reader.rs and the `read_limited`
  functions by the `io.limited`, `io.read.*` operations of C16 and the `impl.dec.readlim_*` operations of
  C06/C07).  The statements are about every program `p : LProg α` (not only the five of the crate), every
  inner reader, every limit.

  `LInv base total p0 l`: the state of a reader that was created as
  `LimitedReader::new(inner, total, src, base, _)` when `inner` had handed out `p0` bytes.
-/
namespace EpModel.Props.C07
open EpModel EpModel.Io

/-- invariant of a `LimitedReader` between calls -/
structure LInv (base total p0 : Nat) (src : String) (l : Limited) : Prop where
  notPanicked : l.panicked = false
  within : l.readLen ≤ l.maxLen
  /-- the bytes still allowed to the current layer end where the limit ends -/
  limitEnd : l.layerOffset + l.maxLen = base + total
  /-- the start offset of the current layer plus what was read of it = everything the reader delivered -/
  truePos : l.layerOffset + l.readLen = base + (l.inner.pos - p0)
  posMono : p0 ≤ l.inner.pos
  offMono : base ≤ l.layerOffset
  src : l.lenSource = src

theorem linv_new (inner : Reader) (maxLen : Nat) (src : String) (off : Nat) (layer : String) :
    LInv off maxLen inner.pos src (Limited.new inner maxLen src off layer) := by
  constructor <;> simp [Limited.new]

theorem linv_startLayer {base total p0 : Nat} {src : String} {l : Limited} (layer : String)
    (h : LInv base total p0 src l) : LInv base total p0 src (l.startLayer layer) ∧ (l.startLayer layer).layer = layer := by
  have hw := h.within
  unfold Limited.startLayer
  rw [if_pos hw]
  refine ⟨⟨h.notPanicked, by simp, ?_, ?_, h.posMono, ?_, h.src⟩, rfl⟩
  · have := h.limitEnd; simp only; omega
  · have := h.truePos; simp only; omega
  · have := h.offMono; simp only; omega

theorem reader_readExact_ok {r r' : Reader} {n : Nat} {b : Bytes} (h : r.readExact n = (r', .ok b)) :
    r'.pos = r.pos + n :=
  (Lemmas.Io.readExact_ok_inv h).2.1

/-- one `read_exact` on a reader in a good state: either it succeeds and the state stays good, or it is an
    I/O error of the inner reader, or it is a length error that says exactly what the state says -/
theorem linv_readExact {base total p0 : Nat} {src : String} {l : Limited} (n : Nat)
    (h : LInv base total p0 src l) :
    match l.readExact n with
    | (l', .ok _) => LInv base total p0 src l' ∧ l'.layer = l.layer
    | (_, .error (.io _)) => True
    | (l', .error (.len e)) =>
        l' = l ∧ e.src = src ∧ e.layer = l.layer ∧ e.off = l.layerOffset ∧ e.len = l.maxLen ∧
          e.required = l.readLen + n ∧ e.len < e.required
    | (_, .error (.other _)) => False
    | (_, .error .panic) => False := by
  have hw := h.within
  unfold Limited.readExact
  rw [if_neg (by omega)]
  by_cases hlim : l.maxLen - l.readLen < n
  · rw [if_pos hlim]
    exact ⟨rfl, h.src, rfl, rfl, rfl, rfl, by simp only; omega⟩
  · rw [if_neg hlim]
    cases hr : l.inner.readExact n with
    | mk r' res =>
      cases res with
      | error e => simp
      | ok b =>
        have hp := reader_readExact_ok hr
        refine ⟨⟨h.notPanicked, by simp only; omega, h.limitEnd, ?_, ?_, h.offMono, h.src⟩, rfl⟩
        · have := h.truePos; have := h.posMono; simp only; omega
        · have := h.posMono; simp only; omega

/-- what is true of the length error of a run, in terms of the state `l'` the reader is left in
    (`l'.layer` is the layer named by the last `start_layer` executed, the reader's own layer if none was) -/
structure LimitedDescribes (base total p0 : Nat) (src : String) (l' : Limited) (e : LenErr) : Prop where
  /-- the length source is the one the reader was created with -/
  src : e.src = src
  /-- the layer is the one most recently started -/
  layer : e.layer = l'.layer
  /-- its offset is `base` + the bytes the inner reader delivered before the layer was started … -/
  off : e.off + l'.readLen = base + (l'.inner.pos - p0)
  /-- … and `len` is what the limit leaves to the layer from there: the layer ends where the limit ends -/
  len : e.off + e.len = base + total
  /-- missing data: more bytes are required than available; the layer had already got `readLen` of them -/
  missing : e.len < e.required ∧ l'.readLen < e.required
  /-- the layer does not start in front of the reader's base offset -/
  offMono : base ≤ e.off

/-- **every** program on a limited reader: a length error describes the fault; a run never panics and never
    leaves a good state otherwise. -/
theorem run_describes {α : Type} (p : LProg α) {base total p0 : Nat} {src : String} (l : Limited)
    (h : LInv base total p0 src l) :
    match p.run l with
    | (l', .ok _) => LInv base total p0 src l'
    | (l', .error (.len e)) => LimitedDescribes base total p0 src l' e
    | (_, .error .panic) => False
    | _ => True := by
  induction p generalizing l with
  | done r =>
    cases r with
    | ok a => simpa [LProg.run] using h
    | error s => simp [LProg.run]
  | read n k ih =>
    have hr := linv_readExact n h
    unfold LProg.run
    cases hx : l.readExact n with
    | mk l' res =>
      rw [hx] at hr
      cases res with
      | ok b => exact ih b l' hr.1
      | error e =>
        cases e with
        | io e => simp
        | other s => exact hr.elim
        | panic => exact hr.elim
        | len e =>
          obtain ⟨hl, h1, h2, h3, h4, h5, h6⟩ := hr
          subst hl
          simp only
          refine ⟨h1, h2, ?_, ?_, ⟨h6, ?_⟩, ?_⟩
          · rw [h3]; exact h.truePos
          · rw [h3, h4]; exact h.limitEnd
          · rw [h5]; have := h.within; omega
          · rw [h3]; exact h.offMono
  | start layer k ih =>
    have hs := (linv_startLayer layer h).1
    unfold LProg.run
    simp only [hs.notPanicked]
    exact ih (l.startLayer layer) hs

/-- the statement for a reader fresh from `LimitedReader::new(inner, max_len, src, offset, layer)` -/
theorem limited_len_error_describes_fault {α : Type} (p : LProg α) (inner : Reader) (maxLen : Nat) (src : String)
    (off : Nat) (layer : String) (l' : Limited) (e : LenErr)
    (h : p.run (Limited.new inner maxLen src off layer) = (l', .error (.len e))) :
    e.src = src ∧ e.layer = l'.layer ∧
      e.off + l'.readLen = off + (l'.inner.pos - inner.pos) ∧
      e.off + e.len = off + maxLen ∧ e.len < e.required ∧ off ≤ e.off := by
  have hd := run_describes p (Limited.new inner maxLen src off layer) (linv_new inner maxLen src off layer)
  rw [h] at hd
  exact ⟨hd.src, hd.layer, hd.off, hd.len, hd.missing.1, hd.offMono⟩

/-- the premise is met by real runs: a fragment header read under a limit of 7 bytes, and a hop-by-hop header
    of 16 bytes behind 8 bytes already read of which the limit leaves 12 -/
example : LReads.ipv6frag.run (Limited.new ⟨[44, 0, 0, 0, 0, 0, 0, 1, 9, 9], 0, none⟩ 7 "Ipv6HeaderPayloadLen" 40 "Ipv6Header")
    = ({ inner := ⟨[44, 0, 0, 0, 0, 0, 0, 1, 9, 9], 0, none⟩, maxLen := 7, lenSource := "Ipv6HeaderPayloadLen",
         layer := "Ipv6FragHeader", layerOffset := 40, readLen := 0, panicked := false },
       .error (.len { required := 8, len := 7, src := "Ipv6HeaderPayloadLen", layer := "Ipv6FragHeader", off := 40 })) := by
  rfl

example :
    ((LReads.ipv6frag.bind fun _ => LReads.rawext).run
      (Limited.new ⟨[0, 0, 0, 0, 0, 0, 0, 1, 59, 1, 0, 0, 0, 0, 0, 0, 0, 0, 0, 0, 0, 0, 0, 0], 0, none⟩ 20
        "Ipv6HeaderPayloadLen" 40 "Ipv6Header")).2
      = .error (.len { required := 16, len := 12, src := "Ipv6HeaderPayloadLen", layer := "Ipv6ExtHeader", off := 48 }) := by
  rfl

/-- a run through `liftErr` (the reader handed back by `take_reader`) -/
theorem lift_describes {α : Type} (p : LProg α) (inner : Reader) (maxLen : Nat) (src : String) (off : Nat)
    (layer : String) (r3 : Reader) (e : LenErr)
    (h : liftErr (p.run (Limited.new inner maxLen src off layer)) = (r3, .error (.len e))) :
    e.src = src ∧ e.off + e.len = off + maxLen ∧ e.len < e.required ∧ off ≤ e.off := by
  have hd := run_describes p (Limited.new inner maxLen src off layer) (linv_new inner maxLen src off layer)
  generalize p.run (Limited.new inner maxLen src off layer) = res at h hd
  obtain ⟨l'', rr⟩ := res
  simp only [liftErr] at h
  by_cases hp : l''.panicked = true
  · rw [if_pos hp] at h; cases h
  · rw [if_neg hp] at h
    cases h
    simp only at hd
    exact ⟨hd.src, hd.len, hd.missing.1, hd.offMono⟩

/-- `IpHeaders::read` (model `ipHeadersRead`): a length error either is the rule "IPv4 total length smaller
    than the header" (layer `Ipv4Packet` at offset 0, `len` = the total length, `required_len` = the header
    length), or comes from the extension headers behind the header: then it names the IP length field as
    the source, the layer starts behind the header and ends exactly where that field says the packet ends
    (`off + len` = total length, or 40 + payload length), and more is required than is there. -/
theorem ip_headers_read_len_error (r r' : Reader) (e : LenErr)
    (h : ipHeadersRead r = (r', .error (.len e))) :
    (e.layer = "Ipv4Packet" ∧ e.src = "Ipv4HeaderTotalLen" ∧ e.off = 0 ∧ e.len < e.required ∧ 20 ≤ e.required) ∨
    (∃ hdr : Bytes, e.src = "Ipv4HeaderTotalLen" ∧ 20 ≤ e.off ∧ e.off + e.len = be16 hdr 2 ∧ e.len < e.required) ∨
    (∃ hdr : Bytes, e.src = "Ipv6HeaderPayloadLen" ∧ 40 ≤ e.off ∧ e.off + e.len = 40 + be16 hdr 4 ∧
      e.len < e.required) := by
  unfold ipHeadersRead at h
  split at h
  · cases h
  · next r1 first _ =>
    cases hplan : ipHeadersPlan first with
    | fail s => rw [hplan] at h; cases h
    | v4 rest =>
      rw [hplan] at h
      simp only at h
      have hrest : 19 ≤ rest := by
        unfold ipHeadersPlan at hplan
        simp only at hplan
        split at hplan
        · split at hplan
          · cases hplan
          · cases hplan; omega
        · split at hplan <;> cases hplan
      split at h
      · cases h
      · next r2 more _ =>
        split at h
        · next hlt =>
          cases h
          exact Or.inl ⟨rfl, rfl, rfl, hlt, by simp only; omega⟩
        · next hge =>
          split at h
          · next r3 e' hrun =>
            cases h
            have hd := lift_describes _ _ _ _ _ _ _ _ hrun
            refine Or.inr (Or.inl ⟨first ++ more, hd.1, by have := hd.2.2.2; omega, ?_, hd.2.2.1⟩)
            have := hd.2.1; omega
          · cases h
    | v6 =>
      rw [hplan] at h
      simp only at h
      split at h
      · cases h
      · next r2 more _ =>
        split at h
        · next r3 e' hrun =>
          cases h
          have hd := lift_describes _ _ _ _ _ _ _ _ hrun
          exact Or.inr (Or.inr ⟨first ++ more, hd.1, hd.2.2.2, hd.2.1, hd.2.2.1⟩)
        · cases h

end EpModel.Props.C07
