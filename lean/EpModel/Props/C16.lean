import EpModel.Lemmas.Io
import EpModel.Lemmas.IoSkip
import EpModel.Lemmas.IoSkipSeek
import EpModel.Model.IoBuild
import EpModel.Model.BuilderIo
import EpModel.Props.C08Link
import EpModel.Props.C08Net
import EpModel.Props.C10
/-
  C16 — I/O faults and short buffers surface as errors without partial garbage.

  Models: EpModel/Model/Io.lean (failing writer, serialisers as sequences of `write_all` calls,
  slice writers, failing reader, `read` functions as read programs, `LimitedReader`),
  EpModel/Model/IoSkip.lean (`Ipv6Header::skip_header_extension`, `skip_all_header_extensions` on a
  Read + Seek reader, plain and with a failing `seek`), EpModel/Model/Builder.lean (every
  `PacketBuilder` path); the complete encodings `toBytes` are those of the C08 codec models.

  In the order of the file: a writer failing at byte `k` has received exactly the first `k` bytes of
  the complete output and returns the injected error iff the output does not fit, for every
  `write` / serialiser; the slice writers give `Space(required)` with the true total and leave a too
  short buffer untouched; a reader failing at byte `k` never hands out more than `k` bytes and every
  `read` returns the injected error iff it needs more; `LimitedReader` never underflows and never
  pulls more than its limit, under any adaptive sequence of calls; skipping extension headers is
  `Ok` iff every byte of the skipped headers is there, and a failing `seek` is returned exactly when
  it comes first in program order; the same for every path of the general builder.
-/
namespace EpModel.Props.C16
open EpModel EpModel.Io EpModel.Lemmas.Io

theorem writeAll_fit (pre b : Bytes) (k : Nat) (h : b.length ≤ k) :
    ({ budget := some k, out := pre } : Writer).writeAll b =
      ({ budget := some (k - b.length), out := pre ++ b }, .ok ()) := by
  simp [Writer.writeAll, h]

theorem writeAll_nofit (pre b : Bytes) (k : Nat) (h : k < b.length) :
    ({ budget := some k, out := pre } : Writer).writeAll b =
      ({ budget := some 0, out := pre ++ b.take k }, .error .injected) := by
  have : ¬ b.length ≤ k := by omega
  simp [Writer.writeAll, this]

theorem writeParts_failing (parts : List Bytes) (k : Nat) (pre : Bytes) :
    writeParts parts { budget := some k, out := pre } =
      if parts.flatten.length ≤ k then
        ({ budget := some (k - parts.flatten.length), out := pre ++ parts.flatten }, .ok ())
      else ({ budget := some 0, out := pre ++ parts.flatten.take k }, .error .injected) := by
  induction parts generalizing k pre with
  | nil => simp [writeParts]
  | cons p ps ih =>
    by_cases h : p.length ≤ k
    · simp only [writeParts, writeAll_fit pre p k h, ih]
      simp only [List.flatten_cons, List.length_append]
      by_cases h2 : ps.flatten.length ≤ k - p.length
      · have h3 : p.length + ps.flatten.length ≤ k := by omega
        simp only [h2, h3, if_true, List.append_assoc]
        congr 3; omega
      · have h3 : ¬ p.length + ps.flatten.length ≤ k := by omega
        simp only [h2, h3, if_false, List.append_assoc, List.take_append,
          List.take_of_length_le h]
    · have h' : k < p.length := by omega
      simp only [writeParts, writeAll_nofit pre p k h']
      have h3 : ¬ (p :: ps).flatten.length ≤ k := by
        simp only [List.flatten_cons, List.length_append]; omega
      rw [if_neg h3]
      simp only [List.flatten_cons, List.take_append]
      have : k - p.length = 0 := by omega
      simp [this]

/-- For every sequence of `write_all` calls and every failure position `k`:
    what the writer received is exactly the first `k` bytes of the complete output (a prefix; all
    of it when it fits), the result is `Ok` iff the complete output fits, and otherwise it is the
    injected I/O error. -/
theorem failing_writer (parts : List Bytes) (k : Nat) :
    (writeParts parts (Writer.failingAt k)).1.out = parts.flatten.take k ∧
    ((writeParts parts (Writer.failingAt k)).2 = .ok () ↔ parts.flatten.length ≤ k) ∧
    (k < parts.flatten.length →
      (writeParts parts (Writer.failingAt k)).2 = .error .injected) := by
  unfold Writer.failingAt
  rw [writeParts_failing]
  generalize parts.flatten = f
  by_cases h : f.length ≤ k
  · rw [if_pos h]; simp [List.take_of_length_le h, h]
  · rw [if_neg h]; simp [h]

/-- the same for a serialiser with a final content error: below the complete length the result is
    the injected I/O error (never `Ok`, never the content error), from the complete length on it
    is the serialiser's own result; the bytes received are always the first `k` of the complete
    output. -/
theorem failing_writer_ser {ε : Type} (s : Ser ε) (k : Nat) :
    (s.run (Writer.failingAt k)).1.out = s.full.take k ∧
    (k < s.full.length → (s.run (Writer.failingAt k)).2 = .error (.io .injected)) ∧
    (s.full.length ≤ k →
      (s.run (Writer.failingAt k)).2 =
        (match s.fin with
         | .ok () => .ok ()
         | .error c => .error (.content c))) := by
  unfold Ser.run Ser.full Writer.failingAt
  rw [writeParts_failing]
  generalize s.parts.flatten = f
  by_cases h : f.length ≤ k
  · rw [if_pos h]
    exact ⟨by simp [List.take_of_length_le h], fun hc => absurd hc (by omega), fun _ => rfl⟩
  · rw [if_neg h]
    exact ⟨by simp, fun _ => rfl, fun hc => absurd hc h⟩

/-- an unlimited writer receives the complete output and never fails. -/
theorem unlimited_writer (parts : List Bytes) (pre : Bytes) :
    writeParts parts { budget := none, out := pre } =
      ({ budget := none, out := pre ++ parts.flatten }, .ok ()) := by
  induction parts generalizing pre with
  | nil => simp [writeParts]
  | cons p ps ih => simp [writeParts, Writer.writeAll, ih]

section parts_flatten
open EpModel.Codec EpModel.CodecNet

theorem parts_flatten_eth2 (h : Eth2) : (Parts.eth2 h).flatten = h.toBytes := by simp [Parts.eth2]
theorem parts_flatten_vlan (h : Vlan) : (Parts.vlan h).flatten = h.toBytes := by simp [Parts.vlan]
theorem parts_flatten_sll (h : Sll) : (Parts.sll h).flatten = h.toBytes := by simp [Parts.sll]
theorem parts_flatten_macsec (h : Macsec) : (Parts.macsec h).flatten = h.toBytes := by
  simp [Parts.macsec]
theorem parts_flatten_arp (h : Arp) : (Parts.arp h).flatten = h.toBytes := by simp [Parts.arp]
theorem parts_flatten_ipv6 (h : Ipv6Header) : (Parts.ipv6 h).flatten = h.toBytes := by
  simp [Parts.ipv6]
theorem parts_flatten_ipv6frag (h : Ipv6FragmentHeader) :
    (Parts.ipv6frag h).flatten = h.toBytes := by simp [Parts.ipv6frag]
theorem parts_flatten_udp (h : Udp) : (Parts.udp h).flatten = h.toBytes := by simp [Parts.udp]
theorem parts_flatten_icmpv4 (h : Icmp4) : (Parts.icmpv4 h).flatten = h.toBytes := by
  simp [Parts.icmpv4]
theorem parts_flatten_icmpv6 (h : Icmp6) : (Parts.icmpv6 h).flatten = h.toBytes := by
  simp [Parts.icmpv6]

/-- `Ipv4Header::write_raw`: 20 fixed bytes + options = `to_bytes()`. -/
theorem parts_flatten_ipv4raw (h : Ipv4Header) (wf : h.WF) :
    (Parts.ipv4raw h).flatten = h.toBytes := by
  rw [(C08Net.Ipv4.encoders_agree h wf).1]
  simp [Parts.ipv4raw, Parts.ipv4Internal, Ipv4Header.writeRaw, Ipv4Header.writeInternal]

/-- `Ipv4Header::write`: `to_bytes()` of the header with the checksum field recomputed. -/
theorem parts_flatten_ipv4 (h : Ipv4Header) (wf : h.WF) :
    (Parts.ipv4 h).flatten =
      ({ h with headerChecksum := h.calcHeaderChecksum } : Ipv4Header).toBytes ∧
    (h.ChecksumOk → (Parts.ipv4 h).flatten = h.toBytes) := by
  have e : (Parts.ipv4 h).flatten = h.writeOut := by
    simp [Parts.ipv4, Parts.ipv4Internal, Ipv4Header.writeOut, Ipv4Header.writeInternal]
  refine ⟨?_, fun hc => ?_⟩
  · rw [e, (C08Net.Ipv4.encoders_agree h wf).2.2.1, (C08Net.Ipv4.encoders_agree _ (Lemmas.CodecNet.Ipv4.wf_recomputed h wf)).1]
  · rw [e]; exact ((C08Net.Ipv4.encoders_agree h wf).2.2.2 hc).symm

/-- `IpAuthHeader::write`: 12 fixed bytes + ICV = `to_bytes()`. -/
theorem parts_flatten_auth (h : IpAuthHeader) (wf : h.WF) : (Parts.auth h).flatten = h.toBytes := by
  rw [(C08Net.Auth.encoders_agree h wf).1]
  simp [Parts.auth, IpAuthHeader.writeOut]

/-- `Ipv6RawExtHeader::write`: 2 bytes + payload = `to_bytes()`. -/
theorem parts_flatten_rawext (h : Ipv6RawExtHeader) : (Parts.rawext h).flatten = h.toBytes := by
  simp [Parts.rawext, Ipv6RawExtHeader.toBytes]

/-- `TcpHeader::write`: 20 fixed bytes + options (if any) = `to_bytes()`. -/
theorem parts_flatten_tcp (h : Tcp) (wf : h.WF) : (Parts.tcp h).flatten = h.toBytes := by
  rw [(C08Link.Tcp.encoders_agree h wf).1]
  unfold Parts.tcp Tcp.writeOut
  split <;> simp

/-- `Ipv4Extensions::write` for a consistent value: the parts are what C08's `writeOut` gives,
    and there is no content error. -/
theorem parts_flatten_ipv4exts (e : Ipv4Extensions) (start : Nat) (wf : e.WF start) :
    e.writeOut start = .ok (Parts.ipv4exts e start).full ∧ (Parts.ipv4exts e start).fin = .ok () := by
  obtain ⟨auth⟩ := e
  cases auth with
  | none => simp [Parts.ipv4exts, Ipv4Extensions.writeOut, Ser.full]
  | some h =>
    obtain ⟨hs, _⟩ := wf
    simp [Parts.ipv4exts, Ipv4Extensions.writeOut, Ser.full, hs]

/-- in general (consistent or not) `Ipv4Extensions::write` agrees with C08's `writeOut`. -/
theorem ipv4exts_ser_eq (e : Ipv4Extensions) (start : Nat) :
    (match (Parts.ipv4exts e start).fin with
     | .ok () => Except.ok (Parts.ipv4exts e start).full
     | .error c => .error c) = e.writeOut start := by
  obtain ⟨auth⟩ := e
  cases auth with
  | none => simp [Parts.ipv4exts, Ipv4Extensions.writeOut, Ser.full]
  | some h =>
    by_cases hs : ipNumberAuth = start <;>
      simp [Parts.ipv4exts, Ipv4Extensions.writeOut, Ser.full, hs]

/-- `IpHeaders::write` (IPv4): header with recomputed checksum, then the extension bytes. -/
theorem parts_flatten_ipheaders_v4 (h : Ipv4Header) (e : Ipv4Extensions) (wf : h.WF)
    (wfe : e.WF h.protocol) :
    e.writeOut h.protocol = .ok ((IpHdrs.v4 h e).ser.full.drop h.headerLen) ∧
    (IpHdrs.v4 h e).ser.full.take h.headerLen =
      ({ h with headerChecksum := h.calcHeaderChecksum } : Ipv4Header).toBytes ∧
    (match (IpHdrs.v4 h e).ser.fin with | .ok () => True | .error _ => False) := by
  have hp := (parts_flatten_ipv4 h wf).1
  have hx := parts_flatten_ipv4exts e h.protocol wfe
  have hl : (Parts.ipv4 h).flatten.length = h.headerLen := by
    rw [hp]; exact (C08Net.Ipv4.encoders_agree _ (Lemmas.CodecNet.Ipv4.wf_recomputed h wf)).2.1
  simp only [IpHdrs.ser, Ser.full, List.flatten_append]
  refine ⟨?_, ?_, ?_⟩
  · rw [← hl, List.drop_left]; exact hx.1
  · rw [← hl, List.take_left, hp]
  · rw [hx.2]; simp [Except.mapError]

end parts_flatten

/-- `write_to_slice` of a fixed-length header (one whose encoding has the announced
    length): a slice shorter than the encoding gives `Space` with exactly the length of the
    complete encoding and leaves the slice untouched; otherwise the complete encoding is in front,
    every byte behind it is untouched and the slice keeps its length (nothing is written outside
    it). -/
theorem slice_writer (len : Nat) (layer : String) (bytes buf : Bytes) (hb : bytes.length = len) :
    (buf.length < len →
      headerWriteToSlice len layer bytes buf =
        (buf, .error { required := bytes.length, len := buf.length, layer := layer, off := 0 })) ∧
    (len ≤ buf.length →
      (headerWriteToSlice len layer bytes buf).2 = .ok (buf.length - bytes.length) ∧
      (headerWriteToSlice len layer bytes buf).1.take len = bytes ∧
      (headerWriteToSlice len layer bytes buf).1.drop len = buf.drop len ∧
      (headerWriteToSlice len layer bytes buf).1.length = buf.length) := by
  obtain ⟨h1, h2⟩ := headerWriteToSlice_spec len layer bytes buf hb
  refine ⟨h1, fun h => ?_⟩
  obtain ⟨e, l, r⟩ := h2 h
  exact ⟨by rw [r, hb], by rw [e, List.take_left' hb], by rw [e, List.drop_left' hb], l⟩

theorem slice_writer_eth2 (h : Codec.Eth2) (wf : h.WF) (buf : Bytes) :
    (buf.length < 14 →
      eth2WriteToSlice h buf =
        (buf, .error { required := h.toBytes.length, len := buf.length,
                       layer := "Ethernet2Header", off := 0 })) ∧
    (14 ≤ buf.length →
      (eth2WriteToSlice h buf).1 = h.toBytes ++ buf.drop 14 ∧
      (eth2WriteToSlice h buf).1.length = buf.length ∧
      (eth2WriteToSlice h buf).2 = .ok (buf.length - 14)) :=
  headerWriteToSlice_spec 14 "Ethernet2Header" h.toBytes buf (C08Link.Eth2.toBytes_length h wf)

theorem slice_writer_sll (h : Codec.Sll) (wf : h.WF) (buf : Bytes) :
    (buf.length < 16 →
      sllWriteToSlice h buf =
        (buf, .error { required := h.toBytes.length, len := buf.length,
                       layer := "LinuxSllHeader", off := 0 })) ∧
    (16 ≤ buf.length →
      (sllWriteToSlice h buf).1 = h.toBytes ++ buf.drop 16 ∧
      (sllWriteToSlice h buf).1.length = buf.length ∧
      (sllWriteToSlice h buf).2 = .ok (buf.length - 16)) :=
  headerWriteToSlice_spec 16 "LinuxSllHeader" h.toBytes buf (C08Link.Sll.toBytes_length h wf)

/-- **`SliceCoreWrite`** under any sequence of `write_all` calls: the slice keeps its length
    (nothing outside it is written), the bytes in front of the start position and behind what was
    written are untouched, what was written is a prefix of the complete output; `Ok` means all of
    it was written; an error reports the slice length and a required length that is beyond the
    slice and not more than what would really be required. -/
theorem slice_core_writer (parts : List Bytes) (s : SliceWriter) (hp : s.pos ≤ s.buf.length) :
    ∃ m, m ≤ parts.flatten.length ∧
      (sliceParts parts s).1.buf =
        s.buf.take s.pos ++ parts.flatten.take m ++ s.buf.drop (s.pos + m) ∧
      (sliceParts parts s).1.buf.length = s.buf.length ∧
      (match (sliceParts parts s).2 with
       | .ok () => m = parts.flatten.length
       | .error e => e.len = s.buf.length ∧ s.buf.length < e.required ∧
                     e.required ≤ s.pos + parts.flatten.length) := by
  obtain ⟨buf, pos⟩ := s
  dsimp only at hp ⊢
  have ha : (buf.take pos).length = pos := by rw [List.length_take]; exact Nat.min_eq_left hp
  obtain ⟨w, hw, hl, hb, hr⟩ := sliceParts_append parts (buf.take pos) (buf.drop pos)
  rw [List.take_append_drop, ha] at hb hr
  rw [List.length_drop] at hl
  refine ⟨w.length, hw.length_le, ?_, ?_, ?_⟩
  · rw [hb, ← List.prefix_iff_eq_take.1 hw, List.drop_drop]
  · rw [hb]
    simp only [List.length_append, ha, List.length_drop]
    omega
  · generalize (sliceParts parts { buf := buf, pos := pos }).2 = res at hr ⊢
    cases res with
    | ok u => rw [hr]
    | error e => exact hr

/-- enough room ⇒ every part is written and the call sequence succeeds. -/
theorem slice_core_writer_fits (parts : List Bytes) (buf : Bytes)
    (h : parts.flatten.length ≤ buf.length) :
    sliceParts parts { buf := buf, pos := 0 } =
      ({ buf := parts.flatten ++ buf.drop parts.flatten.length, pos := parts.flatten.length },
       .ok ()) := by
  obtain ⟨w, _, _, hb, hr⟩ := sliceParts_append parts [] buf
  simp only [List.nil_append, List.length_nil] at hb hr
  cases hres : (sliceParts parts { buf := buf, pos := 0 }).2 with
  | error e =>
    rw [hres] at hr
    omega
  | ok u =>
    rw [hres] at hr
    rw [← hr, ← hres, ← hb]

/-- **builder, slice path** (`final_write_to_slice`), for a serialiser whose announced size is
    the true total of its parts: a buffer shorter than that gives `Space(required)` with
    `required` = the length of the complete packet and leaves the buffer untouched; otherwise the
    complete packet is in front, nothing behind `required` is touched, the buffer keeps its
    length, and the call returns `required` (or the serialiser's content error). -/
theorem builder_slice {ε : Type} (s : Ser ε) (required : Nat) (buf : Bytes)
    (hreq : s.full.length = required) :
    (buf.length < required →
      buildWriteToSlice s required buf = (buf, .error (.space s.full.length))) ∧
    (required ≤ buf.length →
      (buildWriteToSlice s required buf).1 = s.full ++ buf.drop required ∧
      (buildWriteToSlice s required buf).1.length = buf.length ∧
      (buildWriteToSlice s required buf).2 =
        (match s.fin with
         | .ok () => .ok required
         | .error c => .error (.content c))) := by
  unfold buildWriteToSlice
  refine ⟨fun h => by simp [h, hreq], fun h => ?_⟩
  have hn : ¬ buf.length < required := by omega
  have hfit : s.parts.flatten.length ≤ (buf.take required).length := by
    unfold Ser.full at hreq
    rw [List.length_take]; omega
  simp only [hn, if_false, slice_core_writer_fits s.parts (buf.take required) hfit]
  unfold Ser.full at hreq ⊢
  have hd : (buf.take required).drop s.parts.flatten.length = [] := by
    rw [hreq]; simp
  refine ⟨by rw [hd, List.append_nil], ?_, rfl⟩
  rw [hd, List.append_nil, List.length_append, List.length_drop]; omega

section builder
open EpModel.Io.Build

/-- address lengths of the builder's arguments (`[u8;6]`, `[u8;4]`, `[u8;16]`); IPv4 / IPv6 paths. -/
def PacketWF (p : Packet) : Prop :=
  (match p.link with | .none => True | .eth2 s d => s.length = 6 ∧ d.length = 6) ∧
  (match p.net with
   | .v4 s d _ => s.length = 4 ∧ d.length = 4
   | .v6 s d _ => s.length = 16 ∧ d.length = 16
   | .arp _ => False)

theorem linkParts_len (p : Packet) (wf : PacketWF p) :
    (linkParts p).flatten.length = linkLen p.link := by
  obtain ⟨h1, _⟩ := wf
  unfold linkParts
  cases hl : p.link with
  | none => simp [linkLen]
  | eth2 s d =>
    rw [hl] at h1
    simp [Codec.Eth2.toBytes, h1.1, h1.2, linkLen]

theorem vlanParts_len (p : Packet) :
    (vlanParts p).flatten.length = vlanLen p.vlan := by
  unfold vlanParts
  cases p.vlan <;> simp [C08Link.Vlan.toBytes_length, vlanLen]

theorem tpBytes_len (tp : Tp) (v6 : Bool) (s d pl t : Bytes) (h : tpBytes tp v6 s d pl = some t) :
    t.length = tpHeaderLen tp := by
  cases tp with
  | none => simp [tpBytes] at h; subst h; rfl
  | udp sp dp => simp [tpBytes] at h; subst h; simp [C08Link.Udp.toBytes_length, tpHeaderLen]
  | tcp sp dp seq win =>
    simp only [tpBytes, Option.some.injEq] at h; subst h
    rw [C08Link.Tcp.toBytes_eq]
    simp [C08Link.Tcp.fixed_length, tcpDefault, tpHeaderLen]
  | icmp4echo id seq => simp [tpBytes] at h; subst h; simp [tpHeaderLen]
  | icmp6echo id seq =>
    cases v6 with
    | false => simp [tpBytes] at h
    | true => simp [tpBytes] at h; subst h; simp [tpHeaderLen]

theorem tpPart_len (tp : Tp) (t : Bytes) (h : t.length = tpHeaderLen tp) :
    (tpParts tp t).flatten.length = tpHeaderLen tp := by
  cases tp <;> simp [tpParts, h] <;> rfl

theorem ipv4_len (h : CodecNet.Ipv4Header) (hs : h.source.length = 4) (hd : h.destination.length = 4)
    (ho : h.options = []) : h.toBytes.length = 20 := by
  simp [CodecNet.Ipv4Header.toBytes, CodecNet.Ipv4Header.headerLen, CodecNet.Ipv4Header.optBuf, CodecNet.zeros, hs, hd, ho]

theorem ipv6_len (h : CodecNet.Ipv6Header) (hs : h.source.length = 16) (hd : h.destination.length = 16) :
    h.toBytes.length = 40 := by
  simp [CodecNet.Ipv6Header.toBytes, hs, hd]

/-- the size `final_size` announces is the true total of the parts, for every IPv4 / IPv6 packet
    the builder serialises without a content error. -/
theorem builder_final_size (p : Packet) (wf : PacketWF p) (hok : (ser p).fin = .ok ()) :
    (ser p).full.length = finalSize p := by
  have hl := linkParts_len p wf
  have hv := vlanParts_len p
  obtain ⟨_, wn⟩ := wf
  obtain ⟨link, vlan, net, tp, payload⟩ := p
  cases net with
  | arp a => exact absurd wn id
  | v4 s d ttl =>
    simp only [ser, Ser.full, finalSize, netLen] at hok hl hv ⊢
    split at hok
    · simp at hok
    · rename_i hval
      rw [if_neg hval]
      cases ht : tpBytes tp false s d payload with
      | none => rw [ht] at hok; simp at hok
      | some t =>
        simp only [List.flatten_append, List.length_append, hl, hv, List.flatten_cons,
          List.flatten_nil, List.append_nil]
        have h3 := tpPart_len tp t (tpBytes_len _ _ _ _ _ _ ht)
        rw [ipv4_len _ wn.1 wn.2 rfl]
        omega
  | v6 s d hop =>
    simp only [ser, Ser.full, finalSize, netLen] at hok hl hv ⊢
    split at hok
    · simp at hok
    · rename_i hval
      rw [if_neg hval]
      cases ht : tpBytes tp true s d payload with
      | none => rw [ht] at hok; simp at hok
      | some t =>
        simp only [List.flatten_append, List.length_append, hl, hv, List.flatten_cons,
          List.flatten_nil, List.append_nil]
        have h3 := tpPart_len tp t (tpBytes_len _ _ _ _ _ _ ht)
        rw [ipv6_len _ wn.1 wn.2]
        omega

/-- **builder, slice path**, for the modelled IPv4 / IPv6 packets: a buffer shorter than the
    complete packet gives `Space(required)` with `required` = the length of the complete packet and
    is left untouched; otherwise the complete packet is in front, the rest untouched, and the call
    returns the length of the complete packet. -/
theorem builder_slice_packet (p : Packet) (wf : PacketWF p) (hok : (ser p).fin = .ok ()) (buf : Bytes) :
    (buf.length < (ser p).full.length →
      Build.writeToSlice p buf = (buf, .error (.space (ser p).full.length))) ∧
    ((ser p).full.length ≤ buf.length →
      (Build.writeToSlice p buf).1 = (ser p).full ++ buf.drop (ser p).full.length ∧
      (Build.writeToSlice p buf).1.length = buf.length ∧
      (Build.writeToSlice p buf).2 = .ok (ser p).full.length) := by
  have hs := builder_final_size p wf hok
  have := builder_slice (ser p) (finalSize p) buf hs
  unfold Build.writeToSlice
  rw [hok] at this
  rw [← hs] at this
  rw [← hs]
  exact this

end builder

/-- For every read program `p` (every `read` function is one), every data
    and every failure position `k`, compared with the same read over a reader that never fails:
    * never more than `k` bytes are consumed, and the reader never moves backwards;
    * if the complete read consumes more than `k` bytes, the result is the injected I/O error —
      never `Ok`, never a content error — and exactly `k` bytes were consumed;
    * otherwise the result (value or content error) and the consumption are those of the complete
      read. -/
theorem failing_reader {α : Type} (p : RProg α) (data : Bytes) (k : Nat) :
    (p.run { data := data, pos := 0, failAt := some k }).1.pos ≤ k ∧
    (k < (p.run { data := data, pos := 0, failAt := none }).1.pos →
      (p.run { data := data, pos := 0, failAt := some k }).2 = .error (.io .injected) ∧
      (p.run { data := data, pos := 0, failAt := some k }).1.pos = k) ∧
    ((p.run { data := data, pos := 0, failAt := none }).1.pos ≤ k →
      (∀ e, (p.run { data := data, pos := 0, failAt := none }).2 ≠ .error (.io e)) →
      (p.run { data := data, pos := 0, failAt := some k }).2 =
        (p.run { data := data, pos := 0, failAt := none }).2 ∧
      (p.run { data := data, pos := 0, failAt := some k }).1.pos =
        (p.run { data := data, pos := 0, failAt := none }).1.pos) := by
  refine ⟨?_, run_compare p data k 0 (Nat.zero_le _) (Nat.zero_le _)⟩
  have := (run_same p { data := data, pos := 0, failAt := some k }).2.2.2
  simp only [Reader.limit] at this
  have := this (Nat.zero_le _)
  omega

/-- an `Ok` from a failing reader means that everything the read needed lay in front of the
    failure position (contrapositive of the above: `k <` bytes needed ⇒ never `Ok`). -/
theorem failing_reader_ok {α : Type} (p : RProg α) (data : Bytes) (k : Nat) (a : α)
    (h : (p.run { data := data, pos := 0, failAt := some k }).2 = .ok a) :
    (p.run { data := data, pos := 0, failAt := none }).1.pos ≤ k := by
  by_cases hc : k < (p.run { data := data, pos := 0, failAt := none }).1.pos
  · have := ((failing_reader p data k).2.1 hc).1
    rw [this] at h; cases h
  · omega

/-- For every limited read program — every adaptive sequence of
    `read_exact` and `start_layer` calls, hence every `read_limited` function — run on a fresh
    `LimitedReader::new(inner, max_len, …)`: no subtraction underflows (`panicked = false`, the
    result is not a panic), `read_len ≤ max_len` holds afterwards, and the number of bytes pulled
    from the inner reader is at most the initial `max_len`. -/
theorem limited_reader {α : Type} (p : LProg α) (inner : Reader) (hin : inner.pos ≤ inner.limit)
    (maxLen : Nat) (src : String) (off : Nat) (layer : String) :
    (p.run (Limited.new inner maxLen src off layer)).1.panicked = false ∧
    (p.run (Limited.new inner maxLen src off layer)).2 ≠ .error .panic ∧
    (p.run (Limited.new inner maxLen src off layer)).1.readLen ≤
      (p.run (Limited.new inner maxLen src off layer)).1.maxLen ∧
    (p.run (Limited.new inner maxLen src off layer)).1.inner.pos - inner.pos ≤ maxLen := by
  have h := lrun_inv p (LInv.new inner hin maxLen src off layer)
  exact ⟨h.1.noPanic, h.2, h.1.readLe, h.1.pulled⟩

/-- a whole session: any list of limited read programs run one after the other on the same
    `LimitedReader` (what `io.limited` runs). -/
def runAll {α : Type} : List (LProg α) → Limited → Limited
  | [], l => l
  | p :: ps, l => runAll ps (p.run l).1

theorem limited_reader_session {α : Type} (ps : List (LProg α)) (inner : Reader)
    (hin : inner.pos ≤ inner.limit) (maxLen : Nat) (src : String) (off : Nat) (layer : String) :
    (runAll ps (Limited.new inner maxLen src off layer)).panicked = false ∧
    (runAll ps (Limited.new inner maxLen src off layer)).readLen ≤
      (runAll ps (Limited.new inner maxLen src off layer)).maxLen ∧
    (runAll ps (Limited.new inner maxLen src off layer)).inner.pos - inner.pos ≤ maxLen := by
  have key : ∀ (ps : List (LProg α)) (l : Limited), LInv maxLen inner.pos l →
      LInv maxLen inner.pos (runAll ps l) := by
    intro ps
    induction ps with
    | nil => intro l h; exact h
    | cons p ps ih => intro l h; exact ih _ (lrun_inv p h).1
  have h := key ps _ (LInv.new inner hin maxLen src off layer)
  exact ⟨h.noPanic, h.readLe, h.pulled⟩

/-- the length error of a limited `read_exact` states the real numbers: it is raised exactly when
    the request does not fit into what the layer has left, `required_len` is what the layer would
    have to hold, `len` what it holds. -/
theorem limited_len_error (l : Limited) (n : Nat) (hr : l.readLen ≤ l.maxLen) (e : LenErr)
    (h : (l.readExact n).2 = .error (.len e)) :
    l.maxLen < l.readLen + n ∧ e.required = l.readLen + n ∧ e.len = l.maxLen ∧
    e.src = l.lenSource ∧ e.layer = l.layer ∧ e.off = l.layerOffset ∧ (l.readExact n).1 = l := by
  unfold Limited.readExact at h ⊢
  rw [if_neg (by omega)] at h ⊢
  by_cases hn : l.maxLen - l.readLen < n
  · rw [if_pos hn] at h ⊢
    simp only [Except.error.injEq, LErr.len.injEq] at h
    subst h
    exact ⟨by omega, rfl, rfl, rfl, rfl, rfl, rfl⟩
  · rw [if_neg hn] at h
    rcases readExact_cases l.inner n with ⟨he, _⟩ | ⟨_, _, he⟩ | ⟨_, _, he⟩ <;>
      rw [he] at h <;> simp at h

section skip
open EpModel.Io.Skip EpModel.Lemmas.IoSkip

/-- **`Ipv6Header::skip_header_extension`** on a reader that fails at byte `k` (any data, any
    start position, any next header):
    * a next header that is no skippable extension header: `Ok(next_header)`, nothing is read;
    * a skippable one (`kindOf nh = some kind`): if the complete header — 8 bytes for a fragment
      header, `(len + 2) * 4` for an authentication header, `(len + 1) * 8` otherwise, `len` the
      second byte — lies inside the bytes the reader can hand out, the result is `Ok(first byte)`
      and the reader stands exactly behind the header; if ANY byte of it is missing, the result is
      the reader's error (the injected one when the reader fails inside the data, `UnexpectedEof`
      when the data ends) — never `Ok`. -/
theorem skip_header_extension (r : Reader) (nh : Nat) :
    (¬ isSkippable nh → skipHeaderExtension r nh = (r, .ok nh)) ∧
    (∀ kind, kindOf nh = some kind →
      (r.pos + hdrLen kind r.data r.pos ≤ r.limit →
        skipHeaderExtension r nh =
          ({ data := r.data, pos := r.pos + hdrLen kind r.data r.pos, failAt := r.failAt },
           .ok (bAt r.data r.pos))) ∧
      (r.limit < r.pos + hdrLen kind r.data r.pos →
        (skipHeaderExtension r nh).2 = .error r.dryError)) := by
  refine ⟨not_skippable r nh, fun kind hk => ⟨skip_ok r nh kind hk, fun h => ?_⟩⟩
  exact (skip_err r nh kind hk (by omega)).1

/-- the same as an equivalence, for the reader of the property (start of the data, fails at byte
    `k`): `Ok` ⇔ the whole header lies in front of both the failure position and the end of the
    data. -/
theorem skip_header_extension_ok_iff (data : Bytes) (k nh : Nat) (kind : Kind)
    (hk : kindOf nh = some kind) :
    (∃ n, (skipHeaderExtension { data := data, pos := 0, failAt := some k } nh).2 = .ok n) ↔
      hdrLen kind data 0 ≤ k ∧ hdrLen kind data 0 ≤ data.length := by
  have hl : Reader.limit { data := data, pos := 0, failAt := some k } = min k data.length := rfl
  by_cases hfit : 0 + hdrLen kind data 0 ≤ Reader.limit { data := data, pos := 0, failAt := some k }
  · rw [skip_ok _ nh kind hk hfit]
    exact iff_of_true ⟨_, rfl⟩ (by omega)
  · rw [(skip_err _ nh kind hk hfit).1]
    exact iff_of_false (fun ⟨n, hn⟩ => by cases hn) (by omega)

/-- `is_skippable_header_extension` and the arms of `skip_header_extension` name the same ip
    numbers (otherwise the loop of `skip_all_header_extensions` would spin on a header it
    considers skippable but does not skip). -/
theorem skippable_arms_agree (nh : Nat) : isSkippable nh ↔ ∃ kind, kindOf nh = some kind :=
  isSkippable_iff nh

/-- **`Ipv6Header::skip_all_header_extensions`**: the loop terminates for every input (`skipAll` is
    a total function: every successful skip moves the reader forward inside the available bytes),
    and `Ok(f)` means: a chain of skippable extension headers, every one completely inside the
    bytes the reader can hand out, leads from the start position to a header `f` that is not a
    skippable extension header; the reader then stands exactly behind the last of them (start +
    the sum of the header lengths), never behind the available bytes. -/
theorem skip_all_ok (r : Reader) (nh f : Nat) (h : (skipAll r nh).2 = .ok f) :
    Chain r.data r.limit nh r.pos f (skipAll r nh).1.pos ∧ ¬ isSkippable f ∧
    r.pos ≤ (skipAll r nh).1.pos ∧ (r.pos ≤ r.limit → (skipAll r nh).1.pos ≤ r.limit) ∧
    (skipAll r nh).1.data = r.data ∧ (skipAll r nh).1.failAt = r.failAt := by
  obtain ⟨hc, hd, hf⟩ := (skipAll_spec r nh).1 f h
  exact ⟨hc, hc.bounds.2.2, hc.bounds.1, hc.bounds.2.1, hd, hf⟩

/-- conversely, every such chain is skipped completely, with exactly this result. -/
theorem skip_all_complete (data : Bytes) (failAt : Option Nat) (nh pos f p : Nat)
    (h : Chain data (Reader.limit { data := data, pos := pos, failAt := failAt }) nh pos f p) :
    skipAll { data := data, pos := pos, failAt := failAt } nh =
      ({ data := data, pos := p, failAt := failAt }, .ok f) :=
  skipAll_of_chain data failAt nh pos f p h

/-- an error of the loop is the error of the reader: injected when the reader fails inside the
    data, `UnexpectedEof` when the data ends; and it is returned exactly when no chain of complete
    headers exists (some header of the chain is cut). -/
theorem skip_all_error (r : Reader) (nh : Nat) :
    (∀ e, (skipAll r nh).2 = .error e → e = r.dryError) ∧
    ((∃ e, (skipAll r nh).2 = .error e) ↔ ¬ ∃ f p, Chain r.data r.limit nh r.pos f p) := by
  refine ⟨(skipAll_spec r nh).2, ?_⟩
  constructor
  · rintro ⟨e, he⟩ ⟨f, p, hc⟩
    have := skipAll_of_chain r.data r.failAt nh r.pos f p hc
    have hr : ({ data := r.data, pos := r.pos, failAt := r.failAt } : Reader) = r := rfl
    rw [hr] at this
    rw [this] at he; cases he
  · intro hno
    cases hres : (skipAll r nh).2 with
    | error e => exact ⟨e, rfl⟩
    | ok f => exact absurd ⟨f, _, (skip_all_ok r nh f hres).1⟩ hno

end skip

section skip_seek
open EpModel.Io.Skip EpModel.Lemmas.IoSkip EpModel.Lemmas.IoSkipSeek

/-- **`skip_header_extension`, the failing seek is not this call** (no seek fails at all:
    `sf = none`, or the failing index is another one: `sf ≠ some c` with `c` the number of seek
    calls made before): reader and result are those of the function whose seek never fails, so
    `skip_header_extension` / `skip_header_extension_ok_iff` describe them; the counter grows by one
    exactly when the first read succeeded (that is when `seek` is called). -/
theorem skip_ext_sf_unreached (rd : Reader) (c : Nat) (sf : Option Nat) (nh : Nat)
    (hsf : sf ≠ some c) :
    (skipExtSf { rd := rd, seeks := c, seekFail := sf } nh).1.rd = (skipHeaderExtension rd nh).1 ∧
    (skipExtSf { rd := rd, seeks := c, seekFail := sf } nh).2 = liftRes (skipHeaderExtension rd nh).2 ∧
    (skipExtSf { rd := rd, seeks := c, seekFail := sf } nh).1.seekFail = sf ∧
    (skipExtSf { rd := rd, seeks := c, seekFail := sf } nh).1.seeks =
      c + (match kindOf nh with
           | none => 0
           | some kind => if rd.pos + kind.firstRead ≤ rd.limit then 1 else 0) := by
  cases hk : kindOf nh with
  | none =>
    rw [skipExtSf_not_skippable _ nh hk]
    have : ¬ isSkippable nh := fun h => by
      obtain ⟨k, hk'⟩ := (isSkippable_iff nh).1 h
      rw [hk] at hk'; cases hk'
    rw [not_skippable rd nh this]
    exact ⟨rfl, rfl, rfl, rfl⟩
  | some kind =>
    rw [skipExtSf_unreached rd c sf nh kind hk (fun _ => hsf)]
    exact ⟨rfl, rfl, rfl, rfl⟩

/-- **`skip_header_extension`, this seek call is the failing one** (`c` seek calls were made
    before, the call with index `c` fails), for a skippable next header:
    * if the first read (1 byte of a fragment header, 2 bytes otherwise) succeeds, the seek is
      reached: the result is the seek error — never `Ok`, never a read error —, the reader stands
      exactly behind the bytes of the first read (the failed seek did not move it, and no read
      followed), and exactly one more seek call was made;
    * if the first read fails, the seek is not reached: the reader's own error, as before. -/
theorem skip_ext_sf_reached (rd : Reader) (c : Nat) (nh : Nat) (kind : Kind)
    (hk : kindOf nh = some kind) :
    (rd.pos + kind.firstRead ≤ rd.limit →
      skipExtSf { rd := rd, seeks := c, seekFail := some c } nh =
        ({ rd := { data := rd.data, pos := rd.pos + kind.firstRead, failAt := rd.failAt },
           seeks := c + 1, seekFail := some c }, .error .seek)) ∧
    (¬ rd.pos + kind.firstRead ≤ rd.limit →
      skipExtSf { rd := rd, seeks := c, seekFail := some c } nh =
        ({ rd := (skipHeaderExtension rd nh).1, seeks := c, seekFail := some c },
         .error (.io rd.dryError))) := by
  refine ⟨skipExtSf_seek_fails rd c nh kind hk, fun h1 => ?_⟩
  rw [skipExtSf_unreached rd c (some c) nh kind hk (fun h => absurd h h1), if_neg h1]
  have hcut : ¬ rd.pos + hdrLen kind rd.data rd.pos ≤ rd.limit := by
    have := firstRead_le_hdrLen kind rd.data rd.pos
    omega
  rw [(skip_err rd nh kind hk hcut).1]
  rfl

/-- the reader of the property (start of the data, read failure at byte `k`, the `j`-th seek
    fails): `Ok` ⇔ the whole header lies in front of the failure position and the end of the
    data AND the one seek call of the function is not the failing one. -/
theorem skip_ext_sf_ok_iff (data : Bytes) (k j nh : Nat) (kind : Kind) (hk : kindOf nh = some kind) :
    (∃ n, (skipExtSf { rd := { data := data, pos := 0, failAt := some k }, seeks := 0,
                       seekFail := some j } nh).2 = .ok n) ↔
      hdrLen kind data 0 ≤ k ∧ hdrLen kind data 0 ≤ data.length ∧ j ≠ 0 := by
  by_cases hj : j = 0
  · subst hj
    refine iff_of_false ?_ fun h => h.2.2 rfl
    rintro ⟨n, hn⟩
    have hr := skip_ext_sf_reached { data := data, pos := 0, failAt := some k } 0 nh kind hk
    by_cases h1 : (0 : Nat) + kind.firstRead ≤ Reader.limit { data := data, pos := 0, failAt := some k }
    · rw [hr.1 h1] at hn; cases hn
    · rw [hr.2 h1] at hn; cases hn
  · have hsf : (some j : Option Nat) ≠ some 0 := fun h => hj (Option.some.inj h)
    rw [(skip_ext_sf_unreached _ 0 (some j) nh hsf).2.1]
    simp only [liftRes_eq_ok, skip_header_extension_ok_iff data k nh kind hk]
    exact ⟨fun ⟨a, b⟩ => ⟨a, b, hj⟩, fun ⟨a, b, _⟩ => ⟨a, b⟩⟩

/-- **`skip_all_header_extensions`, no seek failure**: with `seekFail = none` `skipAllSf` is
    `skipAll` (same reader, same result), so `skip_all_ok` / `skip_all_complete` /
    `skip_all_error` describe it. -/
theorem skip_all_sf_free (rd : Reader) (c nh : Nat) :
    (skipAllSf { rd := rd, seeks := c, seekFail := none } nh).1.rd = (skipAll rd nh).1 ∧
    (skipAllSf { rd := rd, seeks := c, seekFail := none } nh).2 = liftRes (skipAll rd nh).2 ∧
    (skipAllSf { rd := rd, seeks := c, seekFail := none } nh).1.seekFail = none ∧
    c ≤ (skipAllSf { rd := rd, seeks := c, seekFail := none } nh).1.seeks := by
  obtain ⟨⟨h1, h2, h3, _, _⟩, hun, _⟩ := skipAllSf_spec rd nh c none
  refine ⟨h1, h2, ?_, h3⟩
  rw [hun (fun j hj => by cases hj)]

/-- how many seek calls the loop makes when no seek fails (`n` below; the calls have the indices
    `c … n - 1`), in terms of the data: a run that ends `Ok` made one call per skipped header; a run
    that ends in a read error inside header number `m` made `m` calls for the complete headers
    in front of it, plus one if the first read of the cut header still succeeded (the error then
    comes from the read behind that seek). -/
theorem skip_all_sf_seek_calls (rd : Reader) (c nh : Nat) :
    (∀ f, (skipAll rd nh).2 = .ok f →
      ∃ m, Steps rd.data rd.limit nh rd.pos m f (skipAll rd nh).1.pos ∧
        (skipAllSf { rd := rd, seeks := c, seekFail := none } nh).1.seeks = c + m) ∧
    (∀ e, (skipAll rd nh).2 = .error e →
      ∃ m nh' pos' kind, Steps rd.data rd.limit nh rd.pos m nh' pos' ∧ kindOf nh' = some kind ∧
        ¬ pos' + hdrLen kind rd.data pos' ≤ rd.limit ∧
        (skipAllSf { rd := rd, seeks := c, seekFail := none } nh).1.seeks =
          c + m + (if pos' + kind.firstRead ≤ rd.limit then 1 else 0)) := by
  obtain ⟨⟨_, _, h3, h4, h5⟩, _, _⟩ := skipAllSf_spec rd nh c none
  refine ⟨fun f hf => ⟨_, h4 f hf, ?_⟩, h5⟩
  show (freeRun rd c nh).1.seeks = c + ((freeRun rd c nh).1.seeks - c)
  omega

/-- **the failing seek is not in reach** — its index `j` lies in front of the calls of this run
    (`j < c`) or the run in which no seek fails ends (with `Ok` or with a read error) before its
    `j`-th seek call: reader, counter and result are those of the run in which no seek fails, i.e.
    those of `skipAll`.  So the theorems about `skipAll` carry over, and a read error that comes
    first in program order is the error that is returned. -/
theorem skip_all_sf_unreached (rd : Reader) (c nh j : Nat)
    (h : j < c ∨ (skipAllSf { rd := rd, seeks := c, seekFail := none } nh).1.seeks ≤ j) :
    (skipAllSf { rd := rd, seeks := c, seekFail := some j } nh).1.rd = (skipAll rd nh).1 ∧
    (skipAllSf { rd := rd, seeks := c, seekFail := some j } nh).2 = liftRes (skipAll rd nh).2 ∧
    (skipAllSf { rd := rd, seeks := c, seekFail := some j } nh).1.seeks =
      (skipAllSf { rd := rd, seeks := c, seekFail := none } nh).1.seeks ∧
    (skipAllSf { rd := rd, seeks := c, seekFail := some j } nh).1.seekFail = some j := by
  obtain ⟨⟨h1, h2, _, _, _⟩, hun, _⟩ := skipAllSf_spec rd nh c (some j)
  rw [hun (fun j' hj' => by cases hj'; exact h)]
  exact ⟨h1, h2, rfl, rfl⟩

/-- **the failing seek is in reach** — the run in which no seek fails makes a seek call with
    index `j` (`c ≤ j <` its final counter; every read in front of that call succeeds, because that
    run got there): the result is the seek error — never `Ok`, never a read error, although a read
    behind it might fail as well —; exactly `j + 1 - c` seek calls were made, the failing one being
    the last; and the reader is in the state of the failing call: `j - c` complete headers were
    skipped, the first read of the next header (`kind.firstRead` bytes at `pos'`) was made, the seek
    did not move the reader and nothing was read behind it. -/
theorem skip_all_sf_reached (rd : Reader) (c nh j : Nat) (hcj : c ≤ j)
    (hjn : j < (skipAllSf { rd := rd, seeks := c, seekFail := none } nh).1.seeks) :
    ∃ nh' pos' kind, Steps rd.data rd.limit nh rd.pos (j - c) nh' pos' ∧
      kindOf nh' = some kind ∧ pos' + kind.firstRead ≤ rd.limit ∧
      skipAllSf { rd := rd, seeks := c, seekFail := some j } nh =
        ({ rd := { data := rd.data, pos := pos' + kind.firstRead, failAt := rd.failAt },
           seeks := j + 1, seekFail := some j }, .error .seek) :=
  (skipAllSf_spec rd nh c (some j)).2.2 j rfl hcj hjn

/-- **`Ok` only if every read and every seek of the whole chain succeeded** (strengthening of
    `skip_all_ok`): an `Ok(f)` means that `m` skippable extension headers, every one completely
    inside the bytes the reader can hand out, lead from the start to the header `f`, which is not
    skippable (a `Chain`, so every read succeeded); that exactly `m` seek calls were made — the
    calls `c … c + m - 1` — and that the failing seek call, if there is one, is none of them; the
    reader stands behind the last header and `skipAll` returns the same. -/
theorem skip_all_sf_ok (rd : Reader) (c : Nat) (sf : Option Nat) (nh f : Nat)
    (h : (skipAllSf { rd := rd, seeks := c, seekFail := sf } nh).2 = .ok f) :
    ∃ m, Steps rd.data rd.limit nh rd.pos m f
        (skipAllSf { rd := rd, seeks := c, seekFail := sf } nh).1.rd.pos ∧
      ¬ isSkippable f ∧
      Chain rd.data rd.limit nh rd.pos f (skipAllSf { rd := rd, seeks := c, seekFail := sf } nh).1.rd.pos ∧
      (skipAllSf { rd := rd, seeks := c, seekFail := sf } nh).1.seeks = c + m ∧
      (∀ j, sf = some j → j < c ∨ c + m ≤ j) ∧
      skipAll rd nh = ((skipAllSf { rd := rd, seeks := c, seekFail := sf } nh).1.rd, .ok f) := by
  obtain ⟨_, _, h3, h4, _⟩ := (skipAllSf_spec rd nh c sf).1
  rcases skipAllSf_cases rd nh c sf with ⟨hfree, heq⟩ | ⟨_, _, _, _, hres⟩
  · rw [heq] at h ⊢
    have hold : (skipAll rd nh).2 = .ok f := liftRes_eq_ok.1 h
    have hok := skip_all_ok rd nh f hold
    refine ⟨_, h4 f hold, hok.2.1, hok.1, ?_, fun j hj => (hfree j hj).imp_right ?_, by rw [← hold]⟩
    · show (freeRun rd c nh).1.seeks = c + ((freeRun rd c nh).1.seeks - c)
      omega
    · intro hle; omega
  · rw [hres] at h; cases h

/-- **which error, decided by the first failing call in program order.**  The run in which no
    seek fails is the program order of the calls: it makes the seek calls `c … n - 1` and then ends,
    with `Ok` or with the first read that fails.  An error of `skipAllSf` is
    * the seek error exactly when the failing index `j` is one of `c … n - 1` — that seek call
      comes before the read that fails (if any read fails at all);
    * otherwise the read error of `skipAll` (the reader's own error: injected when it
      fails inside the data, `UnexpectedEof` when the data ends), returned with the reader of
      `skipAll` — that read comes before the `j`-th seek call, which is never made.
    There is no other error and no way to get `Ok` out of a run in which a call failed. -/
theorem skip_all_sf_error (rd : Reader) (c : Nat) (sf : Option Nat) (nh : Nat) :
    ((skipAllSf { rd := rd, seeks := c, seekFail := sf } nh).2 = .error .seek ↔
      ∃ j, sf = some j ∧ c ≤ j ∧ j < (skipAllSf { rd := rd, seeks := c, seekFail := none } nh).1.seeks) ∧
    (∀ e, (skipAllSf { rd := rd, seeks := c, seekFail := sf } nh).2 = .error (.io e) →
      e = rd.dryError ∧
      skipAll rd nh = ((skipAllSf { rd := rd, seeks := c, seekFail := sf } nh).1.rd, .error e) ∧
      (∀ j, sf = some j → j < c ∨ (skipAllSf { rd := rd, seeks := c, seekFail := sf } nh).1.seeks ≤ j)) := by
  rcases skipAllSf_cases rd nh c sf with ⟨hfree, heq⟩ | ⟨j, hj, hcj, hjn, hres⟩
  · rw [heq]
    refine ⟨⟨fun h => absurd h liftRes_ne_seek, ?_⟩, fun e he => ?_⟩
    · rintro ⟨j, hj, hcj, hjn⟩
      rcases hfree j hj with hc | hc
      · omega
      · exact absurd hjn (Nat.not_lt.2 hc)
    · have hold : (skipAll rd nh).2 = .error e := liftRes_eq_io.1 he
      exact ⟨(skip_all_error rd nh).1 e hold, by rw [← hold], hfree⟩
  · rw [hres]
    exact ⟨⟨fun _ => ⟨j, hj, hcj, hjn⟩, fun _ => rfl⟩, fun e he => by cases he⟩

end skip_seek

section gbuilder
open EpModel.Builder

/-- **space errors state the length really required — for every builder configuration.**
    `write_to_slice` returns `Space(r)` exactly when the slice is shorter than `size`, `r` is then
    `size`, and `size` is the number of bytes a successful `write` produces; a slice of at least
    `size` bytes never gives a space error, and `Ok(n)` means `n = size` bytes, the same as
    `write` emits, were written and fit the slice. -/
theorem gbuilder_space_required (c : Cfg) (p : Bytes) (cap : Nat) (wf : c.WF) :
    (cap < size c p.length → writeToSlice c cap p = .space (size c p.length)) ∧
    (∀ r, writeToSlice c cap p = .space r → cap < size c p.length ∧ r = size c p.length) ∧
    (∀ out, build c p = .ok out → out.length = size c p.length) ∧
    (∀ n out, writeToSlice c cap p = .ok n out →
      n = size c p.length ∧ out.length = n ∧ n ≤ cap ∧ build c p = .ok out) := by
  have hs := C10.slice_agrees c p cap wf
  refine ⟨fun h => by rw [hs, if_pos h], fun r hr => ?_, fun out h => C10.build_size c p out wf h,
    fun n out hn => ?_⟩
  · rw [hs] at hr
    split at hr
    · rename_i hlt
      simp only [SliceRes.space.injEq] at hr
      exact ⟨hlt, hr.symm⟩
    · split at hr <;> cases hr
  · rw [hs] at hn
    split at hn
    · cases hn
    · rename_i hge
      split at hn
      · rename_i out' hb
        simp only [SliceRes.ok.injEq] at hn
        obtain ⟨h1, h2⟩ := hn
        subst h1; subst h2
        exact ⟨rfl, C10.build_size c p _ wf hb, by omega, hb⟩
      · cases hn

/-- the buffer after `write_to_slice` (`sliceBuffer`): a slice that is too short is left
    untouched; otherwise the complete packet is in front, everything behind it is untouched and
    the buffer keeps its length. -/
theorem gbuilder_slice_buffer (c : Cfg) (p : Bytes) (cap : Nat) (fill : UInt8) (wf : c.WF) :
    (cap < size c p.length → sliceBuffer c cap p fill = List.replicate cap fill) ∧
    (∀ out, size c p.length ≤ cap → build c p = .ok out →
      sliceBuffer c cap p fill = out ++ List.replicate (cap - size c p.length) fill ∧
      (sliceBuffer c cap p fill).length = cap) := by
  have hs := C10.slice_agrees c p cap wf
  refine ⟨fun h => ?_, fun out hge hb => ?_⟩
  · unfold sliceBuffer; rw [hs, if_pos h]
  · have hl := C10.build_size c p out wf hb
    have hc : complete c p = out := by unfold complete; rw [hb]
    unfold sliceBuffer
    rw [hs, if_neg (by omega), hb]
    simp only [hc, hl, List.length_append, List.length_replicate, true_and]
    omega

/-- **`write` of every builder path against a writer that fails at byte `k`**, for EVERY way the
    code may cut its output into `write_all` calls (`parts.flatten = complete c p`): the writer has
    received exactly the first `k` bytes of the complete output; below the complete length the
    result is the injected I/O error — never `Ok`, never one of the builder's own errors — and
    from the complete length on it is the builder's own result. -/
theorem gbuilder_failing_writer (c : Cfg) (p : Bytes) (k : Nat) (parts : List Bytes)
    (hp : parts.flatten = complete c p) :
    ((serOf c p parts).run (Writer.failingAt k)).1.out = (complete c p).take k ∧
    (k < (complete c p).length →
      ((serOf c p parts).run (Writer.failingAt k)).2 = .error (.io .injected)) ∧
    ((complete c p).length ≤ k →
      ((serOf c p parts).run (Writer.failingAt k)).2 =
        (match build c p with
         | .ok _ => .ok ()
         | .error f => .error (.content f.err))) := by
  have h := failing_writer_ser (serOf c p parts) k
  have hf : (serOf c p parts).full = complete c p := hp
  rw [hf] at h
  refine ⟨h.1, h.2.1, fun hk => ?_⟩
  rw [h.2.2 hk]
  simp only [serOf, ownResult]
  cases build c p <;> rfl

/-- what the driver runs (`writeFailing`, the one-part cut) is an instance of it. -/
theorem gbuilder_write_failing (c : Cfg) (p : Bytes) (k : Nat) :
    (writeFailing c p k).1.out = (complete c p).take k ∧
    (k < (complete c p).length → (writeFailing c p k).2 = .error (.io .injected)) ∧
    ((complete c p).length ≤ k →
      (writeFailing c p k).2 =
        (match build c p with
         | .ok _ => .ok ()
         | .error f => .error (.content f.err))) :=
  gbuilder_failing_writer c p k [complete c p] (by simp)

/-- for an encodable configuration the failing-writer run succeeds exactly when the writer accepts
    `size` bytes: `Ok` ⇔ `size ≤ k`, and what arrived is the first `min k size` bytes of the
    packet. -/
theorem gbuilder_write_failing_ok_iff (c : Cfg) (p : Bytes) (k : Nat) (wf : c.WF)
    (enc : Encodable c p.length) :
    ((writeFailing c p k).2 = .ok () ↔ size c p.length ≤ k) ∧
    (writeFailing c p k).1.out.length = min k (size c p.length) := by
  have hb := C10.build_accepts c p wf enc
  have hl := C10.build_size c p _ wf hb
  have hc : complete c p = Lemmas.Builder.buildOk c p := by unfold complete; rw [hb]
  obtain ⟨h1, h2, h3⟩ := gbuilder_write_failing c p k
  rw [hc] at h1 h2 h3
  rw [hl] at h2 h3
  refine ⟨⟨fun h => ?_, fun h => ?_⟩, ?_⟩
  · by_cases hk : k < size c p.length
    · rw [h2 hk] at h; cases h
    · omega
  · rw [h3 h, hb]
  · rw [h1, List.length_take, hl]

end gbuilder

open EpModel.CodecNet in
/-- an IPv4 header with one option word -/
def sampleIpv4 : Ipv4Header :=
  { dscp := 63, ecn := 3, totalLen := 65535, identification := 65535, dontFragment := true,
    moreFragments := true, fragmentOffset := 8191, timeToLive := 255, protocol := 51,
    headerChecksum := 4660, source := [10, 0, 0, 1], destination := [10, 0, 0, 2],
    options := [1, 2, 3, 4] }

open EpModel.CodecNet in
/-- an authentication header with a 4 byte ICV -/
def sampleAuth : IpAuthHeader := { nextHeader := 6, spi := 1, sequenceNumber := 2, rawIcv := [9, 8, 7, 6] }

example : sampleIpv4.WF ∧ sampleAuth.WF ∧ (Parts.ipv4raw sampleIpv4).length = 2 ∧
    (Parts.ipv4raw sampleIpv4).flatten.length = 24 ∧ (Parts.auth sampleAuth).flatten.length = 16 := by
  decide

example : Codec.Eth2.sampleMax.WF ∧ Codec.Sll.sampleMax.WF := by decide

example : PacketWF { link := .eth2 [1, 2, 3, 4, 5, 6] [7, 8, 9, 10, 11, 12], vlan := .single 5,
                     net := .v4 [10, 0, 0, 1] [10, 0, 0, 2] 64, tp := .udp 1 2, payload := [1, 2, 3] } := by
  simp [PacketWF]

example : (CodecNet.Ipv4Extensions.WF { auth := some sampleAuth } sampleIpv4.protocol) := by decide

-- a writer failing at byte 21 of an IPv4 header with options: 21 bytes arrive (20 of the fixed
-- part, one of the options), the injected error is returned
example : (writeParts (Parts.ipv4raw sampleIpv4) (Writer.failingAt 21)).1.out.length = 21 := by decide
example : (writeParts (Parts.ipv4raw sampleIpv4) (Writer.failingAt 21)).2 = .error .injected := rfl
example : (writeParts (Parts.ipv4raw sampleIpv4) (Writer.failingAt 24)).2 = .ok () := rfl

-- IpHeaders::write of header + authentication header: three write_all calls, 40 bytes
example : (IpHdrs.v4 sampleIpv4 { auth := some sampleAuth }).ser.parts.length = 3 ∧
    (IpHdrs.v4 sampleIpv4 { auth := some sampleAuth }).ser.full.length = 40 := by decide

-- an extension chain hop-by-hop → routing → (upper layer 17) is written in chain order; without
-- the reference from the first header the routing header is reported as not referenced
def sampleExts : Ipv6Exts :=
  { hbh := some { nextHeader := 43, payload := [1, 2, 3, 4, 5, 6] }, dst := none,
    rt := some ({ nextHeader := 17, payload := [6, 5, 4, 3, 2, 1] }, none), frag := none, auth := none }

example : (sampleExts.ser 0).parts.length = 2 ∧ (sampleExts.ser 0).fin = .ok () := by
  unfold Ipv6Exts.ser; simp [sampleExts]; unfold Ipv6Exts.walkLoop
  simp [Ipv6Exts.pick, Ipv6Exts.present, Ipv6Exts.get]
  unfold Ipv6Exts.walkLoop; simp [Ipv6Exts.pick, Ipv6Exts.notReferenced]
example : (sampleExts.ser 43).fin = .error (.extNotReferenced 0) := by
  unfold Ipv6Exts.ser; simp [sampleExts]; unfold Ipv6Exts.walkLoop
  simp [Ipv6Exts.pick, Ipv6Exts.present, Ipv6Exts.get]
  unfold Ipv6Exts.walkLoop; simp [Ipv6Exts.pick, Ipv6Exts.notReferenced]

-- the authentication header read fails with the injected error when the reader fails inside the
-- ICV, and with the content error when the payload length is zero and the 12 fixed bytes are there
example :
    (Reads.auth.run { data := [4, 2, 0, 0, 0, 0, 0, 1, 0, 0, 0, 2, 1, 2, 3, 4], pos := 0,
                      failAt := some 14 }).2 = .error (.io .injected) := rfl
example :
    (Reads.auth.run { data := [4, 0, 0, 0, 0, 0, 0, 1, 0, 0, 0, 2, 1, 2, 3, 4], pos := 0,
                      failAt := some 12 }).2 = .error (.other "err(zeropayloadlen)") := rfl
example :
    (Reads.auth.run { data := [4, 2, 0, 0, 0, 0, 0, 1, 0, 0, 0, 2, 1, 2, 3, 4], pos := 0,
                      failAt := none }).1.pos = 16 := by decide

-- a limited reader session that hits the limit: the length error, and nothing more is pulled
def sampleSession : Limited × Except LErr Bytes :=
  (LProg.read 2 fun _ => LProg.start "IpAuthHeader"
      (LProg.read 5 fun b => LProg.done (Except.ok b))).run
    (Limited.new { data := [1, 2, 3, 4, 5, 6, 7, 8], pos := 0, failAt := none } 6 "Slice" 3
      "Ipv4Header")

example : sampleSession.1.inner.pos = 2 ∧ sampleSession.1.maxLen = 4 := by decide
example : sampleSession.2 =
    .error (.len { required := 5, len := 4, src := "Slice", layer := "IpAuthHeader", off := 5 }) := rfl

-- skipping extension headers: the arms, the header lengths, a chain hop-by-hop → fragment → UDP
-- that is skipped completely, and a fragment header that is cut by the failure position / by the
-- end of the data (the error is returned although every seek "succeeds")
section
open EpModel.Io.Skip EpModel.Lemmas.IoSkip

def sampleChain : Bytes := [44, 0, 1, 2, 3, 4, 5, 6, 17, 9, 0, 0, 0, 0, 0, 1, 0xde, 0xad]

example : kindOf 0 = some .generic ∧ kindOf 44 = some .frag ∧ kindOf 51 = some .auth ∧
    kindOf 17 = none := by decide
example : isSkippable 140 ∧ ¬ isSkippable 50 ∧ ¬ isSkippable 59 := by decide
example : hdrLen .generic sampleChain 0 = 8 ∧ hdrLen .auth [6, 3] 0 = 20 ∧
    hdrLen .generic [6, 255] 0 = 2048 := by decide

theorem sampleChain_chain : Chain sampleChain 16 0 0 17 16 :=
  Chain.step (kind := .generic) rfl (by decide)
    (Chain.step (kind := .frag) rfl (by decide) (Chain.stop (by decide)))

example : skipAll { data := sampleChain, pos := 0, failAt := some 16 } 0 =
    ({ data := sampleChain, pos := 16, failAt := some 16 }, .ok 17) :=
  skip_all_complete sampleChain (some 16) 0 0 17 16 sampleChain_chain

example : (skipHeaderExtension { data := sampleChain, pos := 8, failAt := some 15 } 44).2 =
    .error .injected := rfl
example : (skipHeaderExtension { data := sampleChain.take 15, pos := 8, failAt := some 16 } 44).2 =
    .error .unexpectedEof := rfl
example : (skipHeaderExtension { data := sampleChain, pos := 8, failAt := some 16 } 44) =
    ({ data := sampleChain, pos := 16, failAt := some 16 }, .ok 17) := rfl
end

-- a reader whose seek fails, on the same chain hop-by-hop (8 bytes) → fragment (8 bytes) → UDP:
-- the 0-th seek (inside the hop-by-hop header) fails, the 1-st seek (inside the fragment header)
-- fails, the 2-nd seek is never called; a read failure that comes before the failing seek wins
section
open EpModel.Io.Skip EpModel.Lemmas.IoSkip EpModel.Lemmas.IoSkipSeek

/-- the reader of `io.skip.*.sf`: `sampleChain`, read failure at byte `k`, the `j`-th seek fails -/
def sampleSf (k : Nat) (j : Option Nat) : SReader :=
  { rd := { data := sampleChain, pos := 0, failAt := some k }, seeks := 0, seekFail := j }

-- one header: the seek call of `skip_header_extension` fails / is not the failing one
example : skipExtSf { rd := { data := sampleChain, pos := 8, failAt := some 16 }, seeks := 0,
                      seekFail := some 0 } 44 =
    ({ rd := { data := sampleChain, pos := 9, failAt := some 16 }, seeks := 1, seekFail := some 0 },
     .error .seek) := rfl
example : skipExtSf { rd := { data := sampleChain, pos := 8, failAt := some 16 }, seeks := 0,
                      seekFail := some 1 } 44 =
    ({ rd := { data := sampleChain, pos := 16, failAt := some 16 }, seeks := 1, seekFail := some 1 },
     .ok 17) := rfl
-- the first read fails: the failing seek is not reached, the read error is returned
example : skipExtSf { rd := { data := sampleChain, pos := 8, failAt := some 8 }, seeks := 0,
                      seekFail := some 0 } 44 =
    ({ rd := { data := sampleChain, pos := 8, failAt := some 8 }, seeks := 0, seekFail := some 0 },
     .error (.io .injected)) := rfl
example : (∃ n, (skipExtSf { rd := { data := sampleChain, pos := 0, failAt := some 8 }, seeks := 0,
                             seekFail := some 1 } 0).2 = .ok n) :=
  (skip_ext_sf_ok_iff sampleChain 8 1 0 .generic rfl).2 (by decide)

-- the run in which no seek fails makes two seek calls (hypotheses of skip_all_sf_reached /
-- skip_all_sf_unreached are satisfiable: 0 ≤ 0 < 2, 0 ≤ 1 < 2, 2 ≤ 2)
theorem sampleSf_free : skipAllSf (sampleSf 16 none) 0 =
    ({ rd := { data := sampleChain, pos := 16, failAt := some 16 }, seeks := 2, seekFail := none },
     .ok 17) := by
  rw [skipAllSf_step (sampleSf 16 none) 0 (by decide)
    { rd := { data := sampleChain, pos := 8, failAt := some 16 }, seeks := 1, seekFail := none } 44 rfl]
  rw [skipAllSf_step _ 44 (by decide)
    { rd := { data := sampleChain, pos := 16, failAt := some 16 }, seeks := 2, seekFail := none } 17 rfl]
  exact skipAllSf_stop _ 17 (by decide)

-- the 0-th seek fails: behind the two bytes of the first read, one seek call, nothing else
example : skipAllSf (sampleSf 16 (some 0)) 0 =
    ({ rd := { data := sampleChain, pos := 2, failAt := some 16 }, seeks := 1, seekFail := some 0 },
     .error .seek) :=
  skipAllSf_err (sampleSf 16 (some 0)) 0 (by decide) _ _ rfl

-- the 1-st seek fails: the hop-by-hop header is skipped, one byte of the fragment header is read
example : skipAllSf (sampleSf 16 (some 1)) 0 =
    ({ rd := { data := sampleChain, pos := 9, failAt := some 16 }, seeks := 2, seekFail := some 1 },
     .error .seek) := by
  rw [skipAllSf_step (sampleSf 16 (some 1)) 0 (by decide)
    { rd := { data := sampleChain, pos := 8, failAt := some 16 }, seeks := 1, seekFail := some 1 } 44 rfl]
  exact skipAllSf_err _ 44 (by decide) _ _ rfl

-- … which is what skip_all_sf_reached says (its hypotheses hold: 0 ≤ 1 < 2)
example : ∃ nh' pos' kind, Steps sampleChain 16 0 0 1 nh' pos' ∧ kindOf nh' = some kind ∧
    pos' + kind.firstRead ≤ 16 ∧
    skipAllSf (sampleSf 16 (some 1)) 0 =
      ({ rd := { data := sampleChain, pos := pos' + kind.firstRead, failAt := some 16 },
         seeks := 2, seekFail := some 1 }, .error .seek) :=
  skip_all_sf_reached { data := sampleChain, pos := 0, failAt := some 16 } 0 0 1 (by decide)
    (by have := sampleSf_free; unfold sampleSf at this; rw [this]; decide)

-- the 2-nd seek would fail, but the chain has only two headers: not in reach, `Ok` as before
example : (skipAllSf (sampleSf 16 (some 2)) 0).2 = .ok 17 := by
  have h := (skip_all_sf_unreached { data := sampleChain, pos := 0, failAt := some 16 } 0 0 2
    (by right; have := sampleSf_free; unfold sampleSf at this; rw [this]; decide)).2.1
  have hold : skipAll { data := sampleChain, pos := 0, failAt := some 16 } 0 =
      ({ data := sampleChain, pos := 16, failAt := some 16 }, .ok 17) :=
    skip_all_complete sampleChain (some 16) 0 0 17 16 sampleChain_chain
  unfold sampleSf
  rw [h, hold]; rfl

-- program order: the reader fails at byte 8 (the first read of the fragment header) and the 1-st
-- seek would fail: the read comes first, its error is returned and only one seek call was made;
-- with the reader failing at byte 15 (the read behind the 1-st seek) the seek comes first
example : skipAllSf (sampleSf 8 (some 1)) 0 =
    ({ rd := { data := sampleChain, pos := 8, failAt := some 8 }, seeks := 1, seekFail := some 1 },
     .error (.io .injected)) := by
  rw [skipAllSf_step (sampleSf 8 (some 1)) 0 (by decide)
    { rd := { data := sampleChain, pos := 8, failAt := some 8 }, seeks := 1, seekFail := some 1 } 44 rfl]
  exact skipAllSf_err _ 44 (by decide) _ _ rfl
example : skipAllSf (sampleSf 15 (some 1)) 0 =
    ({ rd := { data := sampleChain, pos := 9, failAt := some 15 }, seeks := 2, seekFail := some 1 },
     .error .seek) := by
  rw [skipAllSf_step (sampleSf 15 (some 1)) 0 (by decide)
    { rd := { data := sampleChain, pos := 8, failAt := some 15 }, seeks := 1, seekFail := some 1 } 44 rfl]
  exact skipAllSf_err _ 44 (by decide) _ _ rfl
example : skipAllSf (sampleSf 15 (some 2)) 0 =
    ({ rd := { data := sampleChain, pos := 15, failAt := some 15 }, seeks := 2, seekFail := some 2 },
     .error (.io .injected)) := by
  rw [skipAllSf_step (sampleSf 15 (some 2)) 0 (by decide)
    { rd := { data := sampleChain, pos := 8, failAt := some 15 }, seeks := 1, seekFail := some 2 } 44 rfl]
  exact skipAllSf_err _ 44 (by decide) _ _ rfl
end

-- the general builder: configurations of C10 satisfy the hypotheses (`ip(..)` with IPv4 options and
-- an authentication header, raw final step), the announced size counts the options
section
open EpModel.Builder

def sampleCfg : Cfg :=
  { link := Step.ethernet2 [1, 2, 3, 4, 5, 6] [7, 8, 9, 10, 11, 12], vlan := Step.singleVlan 5,
    net := .ipv4 sampleIpv4 { auth := some sampleAuth }, tp := none, last := 253 }

example : sampleCfg.WF ∧ Encodable sampleCfg 6 ∧ size sampleCfg 6 = 14 + 4 + 24 + 16 + 6 := by decide
example : C10.exCfg.WF ∧ Encodable C10.exCfg 8 ∧ C10.exCfg6.WF ∧ Encodable C10.exCfg6 8 := by decide
end

end EpModel.Props.C16
