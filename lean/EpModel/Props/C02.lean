import EpModel.Lemmas.DecTotal
import EpModel.Lemmas.DecWithin
import EpModel.Props.C08Net
import EpModel.Props.C13
import EpModel.Props.C17
/-
  C02 — decoders are total: Ok or Err for every input, never a panic or a hang.

  * Termination: every function of the decode model (cursors, the 13 IP boundary implementations,
    the extension walkers `extsLoop`, the re-walk iterator `extIterAll`, the Spec walk) is a total
    Lean definition accepted by the kernel with structural recursion or an explicit strictly
    decreasing measure (`termination_by l` — the remaining length) and no fuel argument, so "no
    unbounded loop" is checked, not tested; `walker_progress` states the measure.
  * Bounds on what iterators yield: `ext_iter_bound` (here), TCP options (`C13.iter_bound`), NDP options
    (`C17.ndp_tiles`, `C17.ndp_exhausted_after_error`), re-stated below so that the audit of this
    property covers them.
  * The conversions that `unwrap`/`expect`: `to_header_exts_total` (the struct re-decode of a
    validated IPv6 extension slice in `IpSlice::to_header`), `auth_to_header_total`,
    `raw_ext_to_header_total` (from C08) cannot fail.
  * No arithmetic underflow: every subtraction of the model sits behind the check the Rust code
    makes (`*_within` of C01 give `hl ≤ l` etc. at each site).
  The model has no panic value for the decode paths: what is proved is that the modelled checks
  imply the preconditions of every `[a..b]`, `unwrap`, `expect` and subtraction on those paths; the
  harness (catch_unwind, overflow checks, step-bounded iteration) looks for the same on the code.
-/
namespace EpModel.Props.C02
open EpModel EpModel.Dec EpModel.Lemmas.Dec

/-- every successful step of the extension re-walk consumes at least 8 bytes and hands out exactly
    the bytes it consumed: progress, no gap, no overlap -/
theorem walker_progress (g : Mem) (nh o l : Nat) (k : ExtKind) (w : Win) (nh' o' l' : Nat)
    (h : extIterNext g nh o l = some (.ok (k, w, nh', o', l'))) :
    l' + 8 ≤ l ∧ o' + l' = o + l ∧ w.o = o ∧ w.o + w.l = o' :=
  extIterNext_progress nh o l k w nh' o' l' h

/-- the iterator yields at most `len / 8` items -/
theorem ext_iter_bound (g : Mem) (nh o l : Nat) (xs : List (ExtKind × Win))
    (h : extIterAll g nh o l = .ok xs) : xs.length * 8 ≤ l := by
  induction l using Nat.strongRecOn generalizing nh o xs with
  | _ l ih =>
    rw [extIterAll] at h
    split at h
    · cases h; simp
    · contradiction
    · rename_i k w nh' o' l' hn
      have hp := extIterNext_progress nh o l k w nh' o' l' hn
      split at h
      · split at h
        · rename_i ys hys
          cases h
          have := ih l' (by omega) nh' o' ys hys
          simp; omega
        · contradiction
      · contradiction

/-- the rest of every extension walk (strict, lax, slice mode, struct mode) is a suffix of the
    slice walked: the walk only moves forward -/
theorem walk_moves_forward (g : Mem) (sm : Bool) (nh o l : Nat) :
    (extsWalk g sm nh o l).rest.o + (extsWalk g sm nh o l).rest.l = o + l ∧
      (extsWalk g sm nh o l).rest.l ≤ l :=
  extsWalk_suffix g sm nh o l

/-- `IpSlice::to_header` re-decodes the validated extension slice with `Ipv6Extensions::from_slice`
    and calls `expect`: for every input the strict slice-mode walk accepts, that re-decode succeeds
    (it may stop early at a header that does not fit the struct, it never errs). -/
theorem to_header_exts_total (g : Mem) (nh o l : Nat) (r : ExtsOut)
    (h : extsWalkStrict g false nh o l = .ok r) : (extsWalk g true nh o (l - r.rest.l)).stop = none := by
  obtain ⟨rfl, hstop⟩ := extsWalkStrict_ok g false nh o l r h
  by_cases hnh : nh = 0
  · subst hnh
    cases hok : rawExtFromSlice g o l with
    | error e => rw [extsWalk_err false hok] at hstop; contradiction
    | ok hl =>
      rw [extsWalk_hbh false hok] at hstop ⊢
      have hb := (rawExt_ok_iff g o l hl).1 hok
      have hs := (extsLoop_suffix g false l (g o) false (hbhSlots ⟨o, hl⟩) (o + hl) (l - hl)).2
      rw [extsWalk_hbh true ((rawExt_ok_iff g o _ hl).2 ⟨hb.1, by omega⟩)]
      exact structLoop_total_on_validated l (g o) false _ (o + hl) (l - hl) hstop _ (by omega) _ _ _
  · rw [extsWalk_of_ne g false o l hnh] at hstop ⊢
    rw [extsWalk_of_ne g true o _ hnh]
    have hs := (extsLoop_suffix g false l nh false ExtSlots.none o l).2
    exact structLoop_total_on_validated l nh false ExtSlots.none o l hstop _ (by omega) _ _ _

/-- `IpAuthHeaderSlice::to_header` (`IpAuthHeader::new(..).unwrap()`) cannot panic on any input of
    `from_slice` (theorem of the codec model, C08) -/
theorem auth_to_header_total (b : Bytes) :
    CodecNet.IpAuthHeader.fromSlice b ≠ .error .panicUnwrap := C08Net.Auth.no_unwrap_panic b

/-- `Ipv6RawExtHeaderSlice::to_header` (`new_raw(..).unwrap()`) cannot panic -/
theorem raw_ext_to_header_total (b : Bytes) :
    CodecNet.Ipv6RawExtHeader.fromSlice b ≠ .error .panicUnwrap := C08Net.RawExt.no_unwrap_panic b

/-- TCP options iterator: at most `len` items, every step shrinks the rest (C13) -/
theorem tcp_options_iter_bound (b : Bytes) :
    (TcpOptions.iterate b).length ≤ b.length ∧
      (∀ r s, TcpOptions.next b = (some r, s) → s.length < b.length) := C13.iter_bound b

/-- the subtractions of the strict IPv4 path cannot underflow: header ≤ slice, header ≤ total length
    ≤ slice, authentication header ≤ payload -/
theorem ipv4_no_underflow (g : Mem) (o l : Nat) (r : IpR) (h : ipv4SliceFromSlice g o l = .ok r) :
    20 ≤ r.hdr.l ∧ r.hdr.l ≤ l ∧ r.hdr.o = o ∧ r.hdr.o + r.hdr.l ≤ r.pl.w.o ∧ r.pl.w.o + r.pl.w.l ≤ o + l := by
  unfold ipv4SliceFromSlice at h
  cases hh : ipv4HeaderFromSlice g o l with
  | error e => rw [hh] at h; contradiction
  | ok hl =>
    rw [hh] at h
    have hb := ipv4Header_ok g o l hl hh
    obtain ⟨_, hhdr, hpl⟩ := ipv4AfterHeaderStrict_in hl r hb.2.1 h
    rw [hhdr]
    unfold WIn at hpl
    exact ⟨hb.1, hb.2.1, rfl, hpl.1, by omega⟩

/-- the NDP options iterator (model of C17, structurally the caller's `for` loop, accepted by Lean with a
    decreasing measure): it yields at most `len / 8` options, and after an error it is exhausted -/
theorem ndp_options_iter_bound (area : Bytes) :
    (EpModel.View.ndpRun ⟨0, area⟩).1.length ≤ area.length / 8 ∧
      (∀ it it' e, EpModel.View.ndpNext it = some (.error e, it') → EpModel.View.ndpNext it' = none) :=
  ⟨(C17.ndp_tiles area).2.2.2, fun it it' e h => C17.ndp_exhausted_after_error it it' e h⟩

end EpModel.Props.C02
