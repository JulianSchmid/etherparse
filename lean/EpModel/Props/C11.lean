import EpModel.Lemmas.DefragPool
import EpModel.Lemmas.DefragOrig
/-
  C11 — fragments reassemble to the original payload in any arrival order.

  Model: EpModel.Model.Defrag (etherparse/src/defrag/*.rs).  Spec: EpModel.Spec.Reassembly (per stream
  the set of delivered facts).  All statements quantify over every history (list of deliveries, of
  any length, in any order, with duplicates, conflicting and oversized fragments, buffer returns and
  evictions); proofs are by induction over the history with the refinement invariant
  `Lemmas.Defrag.Inv` (buffer level) and the simulation `Lemmas.Defrag.Rel` (pool level).
-/
namespace EpModel.Props.C11
open EpModel EpModel.Defrag EpModel.Spec.Reasm EpModel.Lemmas.Defrag

/-- a call `add(fo, mf, payload)` -/
abbrev Add := Nat × Bool × Bytes

/-- `IpDefragBuf`: apply a history of `add` calls (a failing call leaves the buffer as it is) -/
def bufRun (b : Buf) : List Add → Buf
  | [] => b
  | (fo, mf, p) :: rest =>
    match b.add fo mf p with
    | .ok b' => bufRun b' rest
    | .error _ => bufRun b rest

/-- Spec: the facts accepted from the same history (newest first) -/
def factsRun (fs : List Frag) : List Add → List Frag
  | [] => fs
  | (fo, mf, p) :: rest =>
    match check fs (factOf fo mf p) with
    | none => factsRun (factOf fo mf p :: fs) rest
    | some _ => factsRun fs rest

/-- After any history of `add` calls the buffer represents exactly the facts the
    abstract spec accepted from that history (`Inv`: sections = delivered positions, end = announced
    end, data = delivered bytes), and every single call answers as the abstract check does. -/
theorem buf_refines (h : List Add) : ∀ (b : Buf) (fs : List Frag), Inv b fs →
    Inv (bufRun b h) (factsRun fs h) := by
  induction h with
  | nil => intro b fs hi; exact hi
  | cons a rest ih =>
    intro b fs hi
    obtain ⟨fo, mf, p⟩ := a
    simp only [bufRun, factsRun]
    rw [add_eq hi fo mf p]
    cases hc : check fs (factOf fo mf p) with
    | some r => exact ih b fs hi
    | none => exact ih _ _ (addCore_inv hi fo mf p hc)

/-- each call of `add` on a buffer reached by any history: error iff the abstract check rejects the
    fragment, with the corresponding error value; otherwise the fact is added. -/
theorem add_refines (h : List Add) (ip fo : Nat) (mf : Bool) (p : Bytes) :
    (bufRun (Buf.new ip) h).add fo mf p =
      match check (factsRun [] h) (factOf fo mf p) with
      | some r => .error (errOf r)
      | none => .ok ((bufRun (Buf.new ip) h).addCore fo mf p) :=
  add_eq (buf_refines h _ _ (inv_new ip)) fo mf p

/-- After any history of `add` calls on a fresh (or recycled: `new` clears) buffer
    * every section has `start ≤ end`, and two different sections are not connected (a gap of at
      least one position lies between them),
    * a byte position lies in a section iff it was delivered by an accepted fragment,
    * every data cell inside a section holds `some` of the byte delivered for that position (the most
      recently delivered one), in particular never a stale cell. -/
theorem sections_inv (ip : Nat) (h : List Add) :
    let b := bufRun (Buf.new ip) h
    let fs := factsRun [] h
    (∀ r ∈ b.sections, r.start ≤ r.stop) ∧
    b.sections.Pairwise (fun a c => a.stop < c.start ∨ c.stop < a.start) ∧
    (∀ i, (∃ r ∈ b.sections, r.start ≤ i ∧ i < r.stop) ↔ (∃ f ∈ fs, f.off ≤ i ∧ i < f.stop)) ∧
    (∀ i, (∃ r ∈ b.sections, r.start ≤ i ∧ i < r.stop) →
      ∃ v, b.data[i]? = some (some v) ∧ byteAt fs i = some v) := by
  intro b fs
  have hi : Inv b fs := buf_refines h _ _ (inv_new ip)
  refine ⟨hi.valid, hi.pairwise, hi.cover, ?_⟩
  intro i hc
  have hcov : covered fs i := (hi.cover i).1 hc
  have hlt : i < b.data.length := by
    rw [hi.len, hi.extent]; exact covered_lt_extent fs i hcov
  have hs := (byteAt_isSome_iff fs i).2 hcov
  cases hb : byteAt fs i with
  | none => rw [hb] at hs; cases hs
  | some v => exact ⟨v, by rw [hi.bytes i hlt, hb], rfl⟩

/-- After any history, `is_complete()` holds exactly when a last fragment
    was accepted (end known) and every position below that end was delivered. -/
theorem complete_iff_covered (ip : Nat) (h : List Add) :
    (bufRun (Buf.new ip) h).isComplete = true ↔
      ∃ e, endOf (factsRun [] h) = some e ∧ ∀ i, i < e → covered (factsRun [] h) i :=
  isComplete_iff (buf_refines h _ _ (inv_new ip))

/-- a complete buffer holds exactly the abstract payload: length = announced end, every cell
    written (buffer level form of `no_stale_bytes`). -/
theorem complete_payload (ip : Nat) (h : List Add) (bs : Bytes)
    (he : emit (factsRun [] h) = some bs) : (bufRun (Buf.new ip) h).data = bs.map some :=
  complete_data (buf_refines h _ _ (inv_new ip)) he

/-- sections are non-empty when no accepted fragment was empty (an empty fragment is legal and
    produces an empty section `(o,o)`, which is why the general invariant says `start ≤ end`). -/
theorem sections_nonempty (h : List Add) (hne : ∀ a ∈ h, a.2.2 ≠ []) : ∀ (b : Buf),
    (∀ r ∈ b.sections, Range.Valid r) → (∀ r ∈ b.sections, r.start < r.stop) →
    ∀ r ∈ (bufRun b h).sections, r.start < r.stop := by
  induction h with
  | nil => intro b _ hb; exact hb
  | cons a rest ih =>
    intro b hv hb
    obtain ⟨fo, mf, p⟩ := a
    have hp : p ≠ [] := hne (fo, mf, p) (by simp)
    have hrest : ∀ a ∈ rest, a.2.2 ≠ [] := fun a ha => hne a (by simp [ha])
    simp only [bufRun]
    cases ha : b.add fo mf p with
    | error e => exact ih hrest b hv hb
    | ok b' =>
      have hb' : b' = b.addCore fo mf p := by
        unfold Buf.add at ha; split at ha <;> cases ha; rfl
      have hlen : 0 < p.length := List.length_pos_iff.2 hp
      have hns : Range.Valid { start := fo * 8, stop := fo * 8 + p.length } := Nat.le_add_right _ _
      have hbd := mergeLoop_bounds b.sections _ hns hv
      rw [hb']
      refine ih hrest _ (sections_valid hns hv) fun r hr => ?_
      rcases List.mem_append.1 hr with hr | hr
      · exact hb r ((mergeLoop_sublist _ _).subset hr)
      · rw [List.mem_singleton.1 hr]
        exact Nat.lt_of_le_of_lt hbd.1 (Nat.lt_of_lt_of_le (Nat.lt_add_of_pos_right hlen) hbd.2)

/-- the fact of an `add` call -/
def addFact (a : Add) : Frag := factOf a.1 a.2.1 a.2.2

theorem consistent_all_accepted (P : Bytes) (hP : P.length ≤ 65535) (h : List Add) :
    ∀ (fs : List Frag), (∀ g ∈ fs, Consistent P g) → (∀ a ∈ h, Consistent P (addFact a)) →
    factsRun fs h = (h.map addFact).reverse ++ fs := by
  induction h with
  | nil => intro fs _ _; rfl
  | cons a rest ih =>
    intro fs hfs hc
    obtain ⟨fo, mf, p⟩ := a
    have ha : Consistent P (factOf fo mf p) := hc (fo, mf, p) (by simp)
    simp only [factsRun, check_consistent hP hfs ha]
    rw [ih (factOf fo mf p :: fs)
      (by intro g hg; rcases List.mem_cons.1 hg with rfl | hg; exact ha; exact hfs g hg)
      (fun a ha => hc a (by simp [ha]))]
    simp [addFact]

/-- Order / duplication invariance: for every payload `P` (≤ 65535
    bytes) and every history of `add` calls whose fragments are pieces of `P` — any cut, any order,
    any number of repetitions, overlapping or not — no call fails, the buffer is complete exactly
    when a last fragment and every position of `P` have been delivered (a condition on the *set* of
    delivered fragments only), and then its data is `P`, every cell written. -/
theorem reassembles_original (ip : Nat) (P : Bytes) (hP : P.length ≤ 65535) (h : List Add)
    (hc : ∀ a ∈ h, Consistent P (addFact a)) :
    ((bufRun (Buf.new ip) h).isComplete = true ↔
      (∃ a ∈ h, (addFact a).last = true) ∧
      ∀ i, i < P.length → ∃ a ∈ h, (addFact a).off ≤ i ∧ i < (addFact a).stop) ∧
    ((bufRun (Buf.new ip) h).isComplete = true → (bufRun (Buf.new ip) h).data = P.map some) := by
  have hfs := consistent_all_accepted P hP h [] (by simp) hc
  rw [List.append_nil] at hfs
  have hmem : ∀ g, g ∈ factsRun [] h ↔ ∃ a ∈ h, addFact a = g := by
    intro g; rw [hfs]; simp
  have hall : ∀ g ∈ factsRun [] h, Consistent P g := by
    intro g hg
    obtain ⟨a, ha, rfl⟩ := (hmem g).1 hg
    exact hc a ha
  have hi := buf_refines h _ _ (inv_new ip)
  have hiff : (bufRun (Buf.new ip) h).isComplete = true ↔ (emit (factsRun [] h)).isSome := by
    rw [isComplete_iff hi, emit_isSome_iff]
  constructor
  · rw [hiff, emit_isSome_consistent hall]
    simp only [covered, hmem, exists_image]
  · intro hcomp
    have hs := hiff.1 hcomp
    cases he : emit (factsRun [] h) with
    | none => rw [he] at hs; cases hs
    | some bs =>
      rw [complete_data hi he, emit_consistent hall he]

/-- two histories that deliver the same fragments of one payload (any permutation, any duplication)
    agree on completeness and, when complete, on the data (which is the payload). -/
theorem order_duplication_invariant (ip : Nat) (P : Bytes) (hP : P.length ≤ 65535)
    (h1 h2 : List Add) (hc : ∀ a ∈ h1, Consistent P (addFact a)) (hm : ∀ a, a ∈ h1 ↔ a ∈ h2) :
    (bufRun (Buf.new ip) h1).isComplete = (bufRun (Buf.new ip) h2).isComplete ∧
    ((bufRun (Buf.new ip) h1).isComplete = true →
      (bufRun (Buf.new ip) h1).data = P.map some ∧ (bufRun (Buf.new ip) h2).data = P.map some) := by
  have hc2 : ∀ a ∈ h2, Consistent P (addFact a) := fun a ha => hc a ((hm a).2 ha)
  have r1 := reassembles_original ip P hP h1 hc
  have r2 := reassembles_original ip P hP h2 hc2
  have hiff : (bufRun (Buf.new ip) h1).isComplete = true ↔ (bufRun (Buf.new ip) h2).isComplete = true := by
    rw [r1.1, r2.1]
    simp only [hm]
  constructor
  · cases h1c : (bufRun (Buf.new ip) h1).isComplete <;> cases h2c : (bufRun (Buf.new ip) h2).isComplete <;>
      simp [h1c, h2c] at hiff ⊢
  · intro hcomp
    exact ⟨r1.2 hcomp, r2.2 (hiff.1 hcomp)⟩

/-- Inconsistent fragments are rejected (buffer): `add` fails exactly when the fragment is an unaligned non-last
    fragment, reaches beyond 65535, reaches beyond a known end, announces another end than the known
    one, or announces an end in front of a received section.  (A failing `add` returns no new
    buffer: the caller's buffer is untouched.) -/
theorem inconsistent_rejected (b : Buf) (fo : Nat) (mf : Bool) (p : Bytes) :
    (∃ e, b.add fo mf p = .error e) ↔
      (fo * 8 + p.length > 65535 ∨ (mf = true ∧ p.length % 8 ≠ 0) ∨
       (∃ e, b.endKnown = some e ∧ (e < fo * 8 + p.length ∨ (mf = false ∧ fo * 8 + p.length ≠ e))) ∨
       (mf = false ∧ ∃ r ∈ b.sections, fo * 8 + p.length < r.stop)) := by
  have hmax : (∃ r ∈ b.sections, fo * 8 + p.length < r.stop) ↔
      ∃ m, maxStop b.sections = some m ∧ m > fo * 8 + p.length := by
    constructor
    · rintro ⟨r, hr, hlt⟩
      cases hm : maxStop b.sections with
      | none => rw [maxStop_none hm] at hr; cases hr
      | some m =>
        have := maxStop_some hm
        have := le_extentR hr
        exact ⟨m, rfl, by omega⟩
    · rintro ⟨m, hm, hgt⟩
      have hme := maxStop_some hm
      exact exists_gt_of_extentR _ _ (by omega)
  have herr : (∃ e, b.add fo mf p = .error e) ↔ b.addCheck fo mf p ≠ none := by
    unfold Buf.add
    cases b.addCheck fo mf p <;> simp
  rw [hmax, herr]
  -- `b` is any buffer: `Lemmas.Defrag.addCheck_eq` needs one that represents accepted facts (`Inv`)
  unfold Buf.addCheck maxLen
  simp only []
  by_cases h1 : p.length > 65535
  · rw [if_pos h1]; exact iff_of_true nofun (Or.inl (by omega))
  rw [if_neg h1]
  by_cases h2 : fo * 8 + p.length > 65535
  · rw [if_pos h2]; exact iff_of_true nofun (Or.inl h2)
  rw [if_neg h2]
  by_cases h3 : mf = true ∧ p.length % 8 ≠ 0
  · rw [if_pos h3]; exact iff_of_true nofun (Or.inr (Or.inl h3))
  rw [if_neg h3]
  simp only [h2, h3, false_or]
  -- the check against the known end; what is left is the check against the received sections
  have hend : ∀ rest : Option Err, ∀ D : Prop, (rest ≠ none ↔ D) →
      ((match (match b.endKnown with
              | some previousEnd =>
                if previousEnd < fo * 8 + p.length ∨ (mf = false ∧ fo * 8 + p.length ≠ previousEnd) then
                  some (Err.conflictingEnd previousEnd (fo * 8 + p.length)) else none
              | none => none) with
        | some e => some e
        | none => rest) ≠ none ↔
      (∃ e, b.endKnown = some e ∧ (e < fo * 8 + p.length ∨ (mf = false ∧ fo * 8 + p.length ≠ e))) ∨ D) := by
    intro rest D hD
    cases b.endKnown with
    | none => simpa using hD
    | some e =>
      by_cases h4 : e < fo * 8 + p.length ∨ (mf = false ∧ fo * 8 + p.length ≠ e)
      · simp only [if_pos h4]; exact iff_of_true nofun (Or.inl ⟨e, rfl, h4⟩)
      · simpa [h4] using hD
  apply hend
  cases mf
  · cases maxStop b.sections with
    | none => simp
    | some m => by_cases h5 : m > fo * 8 + p.length <;> simp [h5]
  · simp

/-- Inconsistent fragments are rejected (pool): when `process_sliced_packet` returns an error, the set of
    streams under reconstruction and their buffers are exactly as before. -/
theorem error_state_unchanged (p : Pool) (pkt : Packet) (ts : Nat) (e : Err)
    (h : (p.process pkt ts).2 = .error e) : (p.process pkt ts).1.active = p.active := by
  cases pkt with
  | nonIp => rfl
  | plain k pl => rfl
  | frag k fo mf pl =>
    exact process_frag_cases (motive := fun x => x.2 = .error e → x.1.active = p.active) p k fo mf pl ts
      (fun _ _ => rfl) (fun _ _ h => nomatch h) (fun _ _ => rfl) (fun _ _ => rfl)
      (fun _ _ _ _ h => nomatch h) (fun _ _ _ _ h => nomatch h) h

/-- A packet that is not a fragment (IPv4 with MF clear and offset 0, IPv6 with
    such a fragment header or without one, ARP/other) gives `Ok(None)` and leaves the whole pool
    (streams and recycled vectors) untouched. -/
theorem unfragmented_passthrough (p : Pool) (k : Key) (pl : Bytes) (ts : Nat) :
    p.process (.frag k 0 false pl) ts = (p, .ok none) ∧
    p.process (.plain k pl) ts = (p, .ok none) ∧
    p.process .nonIp ts = (p, .ok none) :=
  ⟨process_notfrag p k 0 false pl ts (by simp), rfl, rfl⟩

/-- Processing a fragment of stream `k` leaves the buffer and time stamp of every
    other stream `k'` (any differing component: version, addresses, identification, protocol, VLAN
    ids, channel) exactly as they were. -/
theorem other_streams_untouched (p : Pool) (k k' : Key) (fo : Nat) (mf : Bool) (pl : Bytes)
    (ts : Nat) (hne : k' ≠ k) :
    lookup k' (p.process (.frag k fo mf pl) ts).1.active = lookup k' p.active := by
  exact process_frag_cases (motive := fun x => lookup k' x.1.active = lookup k' p.active) p k fo mf pl ts
    (fun _ => rfl) (fun _ _ => lookup_append_ne k k' _ hne _) (fun _ => rfl) (fun _ => rfl)
    (fun _ _ _ _ => lookup_erase_ne k k' hne _) (fun _ _ _ _ => lookup_replace_ne k k' _ hne _)

/-- the stream an operation belongs to -/
def opKey : Defrag.Op → Option Key
  | .deliver (.frag k _ _ _) _ => some k
  | .deliver (.plain k _) _ => some k
  | _ => none

/-- the history as stream `k` alone sees it: its own packets and the `retain` calls; the packets of
    all other streams, ARP frames and buffer returns are removed -/
def project (k : Key) : List Defrag.Op → List Defrag.Op
  | [] => []
  | op :: ops =>
    match op with
    | .retain m => .retain m :: project k ops
    | op => if opKey op = some k then op :: project k ops else project k ops

/-- the outputs of the operations of stream `k` -/
def outputsFor (k : Key) : List Defrag.Op → List Defrag.Out → List Defrag.Out
  | op :: ops, o :: os => if opKey op = some k then o :: outputsFor k ops os else outputsFor k ops os
  | _, _ => []

/-- **streams never mix** (history level): in any history, what the pool answers to the packets of
    stream `k` is what it answers when the packets of all other streams (any other key: other
    version, addresses, identification, protocol, VLAN ids or channel), the ARP frames and the buffer
    returns are removed from the history. -/
theorem streams_never_mix_from (k : Key) (ops : List Defrag.Op) : ∀ (s s' : Session),
    lookup k s.pool.active = lookup k s'.pool.active →
    UniqueKeys s.pool.active → UniqueKeys s'.pool.active →
    outputsFor k ops (s.run ops).2 = outputsFor k (project k ops) (s'.run (project k ops)).2 := by
  induction ops with
  | nil => intro s s' _ _ _; rfl
  | cons op rest ih =>
    intro s s' h hu hu'
    cases op with
    | deliver pkt ts =>
      cases pkt with
      | frag k2 fo mf pl =>
        by_cases hk : k2 = k
        · subst hk
          have hs := step_same_key k2 fo mf pl ts h hu hu'
          have := ih (s.step (.deliver (.frag k2 fo mf pl) ts)).1
            (s'.step (.deliver (.frag k2 fo mf pl) ts)).1 hs.2 (unique_step _ _ hu) (unique_step _ _ hu')
          simp only [project, opKey, if_true, Session.run, outputsFor, hs.1, this]
        · have hl : lookup k (s.step (.deliver (.frag k2 fo mf pl) ts)).1.pool.active =
              lookup k s'.pool.active := by
            rw [step_pool, other_streams_untouched s.pool k2 k fo mf pl ts (fun hh => hk hh.symm)]
            exact h
          have := ih (s.step (.deliver (.frag k2 fo mf pl) ts)).1 s' hl (unique_step _ _ hu) hu'
          have hne : ¬ (some k2 = some k) := fun hh => hk (Option.some.inj hh)
          simp only [project, opKey, hne, if_false, Session.run, outputsFor, this]
      | plain k2 pl =>
        by_cases hk : k2 = k
        · subst hk
          have := ih (s.step (.deliver (.plain k2 pl) ts)).1 (s'.step (.deliver (.plain k2 pl) ts)).1
            h hu hu'
          simp only [project, opKey, if_true, Session.run, outputsFor, this]
          rfl
        · have := ih (s.step (.deliver (.plain k2 pl) ts)).1 s' h hu hu'
          have hne : ¬ (some k2 = some k) := fun hh => hk (Option.some.inj hh)
          simp only [project, opKey, hne, if_false, Session.run, outputsFor, this]
      | nonIp =>
        have := ih (s.step (.deliver .nonIp ts)).1 s' h hu hu'
        have hne : ¬ ((none : Option Key) = some k) := fun hh => by cases hh
        simp only [project, opKey, hne, if_false, Session.run, outputsFor, this]
    | ret =>
      have hl : lookup k (s.step .ret).1.pool.active = lookup k s'.pool.active := by
        simp only [Session.step]
        split
        · exact h
        · exact h
      have := ih (s.step .ret).1 s' hl (unique_step _ _ hu) hu'
      have hne : ¬ ((none : Option Key) = some k) := fun hh => by cases hh
      simp only [project, opKey, hne, if_false, Session.run, outputsFor, this]
    | retain m =>
      have hl : lookup k (s.step (.retain m)).1.pool.active =
          lookup k (s'.step (.retain m)).1.pool.active := by
        have e1 := lookup_filter (fun e => decide (e.2.2 ≥ m)) k _ hu
        have e2 := lookup_filter (fun e => decide (e.2.2 ≥ m)) k _ hu'
        simp only [Session.step, Pool.retain]
        rw [e1, e2, h]
      have := ih (s.step (.retain m)).1 (s'.step (.retain m)).1 hl (unique_step _ _ hu)
        (unique_step _ _ hu')
      have hne : ¬ ((none : Option Key) = some k) := fun hh => by cases hh
      simp only [project, opKey, hne, if_false, Session.run, outputsFor, this]

/-- **streams never mix**, for a new pool. -/
theorem streams_never_mix (k : Key) (ops : List Defrag.Op) :
    outputsFor k ops (Session.new.run ops).2 =
      outputsFor k (project k ops) (Session.new.run (project k ops)).2 :=
  streams_never_mix_from k ops Session.new Session.new rfl trivial trivial

/-- From any pool state whose streams represent abstract streams (`Rel`; the
    recycled vectors and the outstanding results are arbitrary, i.e. may hold any stale bytes), every
    history of deliveries (fragments of any streams, unfragmented packets), buffer returns and
    `retain` calls produces, operation by operation, the outputs of the abstract pool:
    `Ok(None)` where the spec emits nothing, `Ok(Some(payload))` with protocol of the key and exactly
    the abstract payload (all cells written) where the spec emits, `Err(e)` with the corresponding
    error value where the spec rejects. -/
theorem pool_refines_from (ops : List Defrag.Op) : ∀ (s : Session) (sp : Spec.Reasm.Pool Key),
    Rel s.pool.active sp →
    AllMatch ops (s.run ops).2 (Spec.Reasm.run sp (ops.map specOp)).2 ∧
    Rel (s.run ops).1.pool.active (Spec.Reasm.run sp (ops.map specOp)).1 := by
  induction ops with
  | nil => intro s sp hr; exact ⟨trivial, hr⟩
  | cons op rest ih =>
    intro s sp hr
    have hs := step_refines hr op
    have := ih (s.step op).1 (Spec.Reasm.step sp (specOp op)).1 hs.1
    simp only [Session.run, List.map_cons, Spec.Reasm.run, AllMatch]
    exact ⟨⟨hs.2, this.1⟩, this.2⟩

/-- The same for a new pool. -/
theorem pool_refines (ops : List Defrag.Op) :
    AllMatch ops (Session.new.run ops).2 (Spec.Reasm.run [] (ops.map specOp)).2 :=
  (pool_refines_from ops Session.new [] trivial).1

/-- **payload exactly at completion**: from any reachable pool state (`Rel`), a delivery for stream
    `k` returns `Ok(Some(p))` iff the packet is a fragment, it is consistent with the facts of
    stream `k`, and with it the facts of stream `k` (and of no other stream) are complete for the
    first time; `p` then carries the protocol of the key and exactly the abstract payload.
    In every other case nothing is returned (`Ok(None)` or `Err`). -/
theorem payload_exactly_at_completion {s : Session} {sp : Spec.Reasm.Pool Key}
    (hr : Rel s.pool.active sp) (k : Key) (fo : Nat) (mf : Bool) (pl : Bytes) (ts : Nat)
    (p : Payload) :
    (s.step (.deliver (.frag k fo mf pl) ts)).2 = .ok p ↔
      (mf = true ∨ fo ≠ 0) ∧ check ((find k sp).getD []) (factOf fo mf pl) = none ∧
      ∃ bs, emit (factOf fo mf pl :: (find k sp).getD []) = some bs ∧
        p = { ipNumber := k.payloadIpNumber, isIpv4 := k.ver = 4, payload := bs.map some } := by
  have hm := (step_refines_frag hr k fo mf pl ts).2
  by_cases hfrag : mf = true ∨ fo ≠ 0
  · have hspec := mt (factOf_unfragmented_iff fo mf pl).1 (not_not_intro hfrag)
    simp only [deliver, hspec, if_false] at hm
    cases hc : check ((find k sp).getD []) (factOf fo mf pl) with
    | some r =>
      simp only [hc, OutMatches] at hm
      rw [hm]; simp
    | none =>
      cases he : emit (factOf fo mf pl :: (find k sp).getD []) with
      | none =>
        simp only [hc, he, OutMatches] at hm
        rw [hm]; simp
      | some bs =>
        simp only [hc, he, OutMatches] at hm
        rw [hm]
        simp only [hfrag, true_and, Option.some.injEq, exists_eq_left', Out.ok.injEq]
        exact eq_comm
  · have hspec := (factOf_unfragmented_iff fo mf pl).2 hfrag
    simp only [deliver, hspec, and_self, if_true, OutMatches] at hm
    rw [hm]; simp [hfrag]

/-- a returned payload whose stream consists of pieces of `P` is `P` (pool level). -/
theorem pool_returns_original {s : Session} {sp : Spec.Reasm.Pool Key}
    (hr : Rel s.pool.active sp) (k : Key) (fo : Nat) (mf : Bool) (pl : Bytes) (ts : Nat)
    (P : Bytes) (hall : ∀ g ∈ (find k sp).getD [], Consistent P g)
    (hf : Consistent P (factOf fo mf pl)) (p : Payload)
    (hok : (s.step (.deliver (.frag k fo mf pl) ts)).2 = .ok p) :
    p.payload = P.map some ∧ p.ipNumber = k.payloadIpNumber := by
  obtain ⟨_, _, bs, he, rfl⟩ := (payload_exactly_at_completion hr k fo mf pl ts p).1 hok
  have hall' : ∀ g ∈ factOf fo mf pl :: (find k sp).getD [], Consistent P g := by
    intro g hg
    rcases List.mem_cons.1 hg with rfl | hg
    · exact hf
    · exact hall g hg
  rw [emit_consistent hall' he]
  exact ⟨rfl, rfl⟩

/-- No stale bytes: in every history from any reachable pool state — whatever the recycled
    vectors hold (`s.pool.finishedDataBufs` is arbitrary) and whichever buffers are returned in
    between — every cell of every returned payload is `some`: it was written by `copy_from_slice`
    after the vector was handed to the stream, never merely exposed by `set_len`.
    (By `payload_exactly_at_completion` and `emit_bytes_delivered` the byte is the one an accepted
    fragment of the same stream key delivered for that position.) -/
theorem no_stale_bytes (ops : List Defrag.Op) (s : Session) (sp : Spec.Reasm.Pool Key)
    (hr : Rel s.pool.active sp) (p : Payload) (hp : Out.ok p ∈ (s.run ops).2) :
    ∀ c ∈ p.payload, c ≠ none := by
  obtain ⟨bs, hbs⟩ := allMatch_ok (pool_refines_from ops s sp hr).1 p hp
  intro c hc
  rw [hbs] at hc
  obtain ⟨v, _, rfl⟩ := List.mem_map.1 hc
  simp

/-- every byte of a returned payload was delivered, at its position, by an accepted fragment of the
    stream (or by the completing fragment itself). -/
theorem returned_bytes_delivered {s : Session} {sp : Spec.Reasm.Pool Key}
    (hr : Rel s.pool.active sp) (k : Key) (fo : Nat) (mf : Bool) (pl : Bytes) (ts : Nat)
    (p : Payload) (hok : (s.step (.deliver (.frag k fo mf pl) ts)).2 = .ok p) (i : Nat)
    (hi : i < p.payload.length) :
    ∃ f ∈ factOf fo mf pl :: (find k sp).getD [], f.off ≤ i ∧ i < f.stop ∧
      p.payload[i]? = (f.bytes[i - f.off]?).map some := by
  obtain ⟨_, _, bs, he, rfl⟩ := (payload_exactly_at_completion hr k fo mf pl ts p).1 hok
  simp only [List.length_map] at hi
  obtain ⟨f, hf, h1, h2, h3⟩ := emit_bytes_delivered he i hi
  exact ⟨f, hf, h1, h2, by simp only [List.getElem?_map, h3]⟩

/-- key uniqueness is kept by every history -/
theorem unique_keys_invariant (ops : List Defrag.Op) : ∀ (s : Session), UniqueKeys s.pool.active →
    UniqueKeys (s.run ops).1.pool.active := by
  induction ops with
  | nil => intro s h; exact h
  | cons op rest ih =>
    intro s h
    simp only [Session.run]
    exact ih _ (unique_step s op h)

/-- **exactly once**: the delivery that returns a payload removes the stream; afterwards stream `k`
    is not under reconstruction any more (a further fragment with that key opens a new, empty
    stream on a cleared buffer), so the datagram cannot be returned a second time. -/
theorem stream_forgotten (p : Pool) (k : Key) (fo : Nat) (mf : Bool) (pl : Bytes) (ts : Nat)
    (hu : UniqueKeys p.active) (r : Payload)
    (h : (p.process (.frag k fo mf pl) ts).2 = .ok (some r)) :
    lookup k (p.process (.frag k fo mf pl) ts).1.active = none := by
  exact process_frag_cases
    (motive := fun x => x.2 = .ok (some r) → lookup k x.1.active = none) p k fo mf pl ts
    (fun _ h => nomatch h) (fun _ _ h => nomatch h) (fun _ h => nomatch h) (fun _ h => nomatch h)
    (fun _ _ _ _ _ => lookup_erase_self k _ hu) (fun _ _ _ _ h => nomatch h) h

/-- **evicted streams leave `active`**: after `retain(f)` exactly the streams whose time stamp
    satisfies `f` are still under reconstruction, with unchanged buffers, in unchanged order. -/
theorem retain_evicts (p : Pool) (f : Nat → Bool) :
    (p.retain f).active = p.active.filter (fun e => f e.2.2) ∧
    ∀ e ∈ (p.retain f).active, f e.2.2 = true ∧ e ∈ p.active := by
  refine ⟨rfl, ?_⟩
  intro e he
  have := List.mem_filter.1 (show e ∈ p.active.filter (fun e => f e.2.2) from he)
  exact ⟨this.2, this.1⟩

/-- a concrete out-of-order history completes (the definitions compute) -/
example : (bufRun (Buf.new 17) [(1, false, [9, 10]), (0, true, [1, 2, 3, 4, 5, 6, 7, 8])]).isComplete = true := by
  decide
example : (bufRun (Buf.new 17) [(1, false, [9, 10]), (0, true, [1, 2, 3, 4, 5, 6, 7, 8])]).data =
    [1, 2, 3, 4, 5, 6, 7, 8, 9, 10].map some := by decide
/-- the hypothesis `Consistent` of `reassembles_original` is satisfiable by non-trivial fragments -/
example : ∀ a ∈ [((1 : Nat), false, ([9, 10] : Bytes)), (0, true, [1, 2, 3, 4, 5, 6, 7, 8]), (0, true, [1, 2, 3, 4, 5, 6, 7, 8])],
    Consistent [1, 2, 3, 4, 5, 6, 7, 8, 9, 10] (addFact a) := by decide
/-- the F10 history (fixed by a44b17c): the short last fragment is rejected, nothing is complete -/
example : (Buf.addCheck (bufRun (Buf.new 17) [(0, true, List.replicate 16 1), (2, true, List.replicate 16 2)]) 1 false
    (List.replicate 8 3)) = some (.conflictingEnd 32 16) := by decide
/-- stale cells are expressible: a buffer with a hole holds `none` there (and is not complete) -/
example : (bufRun (Buf.new 17) [(1, false, [9])]).data =
    [none, none, none, none, none, none, none, none, some 9] := by decide
/-- the hypothesis `Rel` of `pool_refines_from` / `no_stale_bytes` holds for a new pool whose
    recycled vectors hold arbitrary stale content, and (second part of `pool_refines_from`) for every
    state reached from it -/
example (junk : List (List Cell)) (secs : List (List Range)) :
    Rel ({ pool := { active := [], finishedDataBufs := junk, finishedSectionBufs := secs },
           outstanding := [] } : Session).pool.active [] := trivial
/-- `project` keeps the packets of the stream and the `retain` calls, drops the rest -/
example :
    let k1 : Key := { ver := 4, source := [10, 0, 0, 1], destination := [10, 0, 0, 2], identification := 7,
                      payloadIpNumber := 17, vlanIds := [], channelId := 0 }
    let k2 : Key := { k1 with channelId := 1 }
    project k1 [.deliver (.frag k1 0 true [1, 2, 3, 4, 5, 6, 7, 8]) 0, .deliver (.frag k2 0 true [9, 9, 9, 9, 9, 9, 9, 9]) 1,
                .ret, .retain 0, .deliver (.frag k1 1 false [9]) 2] =
      [.deliver (.frag k1 0 true [1, 2, 3, 4, 5, 6, 7, 8]) 0, .retain 0, .deliver (.frag k1 1 false [9]) 2] := by
  simp [project, opKey]
/-- `UniqueKeys` holds for a new pool -/
example : UniqueKeys Session.new.pool.active := trivial

end EpModel.Props.C11
