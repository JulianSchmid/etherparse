import EpModel.Lemmas.CodecNetIpv6
import EpModel.Lemmas.CodecNetIpv6Frag
import EpModel.Lemmas.CodecNetIpv4
import EpModel.Lemmas.CodecNetAuth
import EpModel.Lemmas.CodecNetRawExt
import EpModel.Model.Codec.NetIpv4Exts
/-
  C08 (network-layer half) — every header value survives encode → decode unchanged.

  Models: EpModel.Model.Codec.Net{Ipv6,Ipv6Frag,Ipv4,Auth,RawExt} (net/*.rs, struct and slice
  types).  Per type T:
    encoders_agree  WF h → all serialisers the type has (to_bytes, write into a Vec, for IPv4 also
                    write_raw) give the same bytes, of length header_len()        [none of these five
                    types has a write_to_slice]
    decode_encode   WF h → from_slice (to_bytes h ++ tail) = Ok (h, tail)
    decoded_wf      from_slice b = Ok (h, rest) → WF h
    encode_decode   from_slice b = Ok (h, rest) → to_bytes h = maskReserved T (first header_len bytes
                    of b) ∧ from_slice (to_bytes h ++ rest) = Ok (h, rest)
    slice_eq_struct THeaderSlice::from_slice(b).to_header() = THeader::from_slice(b).0, and the
                    slice covers exactly the consumed bytes
  Ipv4Extensions (Model.Codec.NetIpv4Exts: the optional authentication header behind an IPv4
  header) is a composite whose `write` / `from_slice` take the protocol number in front of it:
  its three theorems are stated with that `start` number and with `next_header`.
  All statements are over every value / every byte string; no size bounds.
-/
namespace EpModel.Props.C08Net
open EpModel EpModel.CodecNet EpModel.Lemmas.CodecNet

namespace Ipv6
open EpModel.Lemmas.CodecNet.Ipv6

/-- `to_bytes` and `write` produce the same 40 = `header_len()` bytes. -/
theorem encoders_agree (h : Ipv6Header) (wf : h.WF) :
    h.toBytes = h.writeOut ∧ h.toBytes.length = h.headerLen :=
  ⟨rfl, toBytes_length h wf⟩

/-- decoding the serialised header (followed by anything) returns the value and the untouched
    remainder. -/
theorem decode_encode (h : Ipv6Header) (tail : Bytes) (wf : h.WF) :
    Ipv6Header.fromSlice (h.toBytes ++ tail) = .ok (h, tail) := by
  unfold Ipv6Header.fromSlice
  rw [slice_of_toBytes h tail wf]
  simp only [toHeader_toBytes h wf]
  rw [List.drop_left' (toBytes_length h wf)]

/-- the IPv6 header has no reserved bits. -/
theorem maskReserved_id (b : Bytes) : maskReserved .ipv6 b = b := rfl

/-- re-encoding an accepted byte string reproduces its first 40 bytes exactly, and decoding the
    re-encoded bytes yields the same value and remainder again. -/
theorem encode_decode (b : Bytes) (h : Ipv6Header) (rest : Bytes)
    (hd : Ipv6Header.fromSlice b = .ok (h, rest)) :
    h.toBytes = maskReserved .ipv6 (b.take h.headerLen) ∧
      Ipv6Header.fromSlice (h.toBytes ++ rest) = .ok (h, rest) := by
  obtain ⟨hlen, hver, rfl, rfl⟩ := fromSlice_ok b h rest hd
  have hl : (b.take 40).length = 40 := List.length_take_of_le hlen
  exact ⟨toBytes_toHeader _ hl (by rwa [Lemmas.Codec.bAt_take _ _ _ (by decide)]), decode_encode _ _ (toHeader_wf _ hl)⟩

/-- everything `from_slice` accepts decodes to an in-range value. -/
theorem decoded_wf (b : Bytes) (h : Ipv6Header) (rest : Bytes)
    (hd : Ipv6Header.fromSlice b = .ok (h, rest)) : h.WF := by
  obtain ⟨hlen, _, rfl, _⟩ := fromSlice_ok b h rest hd
  exact toHeader_wf _ (by simp; omega)

/-- the slice type and the struct decoder agree: same errors, `to_header()` is the decoded struct,
    the slice is exactly the consumed prefix and the rest starts behind it. -/
theorem slice_eq_struct (b : Bytes) :
    Ipv6Header.fromSlice b =
      (Ipv6HeaderSlice.fromSlice b).map (fun s => (s.toHeader, b.drop s.slice.length)) := by
  unfold Ipv6Header.fromSlice Ipv6HeaderSlice.fromSlice
  by_cases hlen : b.length < 40
  · simp [hlen, Except.map]
  · by_cases hver : 6 = bAt b 0 >>> 4
    · have : min 40 b.length = 40 := by omega
      simp [hlen, ← hver, Except.map, this]
    · simp [hlen, hver, Except.map]

/-- the slice accessors that are not struct fields are functions of the struct fields. -/
theorem slice_accessors (s : Ipv6HeaderSlice) :
    s.ecn = s.toHeader.trafficClass % 4 ∧ s.dscp = s.toHeader.trafficClass / 4 % 64 ∧
      s.headerLen = s.toHeader.headerLen := by
  simp [Ipv6HeaderSlice.ecn, Ipv6HeaderSlice.dscp, Ipv6HeaderSlice.toHeader,
    Ipv6HeaderSlice.headerLen, Ipv6Header.headerLen, and3, and63, Nat.shiftRight_eq_div_pow]

example : Ipv6Header.WF Ipv6Header.sampleMax := by decide
example : Ipv6Header.fromSlice (Ipv6Header.sampleMax.toBytes ++ [1, 2, 3]) =
    .ok (Ipv6Header.sampleMax, [1, 2, 3]) := by rfl

end Ipv6

namespace Ipv6Frag
open EpModel.Lemmas.CodecNet.Ipv6Frag

/-- `to_bytes` and `write` produce the same 8 = `header_len()` bytes. -/
theorem encoders_agree (h : Ipv6FragmentHeader) :
    h.toBytes = h.writeOut ∧ h.toBytes.length = h.headerLen :=
  ⟨rfl, rfl⟩

theorem decode_encode (h : Ipv6FragmentHeader) (tail : Bytes) (wf : h.WF) :
    Ipv6FragmentHeader.fromSlice (h.toBytes ++ tail) = .ok (h, tail) := by
  unfold Ipv6FragmentHeader.fromSlice
  rw [slice_of_toBytes h tail]
  simp only [toHeader_toBytes h wf]
  rw [List.drop_left' (toBytes_length h)]

/-- the reserved bits written out: byte 1 and bits 1–2 of byte 3 are cleared, nothing else. -/
theorem maskReserved_spec (b0 b1 b2 b3 b4 b5 b6 b7 : UInt8) :
    maskReserved .ipv6Frag [b0, b1, b2, b3, b4, b5, b6, b7]
      = [b0, 0, b2, u8 (b3.toNat &&& 0xf9), b4, b5, b6, b7] :=
  maskReserved_eq b0 b1 b2 b3 b4 b5 b6 b7

/-- re-encoding an accepted byte string reproduces its first 8 bytes except for the reserved
    byte/bits (which `to_bytes` writes as zero), and decoding again gives the same value. -/
theorem encode_decode (b : Bytes) (h : Ipv6FragmentHeader) (rest : Bytes)
    (hd : Ipv6FragmentHeader.fromSlice b = .ok (h, rest)) :
    h.toBytes = maskReserved .ipv6Frag (b.take h.headerLen) ∧
      Ipv6FragmentHeader.fromSlice (h.toBytes ++ rest) = .ok (h, rest) := by
  obtain ⟨hlen, rfl, rfl⟩ := fromSlice_ok b h rest hd
  exact ⟨toBytes_toHeader _ (List.length_take_of_le hlen), decode_encode _ _ (toHeader_wf _)⟩

theorem decoded_wf (b : Bytes) (h : Ipv6FragmentHeader) (rest : Bytes)
    (hd : Ipv6FragmentHeader.fromSlice b = .ok (h, rest)) : h.WF := by
  obtain ⟨_, rfl, _⟩ := fromSlice_ok b h rest hd
  exact toHeader_wf _

theorem slice_eq_struct (b : Bytes) :
    Ipv6FragmentHeader.fromSlice b =
      (Ipv6FragmentHeaderSlice.fromSlice b).map (fun s => (s.toHeader, b.drop s.slice.length)) := by
  unfold Ipv6FragmentHeader.fromSlice Ipv6FragmentHeaderSlice.fromSlice
  by_cases hlen : b.length < 8
  · simp [hlen, Except.map]
  · have : min 8 b.length = 8 := by omega
    simp [hlen, Except.map, this]

/-- `is_fragmenting_payload` of slice and struct agree. -/
theorem slice_accessors (s : Ipv6FragmentHeaderSlice) :
    s.isFragmentingPayload = s.toHeader.isFragmentingPayload := rfl

example : Ipv6FragmentHeader.WF Ipv6FragmentHeader.sampleMax := by decide
example : Ipv6FragmentHeader.sampleMax.toBytes = [255, 0, 0xff, 0xf9, 255, 255, 255, 255] := by rfl
/-- a byte string with all reserved bits set is accepted and re-encoded with them cleared. -/
example : (Ipv6FragmentHeader.fromSlice [6, 0xff, 0xff, 0xff, 1, 2, 3, 4, 9]).map
    (fun r => (r.1.toBytes, r.2)) = .ok ([6, 0, 0xff, 0xf9, 1, 2, 3, 4], [9]) := by rfl

end Ipv6Frag

namespace Ipv4
open EpModel.Lemmas.CodecNet.Ipv4

/-- `to_bytes` (60 byte array cut by `set_len`) and `write_raw` produce the same
    `header_len()` = 20 + options bytes; `write` produces them with the checksum field replaced by
    `calc_header_checksum()` — hence the same bytes exactly when the stored checksum is the
    computed one (`ChecksumOk`). -/
theorem encoders_agree (h : Ipv4Header) (wf : h.WF) :
    h.toBytes = h.writeRaw ∧ h.toBytes.length = h.headerLen ∧
      h.writeOut = ({ h with headerChecksum := h.calcHeaderChecksum } : Ipv4Header).writeRaw ∧
      (h.ChecksumOk → h.toBytes = h.writeOut) := by
  refine ⟨toBytes_eq h wf, toBytes_length h wf, rfl, ?_⟩
  intro hc
  rw [toBytes_eq h wf]
  unfold Ipv4Header.writeOut Ipv4Header.writeInternal
  rw [← hc]

/-- `write` and `to_bytes` can only differ in the checksum bytes 10–11. -/
theorem write_differs_only_in_checksum (h : Ipv4Header) (wf : h.WF) :
    h.writeOut.take 10 = h.toBytes.take 10 ∧ h.writeOut.drop 12 = h.toBytes.drop 12 := by
  rw [toBytes_eq h wf]
  unfold Ipv4Header.writeOut Ipv4Header.writeInternal
  rw [fixedPart_eq h _ wf, fixedPart_eq h _ wf]
  simp

theorem decode_encode (h : Ipv4Header) (tail : Bytes) (wf : h.WF) :
    Ipv4Header.fromSlice (h.toBytes ++ tail) = .ok (h, tail) := by
  unfold Ipv4Header.fromSlice
  rw [slice_of_toBytes h tail wf]
  simp only [toHeader_toBytes h wf, Ipv4Header.headerLen]
  rw [List.drop_left' (toBytes_length h wf)]

/-- the reserved bit written out: bit 7 of byte 6 (flags bit 0) is cleared, nothing else. -/
theorem maskReserved_spec (b0 b1 b2 b3 b4 b5 b6 : UInt8) (r : Bytes) :
    maskReserved .ipv4 (b0 :: b1 :: b2 :: b3 :: b4 :: b5 :: b6 :: r)
      = b0 :: b1 :: b2 :: b3 :: b4 :: b5 :: u8 (b6.toNat &&& 0x7f) :: r :=
  maskReserved_eq b0 b1 b2 b3 b4 b5 b6 r

/-- re-encoding an accepted byte string reproduces its first `ihl*4` bytes (fixed part and
    options) except for the reserved flag bit, and decoding again gives the same value. -/
theorem encode_decode (b : Bytes) (h : Ipv4Header) (rest : Bytes)
    (hd : Ipv4Header.fromSlice b = .ok (h, rest)) :
    h.toBytes = maskReserved .ipv4 (b.take h.headerLen) ∧
      Ipv4Header.fromSlice (h.toBytes ++ rest) = .ok (h, rest) := by
  obtain ⟨_, hver, hihl, hfull, rfl, rfl⟩ := fromSlice_ok b h rest hd
  obtain ⟨hl, h20, h60, h4, hb0⟩ := take_ok b hver hihl hfull
  refine ⟨?_, decode_encode _ _ (toHeader_wf _ h20 h60 h4)⟩
  rw [headerLen_toHeader _ h20, hl]
  exact toBytes_toHeader _ h20 h60 h4 hb0

theorem decoded_wf (b : Bytes) (h : Ipv4Header) (rest : Bytes)
    (hd : Ipv4Header.fromSlice b = .ok (h, rest)) : h.WF := by
  obtain ⟨_, hver, hihl, hfull, rfl, _⟩ := fromSlice_ok b h rest hd
  obtain ⟨_, h20, h60, h4, _⟩ := take_ok b hver hihl hfull
  exact toHeader_wf _ h20 h60 h4

theorem slice_eq_struct (b : Bytes) :
    Ipv4Header.fromSlice b =
      (Ipv4HeaderSlice.fromSlice b).map (fun s => (s.toHeader, b.drop s.slice.length)) := by
  unfold Ipv4Header.fromSlice
  cases hs : Ipv4HeaderSlice.fromSlice b with
  | error e => rfl
  | ok s =>
    obtain ⟨_, _, hihl, hfull, hsl⟩ := sliceFromSlice_ok b s hs
    simp only [Except.map, headerLen_toHeader s (by rw [hsl, List.length_take_of_le hfull]; omega)]

/-- slice accessors that are not struct fields, as functions of the slice / the struct. -/
theorem slice_accessors (s : Ipv4HeaderSlice) :
    s.isFragmentingPayload = (s.toHeader.moreFragments || decide (0 ≠ s.toHeader.fragmentOffset)) ∧
      s.ihl = bAt s.slice 0 % 16 ∧ s.version = bAt s.slice 0 / 16 :=
  ⟨rfl, and15 _, Nat.shiftRight_eq_div_pow _ _⟩

example : Ipv4Header.WF Ipv4Header.sampleMax := by decide
example : Ipv4Header.sampleMax.options.length = 40 := by rfl
/-- the extreme sample (40 option bytes) also carries the checksum `write` computes. -/
example : Ipv4Header.ChecksumOk Ipv4Header.sampleMax := by
  unfold Ipv4Header.ChecksumOk Ipv4Header.calcHeaderChecksum Ipv4Header.sampleMax
  simp only []
  rw [addSlice64_step _ _ (by decide), addSlice64_step _ _ (by decide),
    addSlice64_step _ _ (by decide), addSlice64_step _ _ (by decide),
    addSlice64_step _ _ (by decide)]
  have : List.drop 8 (List.drop 8 (List.drop 8 (List.drop 8 (List.drop 8
      (List.replicate 40 (255 : UInt8)))))) = [] := by decide
  rw [this, EpModel.Lemmas.Checksum.addSlice64_nil]
  decide

end Ipv4

namespace Auth
open EpModel.Lemmas.CodecNet.Auth

/-- `to_bytes` (whole 1016 byte buffer appended, then `set_len`) and `write` (fixed part, then
    `raw_icv()`) produce the same `header_len()` = 12 + ICV bytes; `raw_icv()` is the ICV. -/
theorem encoders_agree (h : IpAuthHeader) (wf : h.WF) :
    h.toBytes = h.writeOut ∧ h.toBytes.length = h.headerLen ∧ h.rawIcvAcc = h.rawIcv := by
  refine ⟨?_, ?_, rawIcvAcc_eq h wf⟩
  · rw [toBytes_eq h wf]; unfold IpAuthHeader.writeOut; rw [rawIcvAcc_eq h wf]
  · rw [toBytes_length h wf, headerLen_eq h wf]

theorem decode_encode (h : IpAuthHeader) (tail : Bytes) (wf : h.WF) :
    IpAuthHeader.fromSlice (h.toBytes ++ tail) = .ok (h, tail) := by
  unfold IpAuthHeader.fromSlice
  rw [slice_of_toBytes h tail wf]
  simp only [toHeader_toBytes h wf]
  rw [List.drop_left' rfl]

/-- the reserved bytes written out: bytes 2 and 3 are zeroed, nothing else. -/
theorem maskReserved_spec (b0 b1 b2 b3 : UInt8) (r : Bytes) :
    maskReserved .ipAuth (b0 :: b1 :: b2 :: b3 :: r) = b0 :: b1 :: 0 :: 0 :: r :=
  maskReserved_eq b0 b1 b2 b3 r

theorem decoded_wf (b : Bytes) (h : IpAuthHeader) (rest : Bytes)
    (hd : IpAuthHeader.fromSlice b = .ok (h, rest)) : h.WF := by
  obtain ⟨hlen, hp, hfull, rfl, rfl⟩ := fromSlice_ok b h rest hd
  have := bAt_lt b 1
  refine ⟨bAt_lt _ _, be32_lt _ _, be32_lt _ _, ?_, ?_⟩ <;> simp <;> omega

/-- re-encoding an accepted byte string reproduces its first `(payload_len+2)*4` bytes except for
    the two reserved bytes, and decoding again gives the same value. -/
theorem encode_decode (b : Bytes) (h : IpAuthHeader) (rest : Bytes)
    (hd : IpAuthHeader.fromSlice b = .ok (h, rest)) :
    h.toBytes = maskReserved .ipAuth (b.take h.headerLen) ∧
      IpAuthHeader.fromSlice (h.toBytes ++ rest) = .ok (h, rest) := by
  have hwf := decoded_wf b h rest hd
  refine ⟨?_, decode_encode _ _ hwf⟩
  rw [headerLen_eq h hwf]
  obtain ⟨hlen, hp, hfull, rfl, rfl⟩ := fromSlice_ok b h rest hd
  have hlt := bAt_lt b 1
  have hL : 12 + ((b.take ((bAt b 1 + 2) * 4)).drop 12).length = (bAt b 1 + 2) * 4 := by
    simp; omega
  have hl : (b.take ((bAt b 1 + 2) * 4)).length = (bAt b 1 + 2) * 4 := List.length_take_of_le hfull
  rw [hL, ← Lemmas.Codec.bAt_take b ((bAt b 1 + 2) * 4) 0 (by omega), ← Lemmas.Codec.be32_take b ((bAt b 1 + 2) * 4) 4 (by omega),
    ← Lemmas.Codec.be32_take b ((bAt b 1 + 2) * 4) 8 (by omega)]
  exact toBytes_toHeader _ (by rwa [Lemmas.Codec.bAt_take _ _ _ (by omega)]) (by rw [hl, Lemmas.Codec.bAt_take _ _ _ (by omega)])

/-- the `unwrap()` inside `to_header` cannot fail for any input of `from_slice`. -/
theorem no_unwrap_panic (b : Bytes) : IpAuthHeader.fromSlice b ≠ .error .panicUnwrap :=
  fromSlice_no_panic b

/-- slice type and struct decoder agree: same errors, `to_header()` succeeds (no `unwrap` panic)
    and is the decoded struct, the slice is the consumed prefix. -/
theorem slice_eq_struct (b : Bytes) :
    (IpAuthHeader.fromSlice b).map (fun r => (some r.1, r.2)) =
      (IpAuthHeaderSlice.fromSlice b).map (fun s => (s.toHeader, b.drop s.slice.length)) := by
  unfold IpAuthHeader.fromSlice
  cases hs : IpAuthHeaderSlice.fromSlice b with
  | error e => rfl
  | ok s =>
    obtain ⟨h1, h2, h3, _⟩ := sliceFromSlice_ok b s hs
    simp only [toHeader_eq s h1 h2 h3, Except.map]

/-- the slice accessors are the fields of `to_header()`. -/
theorem slice_accessors (s : IpAuthHeaderSlice) (h : IpAuthHeader) (hh : s.toHeader = some h) :
    h.nextHeader = s.nextHeader ∧ h.spi = s.spi ∧ h.sequenceNumber = s.sequenceNumber ∧
      h.rawIcv = s.rawIcv := by
  unfold IpAuthHeaderSlice.toHeader IpAuthHeader.new at hh
  split at hh
  · rename_i h' heq
    split at heq
    · simp at heq
    · split at heq
      · simp at heq
      · simp only [Except.ok.injEq] at heq
        simp only [Option.some.injEq] at hh
        subst hh; subst heq
        exact ⟨rfl, rfl, rfl, rfl⟩
  · simp at hh

example : IpAuthHeader.sampleMax.rawIcv.length = 1016 := List.length_replicate
example : IpAuthHeader.WF IpAuthHeader.sampleMax := sampleMax_wf

end Auth

namespace RawExt
open EpModel.Lemmas.CodecNet.RawExt

/-- `to_bytes` and `write` produce the same `header_len()` = 2 + payload bytes; `payload()` is
    the payload. -/
theorem encoders_agree (h : Ipv6RawExtHeader) (wf : h.WF) :
    h.toBytes = h.writeOut ∧ h.toBytes.length = h.headerLen ∧ h.payloadAcc = h.payload := by
  refine ⟨rfl, ?_, payloadAcc_eq h wf⟩
  rw [toBytes_length h wf, headerLen_eq h wf]

theorem decode_encode (h : Ipv6RawExtHeader) (tail : Bytes) (wf : h.WF) :
    Ipv6RawExtHeader.fromSlice (h.toBytes ++ tail) = .ok (h, tail) := by
  unfold Ipv6RawExtHeader.fromSlice
  rw [slice_of_toBytes h tail wf]
  simp only [toHeader_toBytes h wf]
  rw [List.drop_left' rfl]

/-- the raw extension header has no reserved bits (the header_ext_len byte is regenerated from
    the payload length). -/
theorem maskReserved_id (b : Bytes) : maskReserved .ipv6RawExt b = b := rfl

theorem decoded_wf (b : Bytes) (h : Ipv6RawExtHeader) (rest : Bytes)
    (hd : Ipv6RawExtHeader.fromSlice b = .ok (h, rest)) : h.WF := by
  obtain ⟨hlen, hfull, rfl, rfl⟩ := fromSlice_ok b h rest hd
  have := bAt_lt b 1
  refine ⟨bAt_lt _ _, ?_, ?_, ?_⟩ <;> simp <;> omega

/-- re-encoding an accepted byte string reproduces its first `(hdr_ext_len+1)*8` bytes exactly,
    and decoding again gives the same value. -/
theorem encode_decode (b : Bytes) (h : Ipv6RawExtHeader) (rest : Bytes)
    (hd : Ipv6RawExtHeader.fromSlice b = .ok (h, rest)) :
    h.toBytes = maskReserved .ipv6RawExt (b.take h.headerLen) ∧
      Ipv6RawExtHeader.fromSlice (h.toBytes ++ rest) = .ok (h, rest) := by
  have hwf := decoded_wf b h rest hd
  refine ⟨?_, decode_encode _ _ hwf⟩
  rw [headerLen_eq h hwf, maskReserved_id]
  obtain ⟨hlen, hfull, rfl, rfl⟩ := fromSlice_ok b h rest hd
  have hlt := bAt_lt b 1
  have hL : 2 + ((b.take ((bAt b 1 + 1) * 8)).drop 2).length = (bAt b 1 + 1) * 8 := by
    simp; omega
  have hl : (b.take ((bAt b 1 + 1) * 8)).length = (bAt b 1 + 1) * 8 := List.length_take_of_le hfull
  rw [hL, ← Lemmas.Codec.bAt_take b ((bAt b 1 + 1) * 8) 0 (by omega)]
  exact toBytes_toHeader _ (by rw [hl, Lemmas.Codec.bAt_take _ _ _ (by omega)])

/-- the `unwrap()` inside `to_header` cannot fail for any input of `from_slice`. -/
theorem no_unwrap_panic (b : Bytes) : Ipv6RawExtHeader.fromSlice b ≠ .error .panicUnwrap :=
  fromSlice_no_panic b

/-- slice type and struct decoder agree: same errors, `to_header()` succeeds and is the decoded
    struct, the slice is the consumed prefix. -/
theorem slice_eq_struct (b : Bytes) :
    (Ipv6RawExtHeader.fromSlice b).map (fun r => (some r.1, r.2)) =
      (Ipv6RawExtHeaderSlice.fromSlice b).map (fun s => (s.toHeader, b.drop s.slice.length)) := by
  unfold Ipv6RawExtHeader.fromSlice
  cases hs : Ipv6RawExtHeaderSlice.fromSlice b with
  | error e => rfl
  | ok s =>
    obtain ⟨h8, hfull, hsl⟩ := sliceFromSlice_ok b s hs
    have hlt := bAt_lt b 1
    have hl : s.slice.length = (bAt b 1 + 1) * 8 := by rw [hsl]; simp; omega
    simp only [toHeader_eq s (by omega) (by omega) (by omega), Except.map]

example : Ipv6RawExtHeader.sampleMax.payload.length = 2046 := List.length_replicate
example : Ipv6RawExtHeader.WF Ipv6RawExtHeader.sampleMax := by
  have hl : Ipv6RawExtHeader.sampleMax.payload.length = 2046 := List.length_replicate
  refine ⟨by decide, ?_, ?_, ?_⟩ <;> rw [hl] <;> decide

end RawExt

namespace Ipv4Exts
open EpModel.Lemmas.CodecNet.Auth

/-- for a consistent value `write` succeeds with exactly `header_len()` bytes. -/
theorem encoders_agree (e : Ipv4Extensions) (start : Nat) (wf : e.WF start) :
    ∃ bytes, e.writeOut start = .ok bytes ∧ bytes.length = e.headerLen := by
  obtain ⟨auth⟩ := e
  cases auth with
  | none => exact ⟨[], rfl, rfl⟩
  | some h =>
    obtain ⟨hs, hwf⟩ := wf
    refine ⟨h.toBytes, by simp [Ipv4Extensions.writeOut, hs], ?_⟩
    show h.toBytes.length = h.headerLen
    rw [toBytes_length h hwf, headerLen_eq h hwf]

/-- decoding the written bytes (followed by anything) with the same start protocol number returns
    the value, the next protocol number `next_header` announces and the untouched remainder. -/
theorem decode_encode (e : Ipv4Extensions) (start : Nat) (tail : Bytes) (wf : e.WF start) :
    ∃ bytes next, e.writeOut start = .ok bytes ∧ e.nextHeader start = .ok next ∧
      Ipv4Extensions.fromSlice start (bytes ++ tail) = .ok (e, next, tail) := by
  obtain ⟨auth⟩ := e
  cases auth with
  | none =>
    have hs : ipNumberAuth ≠ start := wf
    refine ⟨[], start, rfl, rfl, ?_⟩
    simp [Ipv4Extensions.fromSlice, Ipv4ExtensionsSlice.fromSlice, hs,
      Ipv4ExtensionsSlice.toHeader]
  | some h =>
    obtain ⟨hs, hwf⟩ := wf
    refine ⟨h.toBytes, h.nextHeader, by simp [Ipv4Extensions.writeOut, hs],
      by simp [Ipv4Extensions.nextHeader, hs], ?_⟩
    have hnh : IpAuthHeaderSlice.nextHeader { slice := h.toBytes } = h.nextHeader := by
      have := toHeader_toBytes h hwf
      have ⟨_, _, _, h4, h5⟩ := hwf
      have hl : (IpAuthHeaderSlice.mk h.toBytes).slice.length = 12 + h.rawIcv.length := toBytes_length h hwf
      rw [toHeader_eq _ (by omega) (by omega) (by omega)] at this
      simp only [Option.some.injEq] at this
      exact congrArg IpAuthHeader.nextHeader this
    simp only [Ipv4Extensions.fromSlice, Ipv4ExtensionsSlice.fromSlice, hs, if_true,
      slice_of_toBytes h tail hwf, Ipv4ExtensionsSlice.toHeader, toHeader_toBytes h hwf, hnh]
    rw [List.drop_left' rfl]

/-- everything the decoder accepts is a consistent value, and writing it back with the same start
    number reproduces the consumed bytes up to the AH reserved bytes and decodes to the same
    result again. -/
theorem encode_decode (start : Nat) (b : Bytes) (e : Ipv4Extensions) (next : Nat) (rest : Bytes)
    (hd : Ipv4Extensions.fromSlice start b = .ok (e, next, rest)) :
    e.WF start ∧ e.nextHeader start = .ok next ∧
      e.writeOut start = .ok (maskReserved .ipAuth (b.take e.headerLen)) ∧
      Ipv4Extensions.fromSlice start (maskReserved .ipAuth (b.take e.headerLen) ++ rest)
        = .ok (e, next, rest) := by
  unfold Ipv4Extensions.fromSlice Ipv4ExtensionsSlice.fromSlice at hd
  by_cases hs : ipNumberAuth = start
  · simp only [hs, if_true] at hd
    cases hsl : IpAuthHeaderSlice.fromSlice b with
    | error err => simp [hsl] at hd
    | ok s =>
      obtain ⟨h1, h2, h3, _⟩ := sliceFromSlice_ok b s hsl
      simp only [hsl, Ipv4ExtensionsSlice.toHeader, toHeader_eq s h1 h2 h3, Except.ok.injEq,
        Prod.mk.injEq] at hd
      obtain ⟨rfl, rfl, rfl⟩ := hd
      have hstruct : IpAuthHeader.fromSlice b = .ok
          ({ nextHeader := bAt s.slice 0, spi := be32 s.slice 4, sequenceNumber := be32 s.slice 8,
             rawIcv := s.slice.drop 12 }, b.drop s.slice.length) := by
        simp [IpAuthHeader.fromSlice, hsl, toHeader_eq s h1 h2 h3]
      have hwf := Auth.decoded_wf _ _ _ hstruct
      have hed := Auth.encode_decode _ _ _ hstruct
      have hde := decode_encode { auth := some _ } start (b.drop s.slice.length) ⟨hs, hwf⟩
      obtain ⟨bytes, nx, hw, hn, hfs⟩ := hde
      simp only [Ipv4Extensions.writeOut, hs, if_true, Except.ok.injEq] at hw
      simp only [Ipv4Extensions.nextHeader, hs, if_true, Except.ok.injEq] at hn
      subst hw; subst hn
      refine ⟨⟨hs, hwf⟩, by simp [Ipv4Extensions.nextHeader, hs]; rfl, ?_, ?_⟩
      · simp only [Ipv4Extensions.writeOut, hs, if_true, Ipv4Extensions.headerLen]
        rw [hed.1]
      · simp only [Ipv4Extensions.headerLen]
        rw [← hed.1]; exact hfs
  · simp only [hs, if_false, Ipv4ExtensionsSlice.toHeader, Except.ok.injEq, Prod.mk.injEq] at hd
    obtain ⟨rfl, rfl, rfl⟩ := hd
    refine ⟨hs, rfl, rfl, ?_⟩
    simp [Ipv4Extensions.headerLen, maskReserved, reservedTable, clearBits,
      Ipv4Extensions.fromSlice, Ipv4ExtensionsSlice.fromSlice, hs, Ipv4ExtensionsSlice.toHeader]

example : Ipv4Extensions.WF Ipv4Extensions.sampleMax 51 :=
  ⟨rfl, sampleMax_wf⟩
example : Ipv4Extensions.WF { auth := none } 17 := by decide

end Ipv4Exts

end EpModel.Props.C08Net
