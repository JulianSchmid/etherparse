import EpModel.Lemmas.CodecLinkBits
import EpModel.Model.Codec.LinkEth
import EpModel.Model.Codec.LinkArp
import EpModel.Model.Codec.TpUdpTcp
import EpModel.Model.Codec.TpIcmp
import EpModel.Model.Codec.TpIgmp
/-
  C08 (link layer, ARP and transport half) — every header value survives encode → decode
  unchanged.

  Per type `T` (model in EpModel/Model/Codec), the four statements are
    `encoders_agree` : WF h → all serialisers of the crate produce the same bytes, of exactly
                       `headerLen h` bytes
    `decode_encode`  : WF h → fromSlice (toBytes h ++ tail) = ok (h, tail)
    `decode_wf`      : fromSlice b = ok (h, rest) → WF h ∧ rest = b.drop (headerLen h) ∧ headerLen h ≤ b.length
    `encode_decode`  : fromSlice b = ok (h, rest) →
                         toBytes h = maskReserved (b.take (headerLen h)) ∧
                         fromSlice (toBytes h ++ rest) = ok (h, rest)
  Proved here: all four for Eth2, Udp, IgmpRec, Vlan, Sll, Tcp; `encoders_agree` and `decode_encode` for
  Igmp; `encoders_agree` for ArpEth; `toBytes = writeOut` for Arp, Macsec, Icmp4, Icmp6.  For the
  remaining directions of Igmp, ArpEth, Arp, Macsec, Icmp4, Icmp6 the file only *states* the
  proposition (`def …_full_statement : Prop`); nothing is claimed about them, those types are tied to
  the code by the correspondence runs alone.
  `maskReserved` is the explicit per-type table of the bits the format reserves or the type
  normalises.  Everything is universally quantified (all field values, all byte strings).
-/
namespace EpModel.Props.C08Link
open EpModel EpModel.Codec EpModel.Lemmas.Codec

/-! ## Ethernet II -/
namespace Eth2
open EpModel.Codec.Eth2

/-- Ethernet II has no reserved bits. -/
def maskReserved (b : Bytes) : Bytes := b

theorem toBytes_length (h : Eth2) (hw : h.WF) : (toBytes h).length = 14 := by
  obtain ⟨hd, hs, _⟩ := hw
  simp [toBytes, hd, hs]

theorem encoders_agree (h : Eth2) (hw : h.WF) :
    toBytes h = writeOut h ∧ writeToSlice h (headerLen h) = .ok (toBytes h, 0) ∧
      (toBytes h).length = headerLen h :=
  ⟨rfl, by simp [writeToSlice, headerLen], toBytes_length h hw⟩

theorem decode_encode (h : Eth2) (tail : Bytes) (hw : h.WF) :
    fromSlice (toBytes h ++ tail) = .ok (h, tail) := by
  have hl := toBytes_length h hw
  unfold fromSlice
  rw [if_neg (by simp [hl]), List.drop_left' hl]
  obtain ⟨hd, hs, he⟩ := hw
  obtain ⟨dst, src, et⟩ := h
  simp only at hd hs he
  simp [toBytes, hd, hs, he, sub_append_exact, sub_append_right, be16_append_right, be16_enc16]

theorem decode_wf (b rest : Bytes) (h : Eth2) (hd : fromSlice b = .ok (h, rest)) :
    h.WF ∧ rest = b.drop (headerLen h) ∧ headerLen h ≤ b.length := by
  unfold fromSlice at hd
  split at hd
  · cases hd
  · cases hd
    refine ⟨⟨?_, ?_, be16_lt _ _⟩, rfl, by simp only [headerLen]; omega⟩
    · exact sub_length _ _ _ (by omega)
    · exact sub_length _ _ _ (by omega)

theorem encode_decode (b rest : Bytes) (h : Eth2) (hd : fromSlice b = .ok (h, rest)) :
    toBytes h = maskReserved (b.take (headerLen h)) ∧ fromSlice (toBytes h ++ rest) = .ok (h, rest) := by
  refine ⟨?_, decode_encode h rest (decode_wf b rest h hd).1⟩
  unfold fromSlice at hd
  split at hd
  · cases hd
  · cases hd
    simp (disch := omega) only [toBytes, maskReserved, headerLen, enc16_be16, sub_append_sub,
      Nat.reduceAdd, ← sub_zero]

example : Eth2.sampleMax.WF := by decide

end Eth2

/-! ## UDP -/
namespace Udp
open EpModel.Codec.Udp

/-- UDP has no reserved bits. -/
def maskReserved (b : Bytes) : Bytes := b

theorem toBytes_length (h : Udp) : (toBytes h).length = 8 := by simp [toBytes]

theorem encoders_agree (h : Udp) (_hw : h.WF) :
    toBytes h = writeOut h ∧ (toBytes h).length = headerLen h :=
  ⟨rfl, toBytes_length h⟩

theorem decode_encode (h : Udp) (tail : Bytes) (hw : h.WF) :
    fromSlice (toBytes h ++ tail) = .ok (h, tail) := by
  have hl := toBytes_length h
  unfold fromSlice
  rw [if_neg (by simp [hl]), List.drop_left' hl]
  obtain ⟨h1, h2, h3, h4⟩ := hw
  obtain ⟨sp, dp, len, ck⟩ := h
  simp only at h1 h2 h3 h4
  simp [toBytes, h1, h2, h3, h4, be16_enc16]

theorem decode_wf (b rest : Bytes) (h : Udp) (hd : fromSlice b = .ok (h, rest)) :
    h.WF ∧ rest = b.drop (headerLen h) ∧ headerLen h ≤ b.length := by
  unfold fromSlice at hd
  split at hd
  · cases hd
  · cases hd
    exact ⟨⟨be16_lt _ _, be16_lt _ _, be16_lt _ _, be16_lt _ _⟩, rfl, by simp only [headerLen]; omega⟩

theorem encode_decode (b rest : Bytes) (h : Udp) (hd : fromSlice b = .ok (h, rest)) :
    toBytes h = maskReserved (b.take (headerLen h)) ∧ fromSlice (toBytes h ++ rest) = .ok (h, rest) := by
  refine ⟨?_, decode_encode h rest (decode_wf b rest h hd).1⟩
  unfold fromSlice at hd
  split at hd
  · cases hd
  · cases hd
    simp (disch := omega) only [toBytes, maskReserved, headerLen, enc16_be16, sub_append_sub,
      Nat.reduceAdd, ← sub_zero]

example : Udp.sampleMax.WF := by decide

end Udp

/-! ## IGMPv3 group record header -/
namespace IgmpRec
open EpModel.Codec.IgmpRec

/-- no reserved bits. -/
def maskReserved (b : Bytes) : Bytes := b

theorem toBytes_length (h : IgmpRec) (hw : h.WF) : (toBytes h).length = 8 := by
  simp [toBytes, hw.2.2.2]

theorem encoders_agree (h : IgmpRec) (hw : h.WF) : (toBytes h).length = headerLen h :=
  toBytes_length h hw

theorem decode_encode (h : IgmpRec) (tail : Bytes) (hw : h.WF) :
    fromSlice (toBytes h ++ tail) = .ok (h, tail) := by
  have hl := toBytes_length h hw
  unfold fromSlice
  rw [if_neg (by simp [hl]), List.drop_left' hl]
  obtain ⟨h1, h2, h3, h4⟩ := hw
  obtain ⟨rt, aux, n, addr⟩ := h
  simp only at h1 h2 h3 h4
  simp [toBytes, h3, h4, be16_enc16, sub_append_exact, Nat.mod_eq_of_lt h1, Nat.mod_eq_of_lt h2]

theorem decode_wf (b rest : Bytes) (h : IgmpRec) (hd : fromSlice b = .ok (h, rest)) :
    h.WF ∧ rest = b.drop (headerLen h) ∧ headerLen h ≤ b.length := by
  unfold fromSlice at hd
  split at hd
  · cases hd
  · cases hd
    exact ⟨⟨bAt_lt _ _, bAt_lt _ _, be16_lt _ _, sub_length _ _ _ (by omega)⟩, rfl,
      by simp only [headerLen]; omega⟩

theorem encode_decode (b rest : Bytes) (h : IgmpRec) (hd : fromSlice b = .ok (h, rest)) :
    toBytes h = maskReserved (b.take (headerLen h)) ∧ fromSlice (toBytes h ++ rest) = .ok (h, rest) := by
  refine ⟨?_, decode_encode h rest (decode_wf b rest h hd).1⟩
  unfold fromSlice at hd
  split at hd
  · cases hd
  · cases hd
    simp (disch := omega) only [toBytes, maskReserved, headerLen, enc16_be16, List.cons_append,
      List.nil_append, sub_append_sub, cons_sub, Nat.reduceAdd, ← sub_zero]

example : IgmpRec.sampleMax.WF := by decide

end IgmpRec

/-! ## 802.1Q single VLAN header -/
namespace Vlan
open EpModel.Codec.Vlan

/-- no reserved bits (pcp 3 + dei 1 + vid 12 + ether type 16). -/
def maskReserved (b : Bytes) : Bytes := b

theorem toBytes_length (h : Vlan) : (toBytes h).length = 4 := by simp [toBytes]

theorem encoders_agree (h : Vlan) (_hw : h.WF) :
    toBytes h = writeOut h ∧ (toBytes h).length = headerLen h :=
  ⟨rfl, toBytes_length h⟩

theorem decode_encode (h : Vlan) (tail : Bytes) (hw : h.WF) :
    fromSlice (toBytes h ++ tail) = .ok (h, tail) := by
  have hl := toBytes_length h
  unfold fromSlice
  rw [if_neg (by simp [hl]), List.drop_left' hl]
  obtain ⟨h1, h2, h3⟩ := hw
  obtain ⟨pcp, dei, vid, et⟩ := h
  simp only at h1 h2 h3
  have hb := vlan_b0_fwd pcp h1 (vid / 256) (by omega) dei
  have e : vid / 256 % 256 = vid / 256 := by omega
  simp only [toBytes, e, List.cons_append, List.nil_append, bAt_cons_zero, bAt_cons_succ, u8_toNat,
    be16_cons_succ]
  simp only at hb
  rw [hb.1, hb.2.1, hb.2.2, be16_enc16 _ _ h3]
  have : vid / 256 * 256 + vid % 256 = vid := by omega
  simp [this]

theorem decode_wf (b rest : Bytes) (h : Vlan) (hd : fromSlice b = .ok (h, rest)) :
    h.WF ∧ rest = b.drop (headerLen h) ∧ headerLen h ≤ b.length := by
  unfold fromSlice at hd
  split at hd
  · cases hd
  · cases hd
    have hb := vlan_b0_bwd (bAt b 0) (bAt_lt _ _)
    have := bAt_lt b 1
    refine ⟨⟨hb.2.1, ?_, be16_lt _ _⟩, rfl, by simp only [headerLen]; omega⟩
    have := hb.2.2
    simp only
    omega

theorem encode_decode (b rest : Bytes) (h : Vlan) (hd : fromSlice b = .ok (h, rest)) :
    toBytes h = maskReserved (b.take (headerLen h)) ∧ fromSlice (toBytes h ++ rest) = .ok (h, rest) := by
  refine ⟨?_, decode_encode h rest (decode_wf b rest h hd).1⟩
  unfold fromSlice at hd
  split at hd
  · cases hd
  · cases hd
    have hb := vlan_b0_bwd (bAt b 0) (bAt_lt _ _)
    have h1 := bAt_lt b 1
    have h16 := hb.2.2
    simp only [toBytes, maskReserved, headerLen]
    have e1 : ((bAt b 0 &&& 0b1111) * 256 + bAt b 1) / 256 % 256 = bAt b 0 &&& 0b1111 := by omega
    rw [e1, u8_congr _ (bAt b 0) (by rw [hb.1, Nat.mod_eq_of_lt (bAt_lt _ _)]),
      u8_congr ((bAt b 0 &&& 0b1111) * 256 + bAt b 1) (bAt b 1) (by omega)]
    simp (disch := omega) only [enc16_be16, List.cons_append, List.nil_append, cons_sub, Nat.reduceAdd, ← sub_zero]

example : Vlan.sampleMax.WF := by decide

end Vlan

/-! ## Linux cooked capture v1 (SLL) -/
namespace Sll
open EpModel.Codec.Sll

/-- no reserved bits. -/
def maskReserved (b : Bytes) : Bytes := b

theorem tryFrom_of_consistent (hrd : Nat) (p : SllProto) (hc : protoConsistent hrd p = true) :
    sllProtoTryFrom hrd p.val = .ok p := by
  cases p <;> simp [protoConsistent] at hc <;> simp [sllProtoTryFrom, SllProto.val, hc]
  · rcases hc with hc | hc <;> simp [hc]

theorem consistent_of_tryFrom (hrd v : Nat) (p : SllProto) (h : sllProtoTryFrom hrd v = .ok p) :
    protoConsistent hrd p = true ∧ p.val = v := by
  unfold sllProtoTryFrom at h
  by_cases h1 : hrd = 824
  · rw [if_pos h1] at h; cases h; simp [protoConsistent, SllProto.val, h1]
  by_cases h2 : hrd = 778
  · rw [if_neg h1, if_pos h2] at h; cases h; simp [protoConsistent, SllProto.val, h2]
  by_cases h3 : hrd = 803
  · rw [if_neg h1, if_neg h2, if_pos h3] at h; cases h; simp [protoConsistent, SllProto.val, h3]
  by_cases h4 : hrd = 770
  · rw [if_neg h1, if_neg h2, if_neg h3, if_pos h4] at h; cases h; simp [protoConsistent, SllProto.val, h4]
  rw [if_neg h1, if_neg h2, if_neg h3, if_neg h4] at h
  by_cases h5 : hrd = 1
  · rw [if_pos h5] at h
    by_cases hn : isNonstdEtherType v = true
    · rw [if_pos hn] at h; cases h; simp [protoConsistent, SllProto.val, h5, hn]
    · rw [if_neg hn] at h; cases h; simp [protoConsistent, SllProto.val, h5, hn]
  · rw [if_neg h5] at h; cases h

theorem toBytes_length (h : Sll) (hw : h.WF) : (toBytes h).length = 16 := by
  simp [toBytes, hw.2.2.2.1]

theorem encoders_agree (h : Sll) (hw : h.WF) :
    toBytes h = writeOut h ∧ writeToSlice h (headerLen h) = .ok (toBytes h, 0) ∧
      (toBytes h).length = headerLen h :=
  ⟨rfl, by simp [writeToSlice, headerLen], toBytes_length h hw⟩

theorem decode_encode (h : Sll) (tail : Bytes) (hw : h.WF) :
    fromSlice (toBytes h ++ tail) = .ok (h, tail) := by
  have hl := toBytes_length h hw
  unfold fromSlice
  rw [if_neg (by simp [hl]), List.drop_left' hl]
  obtain ⟨h1, h2, h3, h4, h5, h6⟩ := hw
  obtain ⟨pt, hrd, alen, addr, proto⟩ := h
  simp only at h1 h2 h3 h4 h5 h6
  simp [toBytes, be16_enc16, sub_append_exact, be16_append_right, h2, h3, h4, h5, show pt < 65536 by omega,
    tryFrom_of_consistent hrd proto h6, ptypeTryFrom, h1]

theorem decode_wf (b rest : Bytes) (h : Sll) (hd : fromSlice b = .ok (h, rest)) :
    h.WF ∧ rest = b.drop (headerLen h) ∧ headerLen h ≤ b.length := by
  obtain ⟨hn, h7, proto, hp, rfl, rfl⟩ := sll_fromSlice_ok b rest h hd
  have hc := consistent_of_tryFrom _ _ _ hp
  exact ⟨⟨h7, be16_lt _ _, be16_lt _ _, sub_length _ _ _ (by omega), by rw [hc.2]; exact be16_lt _ _, hc.1⟩,
    rfl, hn⟩

theorem encode_decode (b rest : Bytes) (h : Sll) (hd : fromSlice b = .ok (h, rest)) :
    toBytes h = maskReserved (b.take (headerLen h)) ∧ fromSlice (toBytes h ++ rest) = .ok (h, rest) := by
  refine ⟨?_, decode_encode h rest (decode_wf b rest h hd).1⟩
  obtain ⟨hn, -, proto, hp, rfl, -⟩ := sll_fromSlice_ok b rest h hd
  simp (disch := omega) only [toBytes, maskReserved, headerLen, (consistent_of_tryFrom _ _ _ hp).2, enc16_be16,
    sub_append_sub, Nat.reduceAdd, ← sub_zero]

example : Sll.sampleMax.WF := by decide
example : Sll.sampleEth.WF := by decide

end Sll

/-! ## TCP -/
namespace Tcp
open EpModel.Codec.Tcp

theorem fixed_length (h : Tcp) : (fixed h).length = 20 := by simp [fixed]

theorem toBytes_eq (h : Tcp) : toBytes h = fixed h ++ h.opts.buf.take h.opts.len := by
  unfold toBytes headerLen
  rw [List.take_append, fixed_length, List.take_of_length_le (by rw [fixed_length]; omega)]
  congr 2; omega

theorem toBytes_length (h : Tcp) (hw : h.WF) : (toBytes h).length = 20 + h.opts.len := by
  obtain ⟨_, _, _, _, _, _, _, ho1, _, ho3, _⟩ := hw
  rw [toBytes_eq h]
  simp [fixed_length, ho3]; omega

theorem encoders_agree (h : Tcp) (hw : h.WF) :
    toBytes h = writeOut h ∧ (toBytes h).length = headerLen h := by
  refine ⟨?_, toBytes_length h hw⟩
  rw [toBytes_eq h]
  unfold writeOut TcpOpts.asSlice
  split
  · rename_i he
    simp only [List.isEmpty_iff] at he
    rw [he]
  · rfl

theorem toHeader_toBytes (h : Tcp) (tail : Bytes) (hw : h.WF) : toHeader (toBytes h ++ tail) = h := by
  have hfl := fixed_length h
  obtain ⟨h1, h2, h3, h4, h5, h6, h7, ho⟩ := hw
  obtain ⟨ho1, ho2, ho3, ho4⟩ := ho
  rw [toBytes_eq h, List.append_assoc]
  have hb12 := byte12_of_fixed h (h.opts.buf.take h.opts.len ++ tail) ⟨ho1, ho2, ho3, ho4⟩
  have hb13 := tcp_b13_fwd (byte13 h) h.fin h.syn h.rst h.psh h.ackf h.urg h.ece h.cwr rfl
  have e13 : bAt (fixed h ++ (h.opts.buf.take h.opts.len ++ tail)) 13 = (byte13 h) % 256 := by
    simp [fixed]
  have e1 : (5 + h.opts.len / 4) * 4 - 20 = h.opts.len := by omega
  have htake : (h.opts.buf.take h.opts.len).length = h.opts.len := by simp [ho3]; omega
  have eo : sub (fixed h ++ (h.opts.buf.take h.opts.len ++ tail)) 20 h.opts.len =
      h.opts.buf.take h.opts.len := by
    rw [sub_append_right _ _ _ _ (by omega), hfl]
    exact sub_append_exact _ _ _ htake
  have ebuf : h.opts.buf.take h.opts.len ++ zeros (40 - h.opts.len) = h.opts.buf := by
    rw [← ho4, List.take_append_drop]
  unfold toHeader
  simp only [e13, hb12.2, hb13, e1, eo, htake, ebuf, Nat.mod_eq_of_lt (show h.opts.len < 256 by omega)]
  obtain ⟨sp, dp, seq, ack, ns, fin, syn, rst, psh, ackf, urg, ece, cwr, win, ck, urgp, opts⟩ := h
  simp only at h1 h2 h3 h4 h5 h6 h7
  simp [fixed, be16_enc16, be32_enc32, h1, h2, h3, h4, h5, h6, h7]

theorem decode_encode (h : Tcp) (tail : Bytes) (hw : h.WF) :
    fromSlice (toBytes h ++ tail) = .ok (h, tail) := by
  have hl := toBytes_length h hw
  have hth := toHeader_toBytes h tail hw
  have f1 := (byte12_of_fixed h (h.opts.buf.take h.opts.len ++ tail) hw.2.2.2.2.2.2.2).1
  rw [← List.append_assoc, ← toBytes_eq h] at f1
  have ho1 := hw.2.2.2.2.2.2.2.1
  unfold fromSlice
  rw [if_neg (by rw [List.length_append, hl]; omega)]
  simp only [f1]
  rw [if_neg (by omega), if_neg (by rw [List.length_append, hl]; omega), hth,
    List.drop_left' hl]

/-- the three reserved bits of byte 12 (between data offset and the ns flag) are dropped by the
    decoder and written as zero. -/
def maskReserved (b : Bytes) : Bytes := mapAt b 12 (· &&& 0xF1)

/-- what an accepting `fromSlice` tells about the input. -/
theorem fromSlice_ok (b rest : Bytes) (h : Tcp) (hd : fromSlice b = .ok (h, rest)) :
    20 ≤ b.length ∧ 20 ≤ (bAt b 12 &&& 0xf0) >>> 2 ∧ (bAt b 12 &&& 0xf0) >>> 2 ≤ b.length ∧
      h = toHeader b ∧ rest = b.drop ((bAt b 12 &&& 0xf0) >>> 2) := by
  unfold fromSlice at hd
  split at hd
  · cases hd
  · simp only at hd
    split at hd
    · cases hd
    · split at hd
      · cases hd
      · cases hd
        exact ⟨by omega, by omega, by omega, rfl, rfl⟩

theorem decode_wf (b rest : Bytes) (h : Tcp) (hd : fromSlice b = .ok (h, rest)) :
    h.WF ∧ rest = b.drop (headerLen h) ∧ headerLen h ≤ b.length := by
  obtain ⟨hb20, hl20, hlb, rfl, rfl⟩ := fromSlice_ok b rest h hd
  obtain ⟨ho, h4, h60⟩ := toHeader_opts b _ rfl hl20 hlb
  have hhl : headerLen (toHeader b) = (bAt b 12 &&& 0xf0) >>> 2 := by simp only [headerLen, ho]; omega
  refine ⟨⟨be16_lt _ _, be16_lt _ _, be32_lt _ _, be32_lt _ _, be16_lt _ _, be16_lt _ _, be16_lt _ _, ?_⟩,
    by rw [hhl], by rw [hhl]; exact hlb⟩
  rw [ho]
  simp only [TcpOpts.WF]
  have hol := sub_length b 20 _ (show 20 + ((bAt b 12 &&& 0xf0) >>> 2 - 20) ≤ b.length by omega)
  exact ⟨by omega, h4, by simp [hol, zeros]; omega, List.drop_left' hol⟩

theorem encode_decode_bytes (b rest : Bytes) (h : Tcp) (hd : fromSlice b = .ok (h, rest)) :
    toBytes h = maskReserved (b.take (headerLen h)) := by
  obtain ⟨hb20, hl20, hlb, rfl, -⟩ := fromSlice_ok b rest h hd
  obtain ⟨ho, -, -⟩ := toHeader_opts b _ rfl hl20 hlb
  have hx1 := (tcp_b12_bwd (bAt b 12) (bAt_lt _ _) hl20).1
  generalize (bAt b 12 &&& 0xf0) >>> 2 = HL at *
  have hhl : headerLen (toHeader b) = HL := by simp only [headerLen, ho]; omega
  have k12 : u8 (byte12 (toHeader b)) = u8 (bAt b 12 &&& 0xF1) := by
    refine u8_congr _ _ ?_
    simp only [byte12, TcpOpts.dataOffset, ho]
    exact hx1
  rw [hhl, maskReserved, mapAt_take b 12 _ _ (by omega) hlb, toBytes_eq, ho, fixed_toHeader b hb20, k12]
  simp only
  rw [← sub_zero, sub_append_exact _ _ _ (sub_length _ _ _ (by omega)), List.append_assoc, List.cons_append,
    sub_append_sub b 13 7 20 _ rfl, show 7 + (HL - 20) = HL - 13 by omega]

theorem encode_decode (b rest : Bytes) (h : Tcp) (hd : fromSlice b = .ok (h, rest)) :
    toBytes h = maskReserved (b.take (headerLen h)) ∧ fromSlice (toBytes h ++ rest) = .ok (h, rest) :=
  ⟨encode_decode_bytes b rest h hd, decode_encode h rest (decode_wf b rest h hd).1⟩

example : Tcp.sampleMax.WF := by decide

end Tcp

/-! ## IGMP -/
namespace Igmp
open EpModel.Codec.Igmp

/-- byte 1 is unused / reserved (written as zero, ignored by the decoder) in the IGMPv1 and IGMPv2
    membership reports, the leave group message and the IGMPv3 membership report. -/
def maskReserved (b : Bytes) : Bytes :=
  if bAt b 0 = 0x12 ∨ bAt b 0 = 0x16 ∨ bAt b 0 = 0x17 ∨ bAt b 0 = 0x22 then zeroRange b 1 1 else b

theorem sub_all (g : Bytes) (n : Nat) (h : g.length = n) : sub g 0 n = g := by
  rw [sub_zero, List.take_of_length_le (by omega)]

theorem eight_length (t b1 ck : Nat) (b47 : Bytes) (h : b47.length = 4) : (eight t b1 ck b47).length = 8 := by
  simp [eight, h, zeros]

theorem eight_eq (t b1 ck : Nat) (b47 : Bytes) (h : b47.length = 4) :
    eight t b1 ck b47 = [u8 t, u8 b1] ++ enc16 ck ++ b47 := by
  unfold eight
  have hl : ([u8 t, u8 b1] ++ enc16 ck ++ b47).length = 8 := by simp [h]
  rw [List.take_append, List.take_of_length_le (by omega), hl]
  simp

theorem encoders_agree (h : Igmp) (hw : h.WF) : (toBytes h).length = headerLen h := by
  obtain ⟨ty, ck⟩ := h
  obtain ⟨ht, _⟩ := hw
  cases ty <;> simp only [IgmpType.WF] at ht <;> simp [toBytes, headerLen, eight_length, ht]

/-- a value decodes back; the 8 byte IGMPv1/v2 membership query only when nothing follows it
    (with 4 or more following bytes the decoder reads an IGMPv3 query, by design of the format). -/
theorem decode_encode (h : Igmp) (tail : Bytes) (hw : h.WF)
    (hq : ∀ m g, h.ty = .membershipQuery m g → tail = []) :
    fromSlice (toBytes h ++ tail) = .ok (h, tail) := by
  obtain ⟨ty, ck⟩ := h
  obtain ⟨ht, hck⟩ := hw
  simp only at hck
  cases ty with
  | membershipQuery m g =>
    simp only [IgmpType.WF] at ht
    have := hq m g rfl
    subst this
    simp [fromSlice, toBytes, eight_eq, ht, be16_enc16, hck, Nat.mod_eq_of_lt ht.1, sub_all]
  | membershipQueryWithSources m g r q n =>
    simp only [IgmpType.WF] at ht
    obtain ⟨h1, h2, h3, h4, h5⟩ := ht
    simp [fromSlice, toBytes, be16_enc16, hck, h2, h5, sub_append_exact, Nat.mod_eq_of_lt h1, be16_append_right,
      drop_append_right]
    rw [if_neg (by omega), if_neg (by omega), if_pos (by omega), bAt_append_right _ _ _ (by omega),
      bAt_append_right _ _ _ (by omega), h2]
    simp [Nat.mod_eq_of_lt h3, Nat.mod_eq_of_lt h4]
  | membershipReportV1 g | membershipReportV2 g | leaveGroup g =>
    simp only [IgmpType.WF] at ht
    simp [fromSlice, toBytes, eight_eq, ht, be16_enc16, hck, sub_append_exact]
    omega
  | membershipReportV3 f n =>
    simp only [IgmpType.WF] at ht
    simp [fromSlice, toBytes, eight_eq, ht, be16_enc16, hck, sub_append_exact, be16_append_right]
    rw [if_neg (by omega), drop_append_right _ _ _ (by omega), ht.1]
    simp
  | unknown t r raw =>
    simp only [IgmpType.WF] at ht
    obtain ⟨h1, h2, h3, h4⟩ := ht
    simp [typedType] at h4
    simp [fromSlice, toBytes, eight_eq, h3, h4, be16_enc16, hck, sub_append_exact, Nat.mod_eq_of_lt h1,
      Nat.mod_eq_of_lt h2]
    omega


/-- the re-encoding direction for IGMP, as a proposition only: no theorem of this file proves it (the
    correspondence runs and the implementation-side oracle check it on every explored input). -/
def encode_decode_full_statement : Prop :=
  ∀ (b rest : Bytes) (h : Igmp), fromSlice b = .ok (h, rest) →
    toBytes h = maskReserved (b.take (headerLen h)) ∧ fromSlice (toBytes h ++ rest) = .ok (h, rest)

example : Igmp.sampleMax.WF := by decide
example : Igmp.sampleUnknown.WF := by decide
example : Igmp.sampleV3.WF := by decide

end Igmp

/-! ## ARP (Ethernet / IPv4 form) -/
namespace ArpEth
open EpModel.Codec.ArpEth

/-- no reserved bits. -/
def maskReserved (b : Bytes) : Bytes := b

/-- the two serialisation paths (`to_bytes` and `to_arp_packet().to_bytes()`) agree. -/
theorem encoders_agree (h : ArpEth) (hw : h.WF) :
    toBytes h = writeOut h ∧ (toBytes h).length = headerLen h := by
  obtain ⟨h0, h1, h2, h3, h4⟩ := hw
  constructor
  · simp [toBytes, writeOut, toArp, Arp.toBytes, Arp.hwSize, Arp.protoSize, h1, h2, h3, h4,
      List.take_of_length_le]
    exact ⟨rfl, rfl⟩
  · simp [toBytes, headerLen, h1, h2, h3, h4]

def decode_encode_full_statement : Prop :=
  ∀ (h : ArpEth) (tail : Bytes), h.WF → fromSlice (toBytes h ++ tail) = .ok (h, tail)
def encode_decode_full_statement : Prop :=
  ∀ (b rest : Bytes) (h : ArpEth), fromSlice b = .ok (h, rest) →
    toBytes h = maskReserved (b.take (headerLen h)) ∧ fromSlice (toBytes h ++ rest) = .ok (h, rest)

example : ArpEth.sampleMax.WF := by decide

end ArpEth

/-! ## ARP, MACsec, ICMPv4, ICMPv6: modelled and tied to the code by the correspondence runs;
    the round-trip properties are stated as propositions, not proved.  `write` is `write_all(&self.to_bytes())` in the
    crate for all four, so `toBytes = writeOut` holds by definition of the model. -/
namespace Arp
open EpModel.Codec.Arp
/-- no reserved bits. -/
def maskReserved (b : Bytes) : Bytes := b
theorem encoders_agree_write (h : Arp) : toBytes h = writeOut h := rfl
def decode_encode_full_statement : Prop :=
  ∀ (h : Arp) (tail : Bytes), h.WF → fromSlice (toBytes h ++ tail) = .ok (h, tail)
def encode_decode_full_statement : Prop :=
  ∀ (b rest : Bytes) (h : Arp), fromSlice b = .ok (h, rest) →
    toBytes h = maskReserved (b.take (headerLen h)) ∧ fromSlice (toBytes h ++ rest) = .ok (h, rest)
example : Arp.sampleMax.WF := by
  refine ⟨by decide, by decide, by decide, ?_, ?_, ?_, ?_⟩ <;> simp only [Arp.sampleMax, List.length_replicate] <;> omega
example : Arp.sampleEmpty.WF := by decide
example : fromSlice (toBytes Arp.sampleEmpty ++ [7]) = .ok (Arp.sampleEmpty, [7]) := by rfl
end Arp

namespace Macsec
open EpModel.Codec.Macsec
/-- the two upper bits of the short length byte are reserved (written as zero, ignored). -/
def maskReserved (b : Bytes) : Bytes := mapAt b 1 (· &&& 0x3F)
theorem encoders_agree_write (h : Macsec) : toBytes h = writeOut h := rfl
def decode_encode_full_statement : Prop :=
  ∀ (h : Macsec) (tail : Bytes), h.WF → fromSlice (toBytes h ++ tail) = .ok (h, tail)
def encode_decode_full_statement : Prop :=
  ∀ (b rest : Bytes) (h : Macsec), fromSlice b = .ok (h, rest) →
    toBytes h = maskReserved (b.take (headerLen h)) ∧ fromSlice (toBytes h ++ rest) = .ok (h, rest)
example : Macsec.sampleMax.WF := by decide
example : Macsec.sampleEnc.WF := by decide
example : fromSlice (toBytes Macsec.sampleMax ++ [1, 2]) = .ok (Macsec.sampleMax, [1, 2]) := by rfl
example : fromSlice (toBytes Macsec.sampleEnc ++ [1, 2]) = .ok (Macsec.sampleEnc, [1, 2]) := by rfl
end Macsec

namespace Icmp4
open EpModel.Codec.Icmp4
/-- unused bytes 5–8 of the typed variants that carry no field there (RFC 792 / RFC 1191). -/
def maskReserved (b : Bytes) : Bytes :=
  let t := bAt b 0
  let c := bAt b 1
  if t = 3 ∧ c ≤ 15 then (if c = 4 then zeroRange b 4 2 else zeroRange b 4 4)
  else if t = 11 ∧ c ≤ 1 then zeroRange b 4 4
  else if t = 12 ∧ c ≤ 2 then (if c = 0 then zeroRange b 5 3 else zeroRange b 4 4)
  else b
theorem encoders_agree_write (h : Icmp4) : toBytes h = writeOut h := rfl
/-- timestamp messages are accepted only as exactly 20 bytes, hence `tail = []` for them. -/
def decode_encode_full_statement : Prop :=
  ∀ (h : Icmp4) (tail : Bytes), h.WF → (headerLen h = 20 → tail = []) →
    fromSlice (toBytes h ++ tail) = .ok (h, tail)
def encode_decode_full_statement : Prop :=
  ∀ (b rest : Bytes) (h : Icmp4), fromSlice b = .ok (h, rest) →
    toBytes h = maskReserved (b.take (headerLen h)) ∧ fromSlice (toBytes h ++ rest) = .ok (h, rest)
example : Icmp4.sampleMax.WF := by decide
example : Icmp4.sampleUnknown.WF := by decide
example : Icmp4.sampleFrag.WF := by decide
example : fromSlice (toBytes Icmp4.sampleMax) = .ok (Icmp4.sampleMax, []) := by rfl
example : fromSlice (toBytes Icmp4.sampleFrag ++ [9]) = .ok (Icmp4.sampleFrag, [9]) := by rfl
end Icmp4

namespace Icmp6
open EpModel.Codec.Icmp6
/-- unused / reserved parts of bytes 5–8 of the typed variants (RFC 4443, RFC 4861). -/
def maskReserved (b : Bytes) : Bytes :=
  let t := bAt b 0
  let c := bAt b 1
  if (t = 1 ∧ c ≤ 6) ∨ (t = 3 ∧ c ≤ 1) ∨ (c = 0 ∧ (t = 133 ∨ t = 135 ∨ t = 137)) then zeroRange b 4 4
  else if t = 134 ∧ c = 0 then mapAt b 5 (· &&& 0xC0)
  else if t = 136 ∧ c = 0 then zeroRange (mapAt b 4 (· &&& 0xE0)) 5 3
  else b
theorem encoders_agree_write (h : Icmp6) : toBytes h = writeOut h := rfl
/-- slices longer than `u32::MAX` are rejected by the decoder. -/
def decode_encode_full_statement : Prop :=
  ∀ (h : Icmp6) (tail : Bytes), h.WF → 8 + tail.length ≤ 4294967295 →
    fromSlice (toBytes h ++ tail) = .ok (h, tail)
def encode_decode_full_statement : Prop :=
  ∀ (b rest : Bytes) (h : Icmp6), fromSlice b = .ok (h, rest) →
    toBytes h = maskReserved (b.take (headerLen h)) ∧ fromSlice (toBytes h ++ rest) = .ok (h, rest)
example : Icmp6.sampleMax.WF := by decide
example : Icmp6.sampleRa.WF := by decide
example : Icmp6.sampleUnknown.WF := by decide
example : fromSlice (toBytes Icmp6.sampleRa ++ [9]) = .ok (Icmp6.sampleRa, [9]) := by rfl
end Icmp6

end EpModel.Props.C08Link
