import EpModel.Lemmas.HeadersShift
import EpModel.Lemmas.SpecShiftEntry
/-
  C06, struct decoders: starting at an Ethernet II header equals starting at its ether type on the bytes
  behind the header, shifted by 14 - for `PacketHeaders` and `LaxPacketHeaders`; and the Linux SLL door of
  `LaxPacketHeaders` against the ether-type door, shifted by 16.

  Proved directly on the struct-decoding model, as EQUATIONS between the doors (stronger than the slicing
  theorems of Props/C06.lean, which go through a relational refinement): Lemmas/HeadersShift.lean shows that
  every function the two struct decoders call commutes with moving memory and start offset, and defines
  `ethOfEtherTypeHeaders` / `laxEthOfEtherTypeHeaders`, what the Ethernet II doors make of the ether-type result.
-/
namespace EpModel.Props.C06
open EpModel EpModel.Dec EpModel.Spec EpModel.Lemmas.HeadersShift

section HeadersEthernetVsEtherType
open EpModel.Lemmas.ShiftEntry

/-- `PacketHeaders::from_ether_type` on the bytes from position `k` on (`b[k..]`) is
    `PacketHeaders::from_ether_type` at offset `k` of `b`, every window moved by `k`; errors are equal
    (their offsets count from the start of the slice handed in). -/
theorem headers_ether_type_start_placement_independent (b : Bytes) (et k l : Nat) :
    phFromEtherType (memOf b) et k l = exMap (shHeaders k) (phFromEtherType (memOf (b.drop k)) et 0 l) := by
  rw [memOf_drop_eq]
  exact phFromEtherType_sh k (memOf b) (shM k (memOf b)) (fun _ => rfl) et 0 l

/-- … and `LaxPacketHeaders::from_ether_type` (stop error included) -/
theorem lax_headers_ether_type_start_placement_independent (b : Bytes) (et k l : Nat) :
    lphFromEtherType (memOf b) et k l = shHeaders k (lphFromEtherType (memOf (b.drop k)) et 0 l) := by
  rw [memOf_drop_eq]
  exact lphFromEtherType_sh k (memOf b) (shM k (memOf b)) (fun _ => rfl) et 0 l

/-- **`PacketHeaders::from_ethernet_slice(b)` against `PacketHeaders::from_ether_type(ether type of b, b[14..])`**,
    for every byte string of at least 14 bytes, as one equation: the Ethernet II door returns what the
    ether-type door returns on the bytes behind the header, with every window (headers and payload)
    moved by 14, the offset of a length error moved by exactly 14 (content errors unchanged) and the
    link set to the Ethernet II header. -/
theorem headers_ethernet_start_equals_ether_type_start (b : Bytes) (h14 : 14 ≤ b.length) :
    phFromEthernet (memOf b) b.length =
      ethOfEtherTypeHeaders (phFromEtherType (memOf (b.drop 14)) (g16 (memOf b) 12) 0 (b.drop 14).length) := by
  rw [memOf_drop_eq, List.length_drop]
  exact phFromEthernet_eq (memOf b) b.length h14

/-- the two doors accept the same byte strings -/
theorem headers_ethernet_start_ok_iff_ether_type_start_ok (b : Bytes) (h14 : 14 ≤ b.length) :
    (phFromEthernet (memOf b) b.length).isOk =
      (phFromEtherType (memOf (b.drop 14)) (g16 (memOf b) 12) 0 (b.drop 14).length).isOk := by
  rw [headers_ethernet_start_equals_ether_type_start b h14]
  cases phFromEtherType (memOf (b.drop 14)) (g16 (memOf b) 12) 0 (b.drop 14).length <;> rfl

/-- on success: the Ethernet II header as link, the same link extensions, network and transport
    headers and the same payload with every window moved by 14 -/
theorem headers_ethernet_start_packet_is_ether_type_start_packet_shifted (b : Bytes) (h14 : 14 ≤ b.length)
    (q : Headers)
    (hq : phFromEtherType (memOf (b.drop 14)) (g16 (memOf b) 12) 0 (b.drop 14).length = .ok q) :
    phFromEthernet (memOf b) b.length =
      .ok { p := { link := some (.eth2 ⟨0, 14⟩), exts := q.p.exts.map (shExt 14), net := q.p.net.map (shNet 14),
                   tp := q.p.tp.map (shTp 14), stop := q.p.stop },
            pay := shPay 14 q.pay } := by
  rw [headers_ethernet_start_equals_ether_type_start b h14, hq]
  rfl

/-- … and every success of the Ethernet II door arises that way -/
theorem headers_ethernet_start_packet_from_ether_type_start_packet (b : Bytes) (h14 : 14 ≤ b.length)
    (p : Headers) (hp : phFromEthernet (memOf b) b.length = .ok p) :
    ∃ q, phFromEtherType (memOf (b.drop 14)) (g16 (memOf b) 12) 0 (b.drop 14).length = .ok q ∧
      p.p.link = some (.eth2 ⟨0, 14⟩) ∧ p.p.exts = q.p.exts.map (shExt 14) ∧ p.p.net = q.p.net.map (shNet 14) ∧
      p.p.tp = q.p.tp.map (shTp 14) ∧ p.p.stop = q.p.stop ∧ p.pay = shPay 14 q.pay := by
  rw [headers_ethernet_start_equals_ether_type_start b h14] at hp
  cases hq : phFromEtherType (memOf (b.drop 14)) (g16 (memOf b) 12) 0 (b.drop 14).length with
  | error e => rw [hq] at hp; cases hp
  | ok q =>
    rw [hq] at hp
    cases hp
    exact ⟨q, rfl, rfl, rfl, rfl, rfl, rfl, rfl⟩

/-- length errors: the Ethernet II door fails with the length error `le` exactly when the
    ether-type door fails with the same length error 14 bytes earlier (same `required_len`, `len`,
    `len_source`, `layer`; `layer_start_offset` larger by exactly 14) -/
theorem headers_ethernet_start_len_error_is_ether_type_start_len_error_shifted (b : Bytes) (h14 : 14 ≤ b.length)
    (le : LenError) :
    phFromEthernet (memOf b) b.length = .error (.len le) ↔
      ∃ le', phFromEtherType (memOf (b.drop 14)) (g16 (memOf b) 12) 0 (b.drop 14).length = .error (.len le') ∧
        le = { req := le'.req, len := le'.len, src := le'.src, layer := le'.layer, off := le'.off + 14 } := by
  rw [headers_ethernet_start_equals_ether_type_start b h14]
  cases phFromEtherType (memOf (b.drop 14)) (g16 (memOf b) 12) 0 (b.drop 14).length with
  | ok q => simp [ethOfEtherTypeHeaders]
  | error e =>
    cases e <;> simp [ethOfEtherTypeHeaders, lenAddOff, LenError.addOffset]
    exact eq_comm

/-- content errors: the Ethernet II door fails with a content error exactly when the ether-type
    door fails with the same content error -/
theorem headers_ethernet_start_content_error_is_ether_type_start_content_error (b : Bytes) (h14 : 14 ≤ b.length)
    (e : PErr) (hne : ∀ le, e ≠ .len le) :
    phFromEthernet (memOf b) b.length = .error e ↔
      phFromEtherType (memOf (b.drop 14)) (g16 (memOf b) 12) 0 (b.drop 14).length = .error e := by
  rw [headers_ethernet_start_equals_ether_type_start b h14]
  cases phFromEtherType (memOf (b.drop 14)) (g16 (memOf b) 12) 0 (b.drop 14).length with
  | ok q => simp [ethOfEtherTypeHeaders]
  | error e' =>
    cases e' with
    | len le' =>
      simp only [ethOfEtherTypeHeaders, lenAddOff]
      constructor
      · intro h; cases h; exact absurd rfl (hne _)
      · intro h; cases h; exact absurd rfl (hne _)
    | _ => simp [ethOfEtherTypeHeaders, lenAddOff]

/-- `PacketHeaders::from_ether_type` itself reports no link layer -/
theorem headers_ether_type_start_has_no_link (b : Bytes) (et : Nat) (q : Headers)
    (hq : phFromEtherType (memOf b) et 0 b.length = .ok q) : q.p.link = none :=
  phFromEtherType_link (memOf b) et 0 b.length q hq

/-- **`LaxPacketHeaders::from_ethernet(b)` against `LaxPacketHeaders::from_ether_type(ether type of b, b[14..])`**,
    for every byte string of at least 14 bytes, as one equation: `from_ethernet` returns a value, namely
    what the ether-type door returns on the bytes behind the header with every window (headers and
    payload) moved by 14, the offset of a length stop error moved by exactly 14 (content stop errors and
    the stop layer unchanged) and the link set to the Ethernet II header. -/
theorem lax_headers_ethernet_start_equals_ether_type_start (b : Bytes) (h14 : 14 ≤ b.length) :
    lphFromEthernet (memOf b) b.length =
      .ok (laxEthOfEtherTypeHeaders
        (lphFromEtherType (memOf (b.drop 14)) (g16 (memOf b) 12) 0 (b.drop 14).length)) := by
  rw [memOf_drop_eq, List.length_drop]
  exact lphFromEthernet_eq (memOf b) b.length h14

/-- the layers and the payload: the same with every window moved by 14 -/
theorem lax_headers_ethernet_start_packet_is_ether_type_start_packet_shifted (b : Bytes) (h14 : 14 ≤ b.length) :
    ∃ m, lphFromEthernet (memOf b) b.length = .ok m ∧
      m.p.link = some (.eth2 ⟨0, 14⟩) ∧
      m.p.exts = (lphFromEtherType (memOf (b.drop 14)) (g16 (memOf b) 12) 0 (b.drop 14).length).p.exts.map (shExt 14) ∧
      m.p.net = (lphFromEtherType (memOf (b.drop 14)) (g16 (memOf b) 12) 0 (b.drop 14).length).p.net.map (shNet 14) ∧
      m.p.tp = (lphFromEtherType (memOf (b.drop 14)) (g16 (memOf b) 12) 0 (b.drop 14).length).p.tp.map (shTp 14) ∧
      m.pay = shPay 14 (lphFromEtherType (memOf (b.drop 14)) (g16 (memOf b) 12) 0 (b.drop 14).length).pay := by
  refine ⟨_, lax_headers_ethernet_start_equals_ether_type_start b h14, ?_⟩
  generalize lphFromEtherType (memOf (b.drop 14)) (g16 (memOf b) 12) 0 (b.drop 14).length = q
  unfold laxEthOfEtherTypeHeaders stopAddOff
  split <;> exact ⟨rfl, rfl, rfl, rfl, rfl⟩

/-- the stop error: none iff none; a length stop error is the same error with its offset moved by
    exactly 14, at the same layer; a content stop error is the same error at the same layer -/
theorem lax_headers_ethernet_start_stop_is_ether_type_start_stop_shifted (b : Bytes) (h14 : 14 ≤ b.length)
    (m : Headers) (hm : lphFromEthernet (memOf b) b.length = .ok m) :
    m.p.stop =
      match (lphFromEtherType (memOf (b.drop 14)) (g16 (memOf b) 12) 0 (b.drop 14).length).p.stop with
      | none => none
      | some (.len le', ly) =>
        some (.len { req := le'.req, len := le'.len, src := le'.src, layer := le'.layer, off := le'.off + 14 }, ly)
      | some (e, ly) => some (e, ly) := by
  rw [lax_headers_ethernet_start_equals_ether_type_start b h14] at hm
  cases hm
  generalize lphFromEtherType (memOf (b.drop 14)) (g16 (memOf b) 12) 0 (b.drop 14).length = q
  unfold laxEthOfEtherTypeHeaders stopAddOff
  rw [show (shPacket 14 q.p).stop = q.p.stop from rfl]
  rcases hs : q.p.stop with _ | ⟨e, ly⟩
  · simp [Packet.setLink, shPacket, hs]
  · cases e <;> simp [Packet.setLink, shPacket, hs, LenError.addOffset]

/-- `LaxPacketHeaders::from_ether_type` itself reports no link layer -/
theorem lax_headers_ether_type_start_has_no_link (b : Bytes) (et : Nat) :
    (lphFromEtherType (memOf b) et 0 b.length).p.link = none :=
  lphFromEtherType_link (memOf b) et 0 b.length

/-- fewer than 14 bytes: both Ethernet II doors fail at the Ethernet II header (there is no ether type
    to start from) -/
theorem headers_ethernet_start_short (b : Bytes) (h : b.length < 14) :
    phFromEthernet (memOf b) b.length =
        .error (.len { req := 14, len := b.length, src := .slice, layer := .ethernet2Header, off := 0 }) ∧
      lphFromEthernet (memOf b) b.length =
        .error { req := 14, len := b.length, src := .slice, layer := .ethernet2Header, off := 0 } :=
  ⟨phFromEthernet_short (memOf b) b.length h, lphFromEthernet_short (memOf b) b.length h⟩

/-! ### the hypotheses are satisfiable, the success and the failure cases are inhabited

  An Ethernet II frame with one VLAN tag, an IPv4 header and a UDP datagram of 4 payload bytes (50 bytes);
  the same frame cut after 40 bytes (IPv4 total length no longer fits: strict length error at offset 18
  resp. 4, lax stop error in the UDP header at offset 38 resp. 24); an IPv6 frame with a fragment header
  (the extension walk in struct mode). -/

def vlanUdpFrame : Bytes :=
  [1,2,3,4,5,6, 7,8,9,10,11,12, 0x81,0x00,
   0x00,0x2a, 0x08,0x00,
   0x45,0,0,32, 0,0,0,0, 64,17,0,0, 10,0,0,1, 10,0,0,2,
   0x30,0x39, 0,53, 0,12, 0,0, 0xde,0xad,0xbe,0xef]

def v6FragUdpFrame : Bytes :=
  [1,2,3,4,5,6, 7,8,9,10,11,12, 0x86,0xdd,
   0x60,0,0,0, 0,20, 44, 64,
   0,0,0,0,0,0,0,0,0,0,0,0,0,0,0,1,  0,0,0,0,0,0,0,0,0,0,0,0,0,0,0,2,
   17,0,0,0, 0,0,0,1,
   0x30,0x39, 0,53, 0,12, 0,0, 0xde,0xad,0xbe,0xef]

example : 14 ≤ vlanUdpFrame.length := by decide
example : 14 ≤ (vlanUdpFrame.take 40).length := by decide
example : 14 ≤ v6FragUdpFrame.length := by decide
example : ([1,2,3] : Bytes).length < 14 := by decide

set_option maxRecDepth 8000 in
example : phFromEthernet (memOf vlanUdpFrame) vlanUdpFrame.length =
    .ok { p := { link := some (.eth2 ⟨0, 14⟩), exts := [.vlan ⟨14, 4⟩],
                 net := some (.ip { v4 := true, hdr := ⟨18, 20⟩, auth := none, exts := ⟨18, 0⟩, first := none,
                                    slots := ExtSlots.none,
                                    pl := { num := 17, frag := false, src := .ipv4HeaderTotalLen, w := ⟨38, 12⟩,
                                            inc := false } }),
                 tp := some (.udp ⟨38, 12⟩), stop := none },
          pay := .udp ⟨46, 4⟩ false } := by
  rfl

set_option maxRecDepth 8000 in
example : phFromEtherType (memOf (vlanUdpFrame.drop 14)) (g16 (memOf vlanUdpFrame) 12) 0 (vlanUdpFrame.drop 14).length =
    .ok { p := { link := none, exts := [.vlan ⟨0, 4⟩],
                 net := some (.ip { v4 := true, hdr := ⟨4, 20⟩, auth := none, exts := ⟨4, 0⟩, first := none,
                                    slots := ExtSlots.none,
                                    pl := { num := 17, frag := false, src := .ipv4HeaderTotalLen, w := ⟨24, 12⟩,
                                            inc := false } }),
                 tp := some (.udp ⟨24, 12⟩), stop := none },
          pay := .udp ⟨32, 4⟩ false } := by
  rfl

set_option maxRecDepth 8000 in
example : lphFromEthernet (memOf vlanUdpFrame) vlanUdpFrame.length =
    .ok { p := { link := some (.eth2 ⟨0, 14⟩), exts := [.vlan ⟨14, 4⟩],
                 net := some (.ip { v4 := true, hdr := ⟨18, 20⟩, auth := none, exts := ⟨18, 0⟩, first := none,
                                    slots := ExtSlots.none,
                                    pl := { num := 17, frag := false, src := .ipv4HeaderTotalLen, w := ⟨38, 12⟩,
                                            inc := false } }),
                 tp := some (.udp ⟨38, 12⟩), stop := none },
          pay := .udp ⟨46, 4⟩ false } := by
  rfl

set_option maxRecDepth 8000 in
example : lphFromEtherType (memOf (vlanUdpFrame.drop 14)) (g16 (memOf vlanUdpFrame) 12) 0 (vlanUdpFrame.drop 14).length =
    { p := { link := none, exts := [.vlan ⟨0, 4⟩],
             net := some (.ip { v4 := true, hdr := ⟨4, 20⟩, auth := none, exts := ⟨4, 0⟩, first := none,
                                slots := ExtSlots.none,
                                pl := { num := 17, frag := false, src := .ipv4HeaderTotalLen, w := ⟨24, 12⟩,
                                        inc := false } }),
             tp := some (.udp ⟨24, 12⟩), stop := none },
      pay := .udp ⟨32, 4⟩ false } := by
  rfl

/-! the cut frame: the length error of the strict doors 14 bytes apart, the stop error of the lax doors 14 bytes apart -/

set_option maxRecDepth 8000 in
example : phFromEthernet (memOf (vlanUdpFrame.take 40)) (vlanUdpFrame.take 40).length =
    .error (.len { req := 32, len := 22, src := .slice, layer := .ipv4Packet, off := 18 }) := by
  rfl

set_option maxRecDepth 8000 in
example : phFromEtherType (memOf ((vlanUdpFrame.take 40).drop 14)) (g16 (memOf (vlanUdpFrame.take 40)) 12) 0
      ((vlanUdpFrame.take 40).drop 14).length =
    .error (.len { req := 32, len := 22, src := .slice, layer := .ipv4Packet, off := 4 }) := by
  rfl

set_option maxRecDepth 8000 in
example : (lphFromEthernet (memOf (vlanUdpFrame.take 40)) (vlanUdpFrame.take 40).length).map (·.p.stop) =
    .ok (some (.len { req := 8, len := 2, src := .slice, layer := .udpHeader, off := 38 }, .udpHeader)) := by
  rfl

set_option maxRecDepth 8000 in
example : (lphFromEtherType (memOf ((vlanUdpFrame.take 40).drop 14)) (g16 (memOf (vlanUdpFrame.take 40)) 12) 0
      ((vlanUdpFrame.take 40).drop 14).length).p.stop =
    some (.len { req := 8, len := 2, src := .slice, layer := .udpHeader, off := 24 }, .udpHeader) := by
  rfl

/-! IPv6 with a fragment header (stored in the `frag` slot of `Ipv6Extensions`), then UDP -/

unseal extsLoop in
set_option maxRecDepth 8000 in
example : phFromEthernet (memOf v6FragUdpFrame) v6FragUdpFrame.length =
    .ok { p := { link := some (.eth2 ⟨0, 14⟩), exts := [],
                 net := some (.ip { v4 := false, hdr := ⟨14, 40⟩, auth := none, exts := ⟨54, 8⟩, first := some 44,
                                    slots := { hbh := none, dest := none, routing := none, finalDest := none,
                                               frag := some ⟨54, 8⟩, auth := none },
                                    pl := { num := 17, frag := false, src := .ipv6HeaderPayloadLen, w := ⟨62, 12⟩,
                                            inc := false } }),
                 tp := some (.udp ⟨62, 12⟩), stop := none },
          pay := .udp ⟨70, 4⟩ false } := by
  rfl

unseal extsLoop in
set_option maxRecDepth 8000 in
example : (phFromEtherType (memOf (v6FragUdpFrame.drop 14)) (g16 (memOf v6FragUdpFrame) 12) 0
      (v6FragUdpFrame.drop 14).length).map (·.pay) = .ok (.udp ⟨56, 4⟩ false) := by
  rfl

set_option maxRecDepth 8000 in
example : phFromEthernet (memOf [1,2,3]) ([1,2,3] : Bytes).length =
    .error (.len { req := 14, len := 3, src := .slice, layer := .ethernet2Header, off := 0 }) := by
  rfl

end HeadersEthernetVsEtherType

/-! ### the Linux SLL door of `LaxPacketHeaders` (the only struct door with an SLL start) -/

/-- what `LaxPacketHeaders::from_linux_sll` makes of the result of `LaxPacketHeaders::from_ether_type` on the
    bytes behind the 16 byte SLL header: every window moved by 16, the offset of a length stop error
    moved by 16, the link is the SLL header -/
def laxSllOfEtherTypeHeaders (h : Headers) : Headers :=
  { p := (stopAddOff 16 (shPacket 16 h.p)).setLink (.sll ⟨0, 16⟩), pay := shPay 16 h.pay }

/-- **`LaxPacketHeaders::from_linux_sll` = `LaxPacketHeaders::from_ether_type` on the bytes behind the SLL
    header, shifted by 16**, whenever the SLL header is accepted and its protocol field is an ether type
    (ARP hardware type Ethernet, protocol not one of the Linux non-standard numbers) -/
theorem lax_headers_linux_sll_start_equals_ether_type_start (b : Bytes) (et : Nat) (w : Win)
    (hs : sllFromSlice (memOf b) 0 b.length = .ok w)
    (hp : sllProtoOf (g16 (memOf b) 2) (g16 (memOf b) 14) = .ok (.etherType et)) :
    lphFromLinuxSll (memOf b) b.length =
      .ok (laxSllOfEtherTypeHeaders (lphFromEtherType (memOf (b.drop 16)) et 0 (b.drop 16).length)) := by
  rw [EpModel.Lemmas.ShiftEntry.memOf_drop_eq, List.length_drop]
  unfold lphFromLinuxSll
  rw [hs]
  simp only [hp]
  rw [show (16 : Nat) = 16 + 0 from rfl, lphFromEtherType_sh 16 (memOf b) (shM 16 (memOf b)) (fun _ => rfl)]
  simp only [laxSllOfEtherTypeHeaders, shHeaders]

/-- any other accepted protocol field (netlink, GRE, radiotap / FRAD, a Linux non-standard number): nothing
    behind the header is decoded, the payload is everything behind the 16 bytes -/
theorem lax_headers_linux_sll_start_other_protocol (b : Bytes) (w : Win)
    (hs : sllFromSlice (memOf b) 0 b.length = .ok w)
    (hp : ∀ et, sllProtoOf (g16 (memOf b) 2) (g16 (memOf b) 14) ≠ .ok (.etherType et)) :
    lphFromLinuxSll (memOf b) b.length =
      .ok { p := Packet.empty.setLink (.sll ⟨0, 16⟩), pay := .linuxSll ⟨16, b.length - 16⟩ } := by
  unfold lphFromLinuxSll
  rw [hs]
  cases hx : sllProtoOf (g16 (memOf b) 2) (g16 (memOf b) 14) with
  | error e => rfl
  | ok pr =>
    cases pr with
    | etherType et => exact absurd hx (hp et)
    | _ => rfl

/-- a rejected SLL header is the door's error, unchanged -/
theorem lax_headers_linux_sll_start_rejected (b : Bytes) (e : PErr)
    (hs : sllFromSlice (memOf b) 0 b.length = .error e) : lphFromLinuxSll (memOf b) b.length = .error e := by
  unfold lphFromLinuxSll
  rw [hs]

set_option maxRecDepth 8000 in
/-- the hypotheses are met by a real header: SLL (outgoing, ARP hardware type Ethernet, protocol 0x0800) -/
example :
    sllFromSlice (memOf [0, 4, 0, 1, 0, 6, 1, 2, 3, 4, 5, 6, 0, 0, 8, 0, 0x45, 0]) 0 18 = .ok ⟨0, 18⟩ ∧
    sllProtoOf (g16 (memOf [0, 4, 0, 1, 0, 6, 1, 2, 3, 4, 5, 6, 0, 0, 8, 0, 0x45, 0]) 2)
      (g16 (memOf [0, 4, 0, 1, 0, 6, 1, 2, 3, 4, 5, 6, 0, 0, 8, 0, 0x45, 0]) 14) = .ok (.etherType 0x0800) := by
  exact ⟨rfl, rfl⟩

end EpModel.Props.C06
