import EpModel.Props.C04
import EpModel.Props.C03
import EpModel.Props.C05
import EpModel.Props.C06Headers
/-
  C04, composed with the refinements of C03 / C05: decoding into header structs against the WIRE FORMATS
  themselves (`Spec.decode` / `Spec.decodeLax`), not only against slicing.
-/
namespace EpModel.Props.C04
open EpModel EpModel.Dec EpModel.Lemmas.StructSlice EpModel.Lemmas.Refine

/-- **`PacketHeaders::from_ethernet_slice` against the wire formats** (composition of the agreement with slicing
    and of C03's refinement): for every byte string, with `Spec.decode` started at the Ethernet II header,
    * the walk returns a packet and struct decoding returns the same layers as header structs (`NetAgree`,
      `PayAgree`: same network layer, same payload range), or struct decoding stopped in front of an IPv6
      extension header it cannot hold (`Early`);
    * the walk reports a fault and struct decoding reports an error that describes this fault (`ErrMatch`:
      layer, absolute offset, available / required bytes, limiting field; or the offending value), or it
      stopped `Early` in front of it;
    * struct decoding never rejects what the wire formats accept. -/
theorem headers_from_ethernet_vs_wire_formats (b : Bytes) :
    match Spec.decode .eth (memOf b) b.length, phFromEthernet (memOf b) b.length with
    | .ok p, .ok x =>
      (x.p.link = some (.eth2 ⟨0, 14⟩) ∧ p.link = some (.eth2 ⟨0, b.length⟩) ∧ x.p.exts = p.exts.map hdrExt ∧
        NetAgree x.p.net p.net ∧ x.p.tp = p.tp ∧ PayAgree (memOf b) x.pay p) ∨ Early x
    | .error f, .error e => ErrMatch e f
    | .error _, .ok x => Early x
    | .ok _, .error _ => False := by
  have h3 := EpModel.Props.C03.strict_from_ethernet_matches_wire_formats b
  have h4 := headers_from_ethernet_agree_with_slicing b
  revert h3 h4
  generalize slicedFromEthernet (memOf b) b.length = s
  generalize Spec.decode .eth (memOf b) b.length = d
  generalize phFromEthernet (memOf b) b.length = h
  intro h3 h4
  -- `Refines s d` turns the table over `(s, h)` into the table over `(d, h)`
  exact match s, d, h, h3, h4 with
  | .ok _, .ok _, .ok _, rfl, h4 => h4
  | .ok _, .ok _, .error _, rfl, h4 => h4
  | .error _, .error _, .ok _, _, h4 => h4
  | .error _, .error _, .error _, h3, rfl => h3
  | .ok _, .error _, _, h3, _ => h3.elim
  | .error _, .ok _, _, h3, _ => h3.elim

/-- **`PacketHeaders::from_ether_type` against the wire formats**, for every ether type and byte string -/
theorem headers_from_ether_type_vs_wire_formats (et : Nat) (b : Bytes) :
    match Spec.decode (.etherType et) (memOf b) b.length, phFromEtherType (memOf b) et 0 b.length with
    | .ok p, .ok x =>
      Agree (memOf b) x p Packet.empty (Packet.empty.setLink (.etherPayload et ⟨0, b.length⟩)) ∨ Early x
    | .error f, .error e => ErrMatch e f
    | .error _, .ok x => Early x
    | .ok _, .error _ => False := by
  have h3 := EpModel.Props.C03.strict_from_ether_type_matches_wire_formats et b
  have h4 := headers_from_ether_type_agree_with_slicing et b
  revert h3 h4
  generalize slicedFromEtherType (memOf b) et b.length = s
  generalize Spec.decode (.etherType et) (memOf b) b.length = d
  generalize phFromEtherType (memOf b) et 0 b.length = h
  intro h3 h4
  exact match s, d, h, h3, h4 with
  | .ok _, .ok _, .ok _, rfl, h4 => h4
  | .ok _, .ok _, .error _, rfl, h4 => h4
  | .error _, .error _, .ok _, _, h4 => h4
  | .error _, .error _, .error _, h3, h4 => (h4.trans (lenAddOff_zero _)) ▸ h3
  | .ok _, .error _, _, h3, _ => h3.elim
  | .error _, .ok _, _, h3, _ => h3.elim

/-- **`LaxPacketHeaders::from_ethernet` against the wire formats** (composition of the lax agreement with lax
    slicing and of C05's lax refinement): whenever it returns a value, lax slicing returns a packet `m` for the
    same bytes that is the lax wire-format walk in front of its first fault (`RelLaxW`: same layers, a stop error
    exactly when the walk faults, describing the fault), and the header structs are those layers - same
    extensions, network layer, transport layer, stop error up to its wording, payload range and incomplete
    mark - or struct decoding stopped in front of an IPv6 extension header it cannot hold (`EarlyLax`). -/
theorem lax_headers_from_ethernet_vs_wire_formats (b : Bytes) (x : Headers)
    (hx : lphFromEthernet (memOf b) b.length = .ok x) :
    ∃ m, laxSlicedFromEthernet (memOf b) b.length = .ok m ∧
      EpModel.Lemmas.RefineLax.RelLaxW (memOf b) m (Spec.decodeLax .eth (memOf b) b.length) ∧
      ((x.p.link = some (.eth2 ⟨0, 14⟩) ∧ m.link = some (.eth2 ⟨0, b.length⟩) ∧ x.p.exts = m.exts.map hdrExt ∧
          NetAgree x.p.net m.net ∧ x.p.tp = m.tp ∧
          (StopAgree 0 x.p.stop m.stop ∨ ShortV4Stops (memOf b) x.p.stop m.stop) ∧
          PayAgreeLax (memOf b) x.pay m) ∨ EarlyLax x) := by
  have h4 := lax_headers_from_ethernet_agree_with_slicing b
  have h5 := EpModel.Props.C05.lax_from_ethernet_matches_wire_formats b
  rw [hx] at h4
  cases hs : laxSlicedFromEthernet (memOf b) b.length with
  | error e => rw [hs] at h4; exact h4.elim
  | ok m =>
    rw [hs] at h4 h5
    exact ⟨m, rfl, h5.1, h4⟩

/-- **`LaxPacketHeaders::from_ether_type` against the wire formats**: its result agrees (`LaxAgree`) with a packet that
    is the lax wire-format walk in front of its first fault, or it stopped `EarlyLax` -/
theorem lax_headers_from_ether_type_vs_wire_formats (et : Nat) (b : Bytes) :
    EpModel.Lemmas.RefineLax.RelLaxW (memOf b) (laxSlicedFromEtherType (memOf b) et b.length)
        (Spec.decodeLax (.etherType et) (memOf b) b.length) ∧
      (LaxAgree (memOf b) 0 (lphFromEtherType (memOf b) et 0 b.length) (laxSlicedFromEtherType (memOf b) et b.length)
          Packet.empty (Packet.empty.setLink (.etherPayload et ⟨0, b.length⟩)) ∨
        EarlyLax (lphFromEtherType (memOf b) et 0 b.length)) :=
  ⟨EpModel.Props.C05.lax_from_ether_type_matches_wire_formats et b, lax_headers_from_ether_type_agree_with_slicing et b⟩

set_option maxRecDepth 8000 in
/-- the theorems speak about real results: the Ethernet / VLAN / IPv4 / UDP frame of Props/C06Headers.lean is
    accepted by struct decoding, and cut after 40 bytes it is rejected (so both the `ok, ok` and the
    `error, error` rows are inhabited) -/
example : (phFromEthernet (memOf EpModel.Props.C06.vlanUdpFrame) EpModel.Props.C06.vlanUdpFrame.length).isOk = true ∧
    (phFromEthernet (memOf (EpModel.Props.C06.vlanUdpFrame.take 40)) (EpModel.Props.C06.vlanUdpFrame.take 40).length).isOk = false := by
  constructor <;> rfl

end EpModel.Props.C04
