import EpModel.Lemmas.Checksum
import EpModel.Lemmas.ChecksumWire
/-
  C09 — checksums equal the RFC 1071 Internet checksum.

  Model: EpModel.Model.Checksum (checksum.rs).  Spec: EpModel.Spec.Rfc1071.
  All statements quantify over every byte string / accumulator state; no size bound.
-/
namespace EpModel.Props.C09
open EpModel EpModel.Spec EpModel.Checksum EpModel.Lemmas.Checksum

/-- 64 bit accumulator: adding a slice to any state keeps the state below 2^64 (no lost carry) and
    adds exactly the little endian words of the slice modulo 65535; the state is zero only if
    nothing non-zero was ever added. -/
theorem acc64_invariant (s : Nat) (b : Bytes) (hs : s < 2 ^ 64) :
    addSlice64 s b < 2 ^ 64 ∧ addSlice64 s b % 65535 = (s + leWords b) % 65535 ∧
      (addSlice64 s b = 0 ↔ s + leWords b = 0) :=
  let h := addSlice64_cls s b hs
  ⟨h.2, h.1.1, h.1.2⟩

/-- the same for the 32 bit accumulator. -/
theorem acc32_invariant (s : Nat) (b : Bytes) (hs : s < 2 ^ 32) :
    addSlice32 s b < 2 ^ 32 ∧ addSlice32 s b % 65535 = (s + leWords b) % 65535 ∧
      (addSlice32 s b = 0 ↔ s + leWords b = 0) :=
  let h := addSlice32_cls s b hs
  ⟨h.2, h.1.1, h.1.2⟩

/-- the fixed-size adders (add_2bytes / add_4bytes / add_8bytes) are end-around-carry additions. -/
theorem adders64 (s : Nat) (v : Bytes) (hs : s < 2 ^ 64) (hv : v.length ≤ 8) :
    addCarry 64 s (leVal v) < 2 ^ 64 ∧ addCarry 64 s (leVal v) % 65535 = (s + leVal v) % 65535 := by
  have hl := leVal_lt v
  have : (256:Nat) ^ v.length ≤ 256 ^ 8 := Nat.pow_le_pow_right (by omega) hv
  have h := addCarry_cls (w := 64) (by decide) hs (show leVal v < 2 ^ 64 by omega)
  exact ⟨h.2, h.1.1⟩

/-- ones_complement of the 64 bit accumulator folds the sum correctly for every state. -/
theorem fold64 (s : Nat) (hs : s < 2 ^ 64) : onesComplement64 s = 65535 - fold16 s :=
  onesComplement64_eq s hs

theorem fold32 (s : Nat) (hs : s < 2 ^ 32) : onesComplement32 s = 65535 - fold16 s :=
  onesComplement32_eq s hs

/-- main statement: for every byte string, the value the crate transmits
    (`ones_complement().to_be()` of the accumulated slice) is the RFC 1071 checksum. -/
theorem checksum_eq_rfc (b : Bytes) :
    swap16 (onesComplement64 (addSlice64 0 b)) = Spec.checksum b := by
  have h := addSlice64_cls 0 b (by omega)
  rw [Nat.zero_add] at h
  exact checksum_of_acc h

/-- 32 bit and 64 bit accumulators give the same result. -/
theorem acc32_eq_acc64 (b : Bytes) :
    onesComplement32 (addSlice32 0 b) = onesComplement64 (addSlice64 0 b) := by
  have h := addSlice64_cls 0 b (by omega)
  have h' := addSlice32_cls 0 b (by omega)
  rw [onesComplement64_eq _ h.2, onesComplement32_eq _ h'.2]
  congr 1
  exact fold16_congr (h'.1.trans h.1.symm)

/-- splitting the data at any even offset into two successive additions changes nothing,
    from any accumulator state. -/
theorem split_even (s : Nat) (b : Bytes) (k : Nat) (hs : s < 2 ^ 64) (hk : k % 2 = 0) :
    onesComplement64 (addSlice64 (addSlice64 s (b.take k)) (b.drop k)) =
      onesComplement64 (addSlice64 s b) := by
  by_cases hkl : b.length < k
  · rw [List.take_of_length_le (by omega), List.drop_of_length_le (by omega), addSlice64_nil]
  have h1 := addSlice64_cls s (b.take k) hs
  have h2 := addSlice64_cls _ (b.drop k) h1.2
  have h := addSlice64_cls s b hs
  rw [onesComplement64_eq _ h2.2, onesComplement64_eq _ h.2]
  refine congrArg _ (fold16_congr ((h2.1.trans ?_).trans h.1.symm))
  conv => rhs; rw [← List.take_append_drop k b,
    leWords_append_even _ _ (by rw [List.length_take]; omega), ← Nat.add_assoc]
  exact Cls.add h1.1 (Cls.refl _)

/-- the same for any number of successive parts of even length (`Sum16BitWords::add_slice` chain). -/
theorem parts_even (parts : List Bytes) (last : Bytes) (h : ∀ p ∈ parts, p.length % 2 = 0) :
    swap16 (onesComplement64 ((parts ++ [last]).foldl addSlice64 0)) =
      Spec.checksum (parts.flatten ++ last) := by
  suffices hgen : ∀ (ps : List Bytes) (s : Nat), s < 2 ^ 64 → (∀ p ∈ ps, p.length % 2 = 0) →
      Acc 64 ((ps ++ [last]).foldl addSlice64 s) (s + leWords (ps.flatten ++ last)) by
    have hg := hgen parts 0 (by omega) h
    rw [Nat.zero_add] at hg
    exact checksum_of_acc hg
  intro ps
  induction ps with
  | nil => exact fun s hs _ => addSlice64_cls s last hs
  | cons p ps ih =>
    intro s hs hev
    have hp := addSlice64_cls s p hs
    have := ih (addSlice64 s p) hp.2 (fun q hq => hev q (by simp [hq]))
    simp only [List.cons_append, List.foldl_cons, List.flatten_cons, List.append_assoc]
    rw [leWords_append_even _ _ (hev p (by simp)), ← Nat.add_assoc]
    exact ⟨this.1.trans (Cls.add hp.1 (Cls.refl _)), this.2⟩

/-- the "no zero" variant (used for UDP) never yields 0 and otherwise equals the checksum. -/
theorem no_zero (s : Nat) :
    onesComplementNoZero64 s ≠ 0 ∧
      (onesComplement64 s ≠ 0 → onesComplementNoZero64 s = onesComplement64 s) ∧
      (onesComplement64 s = 0 → onesComplementNoZero64 s = 65535) := by
  unfold onesComplementNoZero64 noZero
  split <;> simp_all

/-- a message whose checksum field holds the RFC checksum of the rest sums to 0xffff, i.e. the
    checksum recomputed over the complete message is 0; stated on the folded sums. -/
theorem valid_sum (x c : Nat) (hc : c = 65535 - fold16 x) : fold16 (x + c) = 65535 := by
  subst hc
  unfold fold16
  by_cases hx : x = 0
  · subst hx; simp
  · simp only [hx, if_false]
    split <;> omega

/-! the hypotheses above (`s < 2 ^ 64`, `k % 2 = 0`) have instances: the smallest and the largest
    accumulator state, an even offset -/
example : (0 : Nat) < 2 ^ 64 ∧ (2 ^ 64 - 1 : Nat) < 2 ^ 64 ∧ (4 : Nat) % 2 = 0 := by omega


/-- every `Sum16BitWords` method (`add_2bytes`, `add_4bytes`, `add_8bytes`, `add_16bytes`) is `add_slice`
    of the same bytes, from every accumulator state (including a saturated 64 bit accumulator) -/
theorem sum16_methods_are_add_slice (s : Nat) (v : Bytes) : s16Method s v = addSlice64 s v :=
  s16Method_eq s v

theorem s16_chain_rfc (parts : List Bytes) (last : Bytes) (h : ∀ p ∈ parts, p.length % 2 = 0) :
    swap16 (onesComplement64 ((parts ++ [last]).foldl s16Method 0)) = Spec.checksum (parts.flatten ++ last) := by
  have : s16Method = addSlice64 := by funext s v; exact s16Method_eq s v
  rw [this]
  exact parts_even parts last h

/-- a message whose checksum field (at an even offset) holds the RFC checksum of the message with a
    zeroed field verifies: the checksum over everything is 0 -/
theorem stored_checksum_verifies (pre post : Bytes) (hi lo : UInt8) (hpre : pre.length % 2 = 0)
    (h : hi.toNat * 256 + lo.toNat = Spec.checksum (pre ++ [0, 0] ++ post)) :
    Spec.checksum (pre ++ [hi, lo] ++ post) = 0 := by
  have e : beWords (pre ++ [hi, lo] ++ post) =
      beWords (pre ++ [0, 0] ++ post) + (hi.toNat * 256 + lo.toNat) := by
    simp [beWords_append_even, hpre, beWords]
    omega
  rw [checksum_zero_iff, e, h, Spec.checksum, ocSum_eq_fold]
  exact valid_sum _ _ rfl

/-- `Icmpv6Slice::is_checksum_valid` (as modelled by `validIcmp6`) accepts exactly the messages whose
    complete sum, pseudo header included, folds to 0xffff -/
theorem icmp6_valid_iff (src dst m : Bytes) :
    validIcmp6 src dst m = true ↔ fold16 (beWords (pseudo6 src dst 58 m.length ++ m)) = 65535 := by
  unfold validIcmp6
  simp only [decide_eq_true_eq]
  exact checksum_zero_iff _

end EpModel.Props.C09
