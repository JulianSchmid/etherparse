import EpModel.Lemmas.DecRefineLaxEntry
/-
  C05 — lax parsing extends strict parsing and flags truncation honestly.

  Proved for every memory and input length:
  * `strict_ok_lax_same_*`: whenever strict slicing (from Ethernet II, an ether type, IP) succeeds,
    lax slicing of the same input returns exactly the same layers and payloads, no stop error and
    nothing marked incomplete; the same for every IP boundary implementation, UDP, MACsec and the
    extension walkers (where the strict function *is* the lax one that turns a stop error into Err).
  * `lax_err_iff_first_header_*`: a lax entry point returns Err exactly when the very first header
    is undecodable.
  * `incomplete_iff_*`: a payload is marked incomplete exactly when its length field promised more
    than the slice holds; then the data up to the end of the slice is handed out and the slice is
    the reported length source.
  * `lax_*_matches_wire_formats`: the lax cursor against the lax walk.  For every byte string
    the lax cursor model returns exactly what the lax wire-format walk `Spec.decodeLax` returns: the
    same layers in front of the first fault (windows, fragmentation flags, length sources, incomplete
    marks), a stop error exactly when the walk reports a fault, recorded at the layer of the faulting
    unit and describing the fault (`ErrMatch`, the notion of the strict refinement C03/C07).  One known
    exception, the short-IPv4 class (`ShortV4Stop`, the lax twin of C03's `ShortV4`): every lax door
    decodes IP through the version-dispatching `LaxIpSlice::from_slice`, which reads the IHL before the length check, so for
    an IPv4 version nibble in 1..19 bytes it names the bad IHL / requires `ihl*4` bytes where the wire
    format reading says "20 bytes needed"; offset, available bytes and layer still agree.
  `tolerated` (what lax mode absorbs) is the explicit list in the python module
  (`tools/epcheck/props/c05.py`); the oracle of the check runs `spec.dec.decode_lax` against the real crate
  in addition to this proof.
-/
namespace EpModel.Props.C05
open EpModel EpModel.Dec EpModel.Lemmas.Dec

theorem strict_ok_lax_same_ethernet (g : Mem) (n : Nat) (p : Packet) (h : slicedFromEthernet g n = .ok p) :
    laxSlicedFromEthernet g n = .ok p ∧ p.stop = none ∧ NoInc p := sliced_ethernet_strict_lax g n p h

theorem strict_ok_lax_same_ether_type (g : Mem) (et n : Nat) (p : Packet)
    (h : slicedFromEtherType g et n = .ok p) :
    laxSlicedFromEtherType g et n = p ∧ p.stop = none ∧ NoInc p := sliced_ether_type_strict_lax g et n p h

theorem strict_ok_lax_same_ip (g : Mem) (n : Nat) (p : Packet) (h : slicedFromIp g n = .ok p) :
    laxSlicedFromIp g n = .ok p ∧ p.stop = none ∧ NoInc p := sliced_ip_strict_lax g n p h

theorem strict_ok_lax_same_ip_boundaries (g : Mem) (o l : Nat) (r : IpR) :
    (ipSliceFromSlice g o l = .ok r → laxIpSliceFromSlice g o l = .ok (r, none) ∧ r.pl.inc = false) ∧
    (ipv4SliceFromSlice g o l = .ok r →
      laxIpv4SliceFromSlice g o l = .ok (r, none) ∧ laxIpSliceFromSlice g o l = .ok (r, none) ∧ r.pl.inc = false) ∧
    (ipv6SliceFromSlice g o l = .ok r →
      laxIpv6SliceFromSlice g o l = .ok (r, none) ∧ laxIpSliceFromSlice g o l = .ok (r, none) ∧ r.pl.inc = false) ∧
    (ipHeadersFromSlice g o l = .ok r → ipHeadersFromSliceLax g o l = .ok (r, none) ∧ r.pl.inc = false) :=
  ⟨ipSlice_strict_lax g o l r,
   fun h => let k := ipv4Slice_strict_lax g o l r h; ⟨k.2.1, k.1, k.2.2⟩,
   fun h => let k := ipv6Slice_strict_lax g o l r h; ⟨k.2.1, k.1, k.2.2⟩,
   ipHeaders_strict_lax g o l r⟩

theorem strict_ok_lax_same_udp (g : Mem) (o l : Nat) (w : Win) (h : udpFromSlice g o l = .ok w) :
    udpFromSliceLax g o l = .ok w := udp_strict_ok_lax_same g o l w h

theorem strict_ok_lax_same_macsec (g : Mem) (o l : Nat) (x : ExtR) (h : macsecFromSlice g o l = .ok x) :
    laxMacsecFromSlice g o l = .ok x := macsec_strict_ok_lax_same g o l x h

/-- extension walkers: the strict result is the lax result, and the lax one has no stop error -/
theorem strict_ok_lax_same_exts (g : Mem) (sm : Bool) (nh o l : Nat) (r : ExtsOut)
    (h : extsWalkStrict g sm nh o l = .ok r) : r = extsWalk g sm nh o l ∧ (extsWalk g sm nh o l).stop = none :=
  extsWalkStrict_ok g sm nh o l r h

theorem lax_err_iff_first_header_ethernet (g : Mem) (n : Nat) :
    (∃ e, laxSlicedFromEthernet g n = .error e) ↔ n < 14 := by
  unfold laxSlicedFromEthernet eth2FromSlice
  by_cases h : n < 14 <;> simp [h]

theorem lax_err_iff_first_header_ip (g : Mem) (n : Nat) :
    (∃ e, laxSlicedFromIp g n = .error e) ↔ ∃ e, ipDispatchHeader g false 0 n = .error e := by
  unfold laxSlicedFromIp laxIpSliceFromSlice
  cases hd : ipDispatchHeader g false 0 n with
  | error e => simp
  | ok x => cases x <;> simp

/-- (`LaxSlicedPacket::from_ether_type` returns no `Result` at all: it is total by its type.) -/
theorem lax_ether_type_total (g : Mem) (et n : Nat) : ∃ p, laxSlicedFromEtherType g et n = p := ⟨_, rfl⟩

theorem incomplete_iff_ipv4 (o l hl tl : Nat) :
    ((ipv4BoundLax o l hl tl).2.2 = true ↔ (hl ≤ tl ∧ l < tl)) ∧
      ((ipv4BoundLax o l hl tl).2.2 = true →
        (ipv4BoundLax o l hl tl).1 = ⟨o + hl, l - hl⟩ ∧ (ipv4BoundLax o l hl tl).2.1 = .slice) := by
  unfold ipv4BoundLax
  split
  · simp; omega
  · split <;> simp <;> omega

theorem incomplete_iff_ipv6 (o l pl : Nat) :
    ((ipv6BoundLax o l pl).2.2 = true ↔ (¬ (pl = 0 ∧ l > 40) ∧ l < 40 + pl)) ∧
      ((ipv6BoundLax o l pl).2.2 = true →
        (ipv6BoundLax o l pl).1 = ⟨o + 40, l - 40⟩ ∧ (ipv6BoundLax o l pl).2.1 = .slice) := by
  unfold ipv6BoundLax
  split
  · simp_all
  · split <;> simp_all

theorem incomplete_iff_macsec (g : Mem) (o l : Nat) (hdr pl : Win) (src : LenSource) (inc : Bool)
    (h : laxMacsecFromSlice g o l = .ok (.macsec hdr pl src inc)) :
    (inc = true ↔ ∃ n, macsecExpectedPayloadLen g o = some n ∧ l < hdr.l + n) ∧
      (inc = true → pl = ⟨o + hdr.l, l - hdr.l⟩ ∧ src = .slice) := by
  unfold laxMacsecFromSlice at h
  split at h
  · contradiction
  · rename_i hl hh
    split at h
    · rename_i n hn
      simp only at h
      split at h
      · cases h; simp_all
      · cases h; simp_all
    · cases h; simp_all

/-- UDP lax: the slice is cut to the UDP length exactly when that length is admissible, otherwise
    the rest of the data is handed out -/
theorem udp_lax_rule (g : Mem) (o l : Nat) (h8 : 8 ≤ l) :
    udpFromSliceLax g o l =
      .ok (if l < g16 g (o + 4) ∨ g16 g (o + 4) < 8 then ⟨o, l⟩ else ⟨o, g16 g (o + 4)⟩) := by
  unfold udpFromSliceLax
  have : ¬ l < 8 := by omega
  simp only [this, if_false]
  split <;> rfl

open EpModel.Spec EpModel.Lemmas.Refine EpModel.Lemmas.RefineLax

/-- `LaxSlicedPacket::from_ether_type` = wire formats, for every ether type and byte string:
    the same layers in front of the first fault, a stop error iff the walk reports a fault, and the
    stop error describes the fault (`RelLaxW` = `RelLax` + the short-IPv4 class `ShortV4Stop`). -/
theorem lax_from_ether_type_matches_wire_formats (et : Nat) (b : Bytes) :
    RelLaxW (memOf b) (laxSlicedFromEtherType (memOf b) et b.length)
      (Spec.decodeLax (.etherType et) (memOf b) b.length) :=
  lax_from_ether_type_refinesW (memOf b) (byteMem_memOf b) et b.length

/-- … and without any exception (`RelLax`: the stop error matches the fault in the sense of the strict
    refinement) whenever the walk does not end at an IPv4 header of fewer than 20 bytes. -/
theorem lax_from_ether_type_matches_wire_formats_exactly (et : Nat) (b : Bytes)
    (h : ¬ ShortV4Fault (Spec.decodeLax (.etherType et) (memOf b) b.length)) :
    RelLax (laxSlicedFromEtherType (memOf b) et b.length)
      (Spec.decodeLax (.etherType et) (memOf b) b.length) :=
  relLax_of_W (lax_from_ether_type_matches_wire_formats et b) h

/-- `LaxSlicedPacket::from_ethernet` = wire formats: `Err` exactly when the walk faults at the
    Ethernet II header (with a matching length error), otherwise as for `from_ether_type`. -/
theorem lax_from_ethernet_matches_wire_formats (b : Bytes) :
    match laxSlicedFromEthernet (memOf b) b.length with
    | .error e =>
      ∃ f, Spec.decodeLax .eth (memOf b) b.length = (Packet.empty, some f) ∧ f.unit = .eth ∧ LenMatch e f
    | .ok m =>
      RelLaxW (memOf b) m (Spec.decodeLax .eth (memOf b) b.length) ∧
        ∀ f, (Spec.decodeLax .eth (memOf b) b.length).2 = some f → f.unit ≠ .eth :=
  lax_from_ethernet_refinesW (memOf b) (byteMem_memOf b) b.length

theorem lax_from_ethernet_matches_wire_formats_exactly (b : Bytes) (m : Packet)
    (hm : laxSlicedFromEthernet (memOf b) b.length = .ok m)
    (h : ¬ ShortV4Fault (Spec.decodeLax .eth (memOf b) b.length)) :
    RelLax m (Spec.decodeLax .eth (memOf b) b.length) := by
  have key := lax_from_ethernet_matches_wire_formats b
  rw [hm] at key
  exact relLax_of_W key.1 h

/-- `LaxSlicedPacket::from_ip` = wire formats: `Err` exactly when the walk faults at the first (IP)
    header, before any layer; otherwise `RelLax`.  On the short-IPv4 class (`ShortV4`: IPv4 version
    nibble, 1..19 bytes) both reject, the model with the error `ShortV4` describes (as in C03). -/
theorem lax_from_ip_matches_wire_formats (b : Bytes) :
    if memOf b 0 / 16 = 4 ∧ 0 < b.length ∧ b.length < 20 then
      (∃ e, laxSlicedFromIp (memOf b) b.length = .error e ∧ ShortV4 (memOf b) 0 b.length Cur.new e) ∧
        Spec.decodeLax .ip (memOf b) b.length =
          (Packet.empty, some (mkFault (ctx0 b.length) .cutShort .ipv4Header 20))
    else
      match laxSlicedFromIp (memOf b) b.length with
      | .error e =>
        ∃ f, Spec.decodeLax .ip (memOf b) b.length = (Packet.empty, some f) ∧
          (f.unit = .ipAny ∨ f.unit = .ipv4Header ∨ f.unit = .ipv6Header) ∧ ErrMatch e f
      | .ok m => RelLax m (Spec.decodeLax .ip (memOf b) b.length) ∧ m.net.isSome :=
  lax_from_ip_refines (memOf b) (byteMem_memOf b) b.length

/-- … and an `Ok` of lax `from_ip` means the walk has no fault at the first (IP) header -/
theorem lax_from_ip_ok_not_first_header (b : Bytes) (m : Packet)
    (h : laxSlicedFromIp (memOf b) b.length = .ok m) (f : Fault)
    (hf : (Spec.decodeLax .ip (memOf b) b.length).2 = some f) :
    ¬ (f.unit = .ipAny ∨ f.unit = .ipv4Header ∨ f.unit = .ipv6Header) :=
  lax_from_ip_ok_fault_unit (memOf b) (byteMem_memOf b) b.length m h f hf

/-- Corollary (all lax doors that return a packet): the layers in front of the fault are the wire
    format's, a lax result has a stop error exactly when the wire-format walk reports a fault, and the
    stop error is located where the fault is — the recorded layer names the faulting unit, a length
    error carries the fault's absolute offset and the bytes really available there.  This holds
    without exception (also on the short-IPv4 class). -/
theorem lax_stop_iff_fault_and_located (g : Mem) (m : Packet) (s : Packet × Option Fault)
    (h : RelLaxW g m s) :
    noStop m = s.1 ∧ (m.stop = none ↔ s.2 = none) ∧
      ∀ e ly f, m.stop = some (e, ly) → s.2 = some f →
        StopLayer ly f.unit ∧ ∀ le, e = .len le → le.off = f.off ∧ le.len = f.avail :=
  ⟨((relLaxW_iff g m s).mp h).1, ((relLaxW_iff g m s).mp h).2.1,
    fun e ly f hm hf => relLaxW_located h e ly f hm hf⟩

theorem lax_ether_type_stop_iff_fault (et : Nat) (b : Bytes) :
    ((laxSlicedFromEtherType (memOf b) et b.length).stop = none ↔
      (Spec.decodeLax (.etherType et) (memOf b) b.length).2 = none) ∧
    ∀ e ly f, (laxSlicedFromEtherType (memOf b) et b.length).stop = some (e, ly) →
      (Spec.decodeLax (.etherType et) (memOf b) b.length).2 = some f →
      StopLayer ly f.unit ∧ ∀ le, e = .len le → le.off = f.off ∧ le.len = f.avail :=
  (lax_stop_iff_fault_and_located _ _ _ (lax_from_ether_type_matches_wire_formats et b)).2

theorem lax_ethernet_stop_iff_fault (b : Bytes) (m : Packet)
    (hm : laxSlicedFromEthernet (memOf b) b.length = .ok m) :
    (m.stop = none ↔ (Spec.decodeLax .eth (memOf b) b.length).2 = none) ∧
    ∀ e ly f, m.stop = some (e, ly) → (Spec.decodeLax .eth (memOf b) b.length).2 = some f →
      StopLayer ly f.unit ∧ ∀ le, e = .len le → le.off = f.off ∧ le.len = f.avail := by
  have key := lax_from_ethernet_matches_wire_formats b
  rw [hm] at key
  exact (lax_stop_iff_fault_and_located _ _ _ key.1).2

theorem lax_ip_stop_iff_fault (b : Bytes) (m : Packet)
    (hm : laxSlicedFromIp (memOf b) b.length = .ok m) :
    (m.stop = none ↔ (Spec.decodeLax .ip (memOf b) b.length).2 = none) ∧
    ∀ e ly f, m.stop = some (e, ly) → (Spec.decodeLax .ip (memOf b) b.length).2 = some f →
      StopLayer ly f.unit ∧ ErrMatch e f := by
  have key := lax_from_ip_matches_wire_formats b
  split at key
  · obtain ⟨⟨e, he, _⟩, _⟩ := key
    rw [he] at hm; cases hm
  · rw [hm] at key
    exact ((relLax_iff _ _).mp key.1).2

/-- the statement without the exception for the short-IPv4 class (`ShortV4`); false, see the next theorem -/
def LaxEtherTypeExceptionFree : Prop :=
  ∀ (et : Nat) (b : Bytes),
    RelLax (laxSlicedFromEtherType (memOf b) et b.length) (Spec.decodeLax (.etherType et) (memOf b) b.length)

/-- … it is false: on the 4 bytes `4f 00 00 00` behind ether type 0x0800 the lax cursor requires
    60 bytes (IHL 15, read before the length check) where the wire-format walk says "20 needed".
    `lax_from_ether_type_matches_wire_formats` (with `ShortV4Stop`) is therefore the full statement;
    `…_exactly` says that this input class is the only exception. -/
theorem lax_exception_free_statement_fails : ¬ LaxEtherTypeExceptionFree := by
  intro hall
  have h := hall 0x0800 [0x4f, 0, 0, 0]
  have hm : (laxSlicedFromEtherType (memOf [0x4f, 0, 0, 0]) 0x0800 4).stop =
      some (.len { req := 60, len := 4, src := .slice, layer := .ipv4Header, off := 0 }, .ipHeader) := by
    decide
  have hf : (Spec.decodeLax (.etherType 0x0800) (memOf [0x4f, 0, 0, 0]) 4).2 =
      some { cls := .cutShort, unit := .ipv4Header, off := 0, avail := 4, need := 20, lim := .slice, value := 0 } := by
    decide
  have := (((relLax_iff _ _).mp h).2.2 _ _ _ hm hf).2
  exact absurd this.req (by decide)

end EpModel.Props.C05
