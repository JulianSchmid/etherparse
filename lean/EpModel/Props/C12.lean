/-
  Property C12 — extension-header chain bookkeeping is self-consistent.

  Model: EpModel/Model/Ipv6Exts.lean, Ipv4Exts.lean (the five walkers of `Ipv6Extensions` /
  `Ipv4Extensions`, each following its Rust function); Spec: EpModel/Spec/Rfc8200Order.lean
  (declarative walk, RFC 8200 order); helper lemmas: EpModel/Lemmas/Ext.lean.

  The presence pattern of a struct is finite, the `next_header` values, payloads and fields are
  universally quantified in every theorem below.
-/
import EpModel.Lemmas.Ext
namespace EpModel.Props.C12
open EpModel EpModel.Ext EpModel.Spec.Ext

/-! ## Ipv6Extensions -/

/-- `write` and `next_header` agree on EVERY struct (consistent or not) and every first header:
    `write` returns exactly the verdict of `next_header` (same error value), in particular it
    succeeds exactly when the walk succeeds. -/
theorem write_iff_walk (e : Exts) (first : Nat) :
    (e.write first).2 = (e.nextHeader first).map (fun _ => ()) ∧
    ((e.write first).2.isOk = (e.nextHeader first).isOk) :=
  ⟨write_snd_eq e first, by rw [write_snd_eq]; cases e.nextHeader first <;> rfl⟩

/-- no `unwrap()` of the two walkers can fail: neither `next_header` nor `write` panics, for any
    struct and any first header (the no-panic half of "reported as errors, never by panicking"). -/
theorem walkers_never_panic (e : Exts) (first : Nat) :
    e.nextHeader first ≠ .error .panic ∧ (e.write first).2 ≠ .error .panic := by
  have h : e.nextHeader first ≠ .error .panic := by
    obtain ⟨_, fl, _, _, _, _, hn⟩ := walk_run e first
    rw [hn]
    intro h
    rcases finishWalk_stop_err h with ⟨h, _⟩ | hc
    · cases h
    · obtain ⟨k, _, hk⟩ := fl.check_err _ hc
      cases hk
  refine ⟨h, ?_⟩
  rw [write_snd_eq]
  cases hh : e.nextHeader first with
  | ok n => simp [Except.map]
  | error f => simp [Except.map]; intro hf; exact h (by rw [hh, hf])

/-- a successful `write` emits exactly `header_len()` bytes (type invariants of the stored headers
    assumed: payload length 6 + 8k ≤ 2046, ICV length 4k ≤ 1016). -/
theorem write_len (e : Exts) (hwf : e.WF) (first : Nat) (out : Bytes)
    (h : e.write first = (out, .ok ())) : out.length = e.headerLen := by
  have hs := write_snd_eq e first
  rw [h] at hs
  cases hn : e.nextHeader first with
  | error f => rw [hn] at hs; cases hs
  | ok n =>
    obtain ⟨chain, hp, _, hw⟩ := walk_ok_chain e first n hn
    rw [h] at hw
    rw [(Prod.mk.inj hw).1, ← rfcChain_length e hwf]
    exact (hp.flatMap_right _).length_eq

/-- Linking with `set_next_headers(n)` and walking from the returned first number gives `n`,
    `write` succeeds and emits the present headers in the RFC 8200 order, and that chain is a
    declarative walk (Spec) from the returned first number to `n`.
    Holds for every `n` (in particular for every `n` that is not an extension header number). -/
theorem link_then_walk (e e' : Exts) (n first' : Nat) (h : e.setNextHeaders n = (e', first')) :
    e'.nextHeader first' = .ok n ∧
    e'.write first' = (serialise e'.rfcChain, .ok ()) ∧
    Walk first' e'.rfcChain n ∧ InRfcOrder e'.rfcChain :=
  have hw := link_walk e e' n first' h
  ⟨(write_of_walk e' first' n hw).2, (write_of_walk e' first' n hw).1, hw, rfcChain_inOrder e'⟩

/-- the statement in the shape of the property text. -/
theorem link_then_walk_non_ext (e : Exts) (n : Nat) (_hn : isIpv6ExtHeaderValue n = false) :
    (e.setNextHeaders n).1.nextHeader (e.setNextHeaders n).2 = .ok n :=
  (link_then_walk e _ n _ rfl).1

/-- Decoding what `write` emitted (followed by any `tail`) gives back the same struct, the number
    the walk ends in, and the untouched tail -- for EVERY chain order `write` accepts, under the
    type invariants of the stored headers, when the final number is not one of the five numbers
    the decoder itself consumes (otherwise it would go on decoding `tail`). -/
theorem write_decode (e : Exts) (hwf : e.WF) (first : Nat) (out : Bytes) (last : Nat) (tail : Bytes)
    (hw : e.write first = (out, .ok ()))
    (hn : e.nextHeader first = .ok last)
    (hl : isWalked last = false) :
    Exts.fromSlice first (out ++ tail) = .ok (e, last, tail) := by
  obtain ⟨chain, fl', n, hr, _, hw', hn'⟩ := walk_run e first
  rw [hn'] at hn
  obtain ⟨rfl, hc⟩ := finishWalk_stop_ok hn
  rw [hw', finishWrite_eq] at hw
  obtain rfl : serialise chain = out := (Prod.mk.inj hw).1
  have hres : e.restrict fl' = e := restrict_none e fl' (fl'.check_ok hc)
  cases hr with
  | stop =>
    have h0 : ¬ IPV6_HOP_BY_HOP = first := fun h => by rw [← h] at hl; cases hl
    rw [Exts.fromSlice, if_neg h0, serialise_nil, List.nil_append, fromSliceLoop_stop _ _ _ _ hl, ← restrict_ofExts e, hres]
  | step _ _ _ k h chain _ _ hsel hf hx hrun =>
    by_cases hk : k = .hopByHop
    · subst hk
      obtain ⟨hd, hh, rfl⟩ := Option.map_eq_some_iff.mp hx
      obtain ⟨hl', hh', hd'⟩ := raw_roundtrip hd (optWF_some hwf.1 hh) (serialise chain ++ tail)
      have := hrun.decode hwf (hd.toBytes ++ (serialise chain ++ tail)) hl (ofExts_decInv e) tail
      rw [restrict_ofExts_hop, hres, hh] at this
      rw [Exts.fromSlice, if_pos (show IPV6_HOP_BY_HOP = Kind.hopByHop.ipNumber from rfl), serialise_cons, List.append_assoc]
      simp only [hl', hh', hd']
      exact this
    · obtain ⟨hsel, h0⟩ := hsel.of_ne_hop hk
      have := (Run.step _ _ _ k h chain _ _ hsel hf hx hrun).decode hwf
        (serialise (h :: chain) ++ tail) hl (ofExts_decInv e) tail
      rw [restrict_ofExts, hres] at this
      rw [Exts.fromSlice, if_neg (Ne.symm h0)]
      exact this

/-- the same for a final number that is not an IPv6 extension header number (property text). -/
theorem write_decode_non_ext (e : Exts) (hwf : e.WF) (first : Nat) (out : Bytes) (last : Nat) (tail : Bytes)
    (hw : e.write first = (out, .ok ()))
    (hn : e.nextHeader first = .ok last)
    (hl : isIpv6ExtHeaderValue last = false) :
    Exts.fromSlice first (out ++ tail) = .ok (e, last, tail) := by
  apply write_decode e hwf first out last tail hw hn
  simp [isIpv6ExtHeaderValue, isWalked] at hl ⊢
  omega

/-- No header is silently dropped: if the walk succeeds with `n`, the present headers can be
    arranged (each exactly once: a permutation of the present headers) into a chain that is a
    declarative walk (Spec) from `first` to `n`, and `write` emits exactly that chain. -/
theorem walk_ok_is_linked_permutation (e : Exts) (first n : Nat) (h : e.nextHeader first = .ok n) :
    ∃ chain, chain.Perm e.rfcChain ∧ Walk first chain n ∧ e.write first = (serialise chain, .ok ()) :=
  walk_ok_chain e first n h

/-- Inconsistent chains are errors of both walkers:
    (1) a present hop-by-hop header with a first number other than 0 gives `HopByHopNotAtStart`
        or `ExtNotReferenced(0)`;
    (2) a present header of kind `k` whose number is neither the first number nor the
        `next_header` of any present header makes `next_header` and `write` return the same
        error value. -/
theorem inconsistent_is_error (e : Exts) (first : Nat) :
    (∀ hd, e.hopByHopOptions = some hd → first ≠ 0 →
      e.nextHeader first = .error (.err .hopByHopNotAtStart) ∨
      e.nextHeader first = .error (.err (.extNotReferenced 0))) ∧
    (∀ k hd, e.hdr k = some hd → first ≠ k.ipNumber →
      (∀ k' hd', e.hdr k' = some hd' → hd'.next ≠ k.ipNumber) →
      ∃ w, e.nextHeader first = .error (.err w) ∧ (e.write first).2 = .error (.err w)) := by
  obtain ⟨_, fl, n, hr, _, _, hn⟩ := walk_run e first
  rw [write_snd_eq, hn, stopRes]
  refine ⟨fun hd hh hf => ?_, fun k hd hk h1 h2 => ?_⟩
  · have hk := hr.hop_kept fun _ => hf
    rw [Flags.ofExts_of, Exts.hdr, hh] at hk
    split
    · exact .inl rfl
    · exact .inr (by rw [finishWalk, fl.check_hop hk])
  · have hf : fl.of k = true := by rw [hr.unref k h1 h2, Flags.ofExts_of, hk]; rfl
    split
    · exact ⟨_, rfl, rfl⟩
    · cases hc : fl.check with
      | ok u => rw [fl.check_ok hc k] at hf; cases hf
      | error f =>
        obtain ⟨k', _, rfl⟩ := fl.check_err f hc
        exact ⟨_, by rw [finishWalk, hc], by rw [finishWalk, hc]; rfl⟩

/-- an error names a header that is present: `ExtNotReferenced(m)` only if a header with number `m`
    is stored in the struct, `HopByHopNotAtStart` only if a hop-by-hop header is stored and the
    first number is not 0. -/
theorem error_names_present_header (e : Exts) (first : Nat) :
    (∀ m, e.nextHeader first = .error (.err (.extNotReferenced m)) →
      ∃ k hd, e.hdr k = some hd ∧ k.ipNumber = m) ∧
    (e.nextHeader first = .error (.err .hopByHopNotAtStart) →
      e.hopByHopOptions.isSome = true ∧ first ≠ 0) := by
  obtain ⟨_, fl, n, hr, h0, _, hn⟩ := walk_run e first
  rw [hn]
  refine ⟨fun m h => ?_, fun h => ?_⟩ <;> rcases finishWalk_stop_err h with ⟨h', hf⟩ | hc
  · cases h'
  · obtain ⟨k, hk, hm⟩ := fl.check_err _ hc
    cases hm
    have := hr.of_le k hk
    rw [Flags.ofExts_of] at this
    obtain ⟨hd, hhd⟩ := Option.isSome_iff_exists.mp this
    exact ⟨k, hd, hhd, rfl⟩
  · have := hr.of_le _ hf
    rw [Flags.ofExts_of] at this
    exact ⟨by simpa [Exts.hdr] using this, fun hz => by rw [h0 hz] at hf; cases hf⟩
  · obtain ⟨k, _, hm⟩ := fl.check_err _ hc
    cases hm

/-- `from_slice` never panics: neither the `unwrap()` in `to_header` nor the `usize` subtraction
    `slice.len() - rest.len()` of the error offsets can fail (any first number, any bytes). -/
theorem from_slice_never_panics (first : Nat) (slice : Bytes) :
    Exts.fromSlice first slice ≠ .error .panic := by
  unfold Exts.fromSlice
  split
  · split
    · simp
    · rename_i len hl
      obtain ⟨r, hr, _⟩ := rawToHeader_spec hl
      simp only [hr]
      exact fromSliceLoop_no_panic _ _ _ _ (by simp)
  · exact fromSliceLoop_no_panic _ _ _ _ (Nat.le_refl _)

/-- whatever `from_slice` accepts: the returned rest is the input behind exactly `header_len()` of
    the decoded struct (nothing skipped, nothing read twice). -/
theorem from_slice_window (first : Nat) (slice : Bytes) (e : Exts) (n : Nat) (rest : Bytes)
    (h : Exts.fromSlice first slice = .ok (e, n, rest)) :
    ∃ pre, slice = pre ++ rest ∧ pre.length = e.headerLen := by
  unfold Exts.fromSlice at h
  split at h
  · split at h
    · simp at h
    · rename_i len hl
      split at h
      · simp at h
      · rename_i header hh
        obtain ⟨_, hr', h1, h2⟩ := rawToHeader_spec hl; cases hh.symm.trans hr'
        refine fromSliceLoop_window _ _ _ _ _ _ _ h ?_
        exact Window.step slice Exts.empty _ slice len ⟨[], by simp, by simp [Exts.headerLen, Exts.empty]⟩ h2
          (by simp [Exts.headerLen, Exts.empty, h1])
  · exact fromSliceLoop_window _ _ _ _ _ _ _ h ⟨[], by simp, by simp [Exts.headerLen, Exts.empty]⟩

/-- The lax copy of the decoder (`from_slice_lax`) agrees with the strict one on every input: the
    same struct, number and rest when the strict one succeeds; when it fails, the strict error value
    is the one reported (next to what was decoded so far and the layer); and it never panics. -/
theorem lax_extends_strict (first : Nat) (slice : Bytes) :
    (∀ e n rest, Exts.fromSlice first slice = .ok (e, n, rest) →
      Exts.fromSliceLax first slice = .ok (e, n, rest, none)) ∧
    (∀ er, Exts.fromSlice first slice = .error (.err er) →
      ∃ e n rest layer, Exts.fromSliceLax first slice = .ok (e, n, rest, some (er, layer))) ∧
    (∃ r, Exts.fromSliceLax first slice = .ok r) := by
  have h := lax_agrees first slice
  have hnp := from_slice_never_panics first slice
  rcases hs : Exts.fromSlice first slice with (_ | er) | ⟨e, n, rest⟩ <;> rw [hs] at h hnp
  · exact absurd rfl hnp
  · obtain ⟨e, n, r, layer, hr⟩ := h
    exact ⟨nofun, fun _ h' => by cases h'; exact ⟨e, n, r, layer, hr⟩, _, hr⟩
  · exact ⟨fun _ _ _ h' => by cases h'; exact h, nofun, _, h⟩

/-- The property's first two sentences in one statement: link any well-formed struct to a number
    `n` that is not an extension header number, serialise it from the returned first number, append
    any tail and decode: the RFC 8200 ordered bytes decode to the same struct, `n` and the tail. -/
theorem link_write_decode (e e' : Exts) (n first' : Nat) (tail : Bytes) (hwf : e.WF) (hn : n < 256)
    (hne : isIpv6ExtHeaderValue n = false) (h : e.setNextHeaders n = (e', first')) :
    Exts.fromSlice first' (serialise e'.rfcChain ++ tail) = .ok (e', n, tail) ∧
    (serialise e'.rfcChain).length = e'.headerLen ∧ e'.headerLen = e.headerLen := by
  obtain ⟨h1, h2, _, _⟩ := link_then_walk e e' n first' h
  have hwf' := setNextHeaders_WF e e' n first' hn hwf h
  exact ⟨write_decode_non_ext e' hwf' first' _ n tail h2 h1 hne, write_len e' hwf' first' _ h2,
    by rw [← setNextHeaders_headerLen e n, h]⟩

/-- `set_next_headers` does not change whether the payload is fragmented. -/
theorem link_keeps_is_fragmenting_payload (e : Exts) (n : Nat) :
    (e.setNextHeaders n).1.isFragmentingPayload = e.isFragmentingPayload := by
  rw [setNextHeaders_eq]
  simp only [Exts.isFragmentingPayload]
  cases e.fragment <;> rfl

/-! ## Ipv4Extensions (single authentication header) -/

theorem v4_write_iff_walk (e : Exts4) (first : Nat) :
    (e.write first).2 = (e.nextHeader first).map (fun _ => ()) := by
  rcases e with ⟨_ | a⟩ <;> simp [Exts4.write, Exts4.nextHeader, Except.map]
  split <;> rename_i h
  · simp [h]
  · have : ¬ first = 51 := fun h' => h h'.symm
    simp [this]

theorem v4_walkers_never_panic (e : Exts4) (first : Nat) :
    e.nextHeader first ≠ .error .panic ∧ (e.write first).2 ≠ .error .panic := by
  rcases e with ⟨_ | a⟩
  · simp [Exts4.write, Exts4.nextHeader]
  · constructor
    · simp only [Exts4.nextHeader]; split <;> simp
    · simp only [Exts4.write]; split <;> simp

theorem v4_write_len (e : Exts4) (hwf : e.WF) (first : Nat) (out : Bytes)
    (h : e.write first = (out, .ok ())) : out.length = e.headerLen := by
  rcases e with ⟨_ | a⟩ <;> simp [Exts4.write, Exts4.headerLen] at *
  · simp [← h]
  · split at h <;> simp at h
    rw [← h]; exact Auth.toBytes_length a hwf

theorem v4_link_then_walk (e e' : Exts4) (n first' : Nat) (h : e.setNextHeaders n = (e', first')) :
    e'.nextHeader first' = .ok n ∧
    e'.write first' = ((match e'.auth with | some a => a.toBytes | none => []), .ok ()) := by
  rcases e with ⟨_ | a⟩ <;> simp [Exts4.setNextHeaders] at h <;> obtain ⟨rfl, rfl⟩ := h <;>
    simp [Exts4.nextHeader, Exts4.write]

/-- v4: decoding what `write` emitted returns the struct, the walk result and the tail (an absent
    auth header with first number 51 is excluded: the decoder would parse `tail` as a header). -/
theorem v4_write_decode (e : Exts4) (hwf : e.WF) (first : Nat) (out : Bytes) (last : Nat) (tail : Bytes)
    (hw : e.write first = (out, .ok ()))
    (hn : e.nextHeader first = .ok last)
    (hc : e.auth.isSome = true ∨ first ≠ AUTH) :
    Exts4.fromSlice first (out ++ tail) = .ok (e, last, tail) := by
  rcases e with ⟨_ | a⟩
  · simp [Exts4.write] at hw
    simp [Exts4.nextHeader] at hn
    subst hw hn
    simp at hc
    simp [Exts4.fromSlice, Ne.symm hc]
  · simp only [Exts4.write] at hw
    split at hw
    · rename_i h51
      simp at hw
      subst hw
      simp [Exts4.nextHeader, h51.symm] at hn
      obtain ⟨h1, h2, h3, h4⟩ := auth_roundtrip (ε := AuthSliceErr) a hwf tail
      simp [Exts4.fromSlice, h51, h1, h2, h3, h4, hn]
    · simp at hw

/-- v4: a present auth header that is not referenced is the error `ExtNotReferenced(51)` of both
    walkers, and that is the only error. -/
theorem v4_inconsistent_is_error (e : Exts4) (first : Nat) :
    (∀ a, e.auth = some a → first ≠ AUTH →
      e.nextHeader first = .error (.err (.extNotReferenced AUTH)) ∧
      e.write first = ([], .error (.err (.extNotReferenced AUTH)))) ∧
    (∀ f, e.nextHeader first = .error f → f = .err (.extNotReferenced AUTH) ∧ e.auth.isSome = true ∧ first ≠ AUTH) := by
  rcases e with ⟨_ | a⟩
  · simp [Exts4.nextHeader]
  · refine ⟨fun a' ha hf => ?_, fun f hf => ?_⟩
    · simp [Exts4.nextHeader, Exts4.write, hf, Ne.symm hf]
    · simp only [Exts4.nextHeader] at hf
      split at hf
      · simp at hf
      · rename_i h; simp at hf; exact ⟨hf.symm, rfl, h⟩

/-- v4: `from_slice` never reaches the `unwrap()` in `to_header`. -/
theorem v4_from_slice_never_panics (first : Nat) (slice : Bytes) :
    Exts4.fromSlice first slice ≠ .error .panic := by
  unfold Exts4.fromSlice
  split
  · split
    · simp
    · rename_i len hl
      obtain ⟨a, ha, _⟩ := authToHeader_spec (ε := AuthSliceErr) hl
      simp [ha]
  · simp

/-! ## ether type of the IP version -/

/-- `IpHeaders::set_next_headers` and `NetHeaders::try_set_next_headers` report the ether type of
    the header's IP version (0x0800 / 0x86DD), store the first number of the chain in the IP
    header, and keep the version. -/
theorem ether_type_of_version (h : IpHdrs) (n : Nat) :
    some (h.setNextHeaders n).2 = etherTypeOfVersion h.version ∧
    (h.setNextHeaders n).1.version = h.version ∧
    (NetHdrs.ip h).trySetNextHeaders n = .ok (.ip (h.setNextHeaders n).1, (h.setNextHeaders n).2) := by
  cases h <;> simp [IpHdrs.setNextHeaders, NetHdrs.trySetNextHeaders, IpHdrs.version, etherTypeOfVersion]

/-- the chain stored by `IpHeaders::set_next_headers` walks to `n` (`IpHeaders::next_header`). -/
theorem ip_link_then_walk (h : IpHdrs) (n : Nat) : (h.setNextHeaders n).1.nextHeader = .ok n := by
  cases h with
  | ipv4 p x =>
    simp only [IpHdrs.setNextHeaders]
    generalize hx : x.setNextHeaders n = r
    obtain ⟨x', f'⟩ := r
    have := (v4_link_then_walk x x' n f' hx).1
    simp [IpHdrs.nextHeader, this]
  | ipv6 p x =>
    simp only [IpHdrs.setNextHeaders]
    generalize hx : x.setNextHeaders n = r
    obtain ⟨x', f'⟩ := r
    have := (link_then_walk x x' n f' hx).1
    simp [IpHdrs.nextHeader, this]

/-! ## non-vacuity -/

/-- a struct with all six headers satisfying the type invariants. -/
def sample : Exts :=
  { hopByHopOptions := some ⟨60, [1, 2, 3, 4, 5, 6]⟩
    destinationOptions := some ⟨43, [0, 0, 0, 0, 0, 0, 0, 0, 0, 0, 0, 0, 0, 9]⟩
    routing := some ⟨⟨44, [7, 7, 7, 7, 7, 7]⟩, some ⟨17, [8, 8, 8, 8, 8, 8]⟩⟩
    fragment := some ⟨51, 5, true, 99⟩
    auth := some ⟨60, 1, 2, [0xaa, 0xbb, 0xcc, 0xdd]⟩ }

example : sample.WF := by decide
example : isIpv6ExtHeaderValue 17 = false := by decide
example : (sample.setNextHeaders 17).2 = 0 := by decide
example : isWalked 17 = false := by decide
/-- the hypotheses of `write_decode` / `write_len` are satisfiable: the linked sample is written. -/
example : ∃ out, (sample.setNextHeaders 17).1.write (sample.setNextHeaders 17).2 = (out, .ok ()) ∧
    (sample.setNextHeaders 17).1.nextHeader (sample.setNextHeaders 17).2 = .ok 17 :=
  ⟨_, (link_then_walk sample _ 17 _ rfl).2.1, (link_then_walk sample _ 17 _ rfl).1⟩
/-- an inconsistent struct (fragment header never referenced) for `inconsistent_is_error` (2). -/
example : ({ Exts.empty with fragment := some ⟨17, 0, false, 1⟩ } : Exts).hdr .fragment = some ⟨.fragment, 17, [17, 0, 0, 0, 0, 0, 0, 1]⟩ := by
  decide
def fragOnly : Exts := { Exts.empty with fragment := some ⟨17, 0, false, 1⟩ }
/-- the hypotheses of `inconsistent_is_error` (2) hold for it with first number 17: the fragment
    header's number 44 is neither the first number nor any stored `next_header`. -/
example : ∀ k' hd', fragOnly.hdr k' = some hd' → hd'.next ≠ Kind.fragment.ipNumber := by
  intro k' hd' h
  cases k' <;> simp [fragOnly, Exts.hdr, Exts.empty, Exts.finalDest] at h
  subst h; decide
example : ∃ w, fragOnly.nextHeader 17 = .error (.err w) ∧ (fragOnly.write 17).2 = .error (.err w) := by
  refine (inconsistent_is_error fragOnly 17).2 .fragment ⟨.fragment, 17, [17, 0, 0, 0, 0, 0, 0, 1]⟩ (by decide) (by decide) ?_
  intro k' hd' h
  cases k' <;> simp [fragOnly, Exts.hdr, Exts.empty, Exts.finalDest] at h
  subst h; decide
example : (Exts4.mk (some ⟨6, 1, 2, []⟩)).WF := by decide

end EpModel.Props.C12
