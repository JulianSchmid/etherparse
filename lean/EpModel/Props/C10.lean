import EpModel.Lemmas.Builder
import EpModel.Lemmas.BuilderChecksum
import EpModel.Spec.Decode
import EpModel.Lemmas.BuilderParse
import EpModel.Props.C03
import EpModel.Props.C04
import EpModel.Props.C05
/-
  C10 — PacketBuilder emits consistent, parseable packets of the announced size.

  Model: EpModel.Model.Builder (`build` = `final_write_with_net` behind the typed steps,
  `size` = `final_size`, `writeToSlice` = `final_write_to_slice`).  Closed forms of what is emitted
  (`outLink`, `outVlan`, `outNet`, `outTpHeader`, `buildOk`, `buildFail`) are defined in
  EpModel.Lemmas.Builder.  Hypotheses: `Cfg.WF` (the field ranges / array sizes every value of the
  Rust types has) and `Encodable` (the real size fits the IPv4 / IPv6 length field, no ICMPv6 in
  IPv4), both decidable.  No bound on the payload or on any field.

  Parsing (section "parsing the output"): `build_parses` — strict wire-format decoding (`Spec.decode`,
  which by C03 is what the model of `SlicedPacket::from_*` returns) accepts every built packet and returns
  exactly the configured layers (`expPacket`), uniformly over `Cfg` under the decidable side conditions
  `ParseOk`; lemmas in EpModel.Lemmas.BuilderParse.
-/
namespace EpModel.Props.C10
open EpModel EpModel.Codec EpModel.CodecNet EpModel.Builder EpModel.Checksum EpModel.Lemmas.Builder
open EpModel.Lemmas.BuilderParse

/-- encodable ⟹ accepted, and the result is the closed form. -/
theorem build_accepts (c : Cfg) (p : Bytes) (wf : c.WF) (enc : Encodable c p.length) :
    build c p = .ok (buildOk c p) := build_ok c p wf enc

/-- a successful write produces exactly `size(payload.len())` bytes. -/
theorem build_size (c : Cfg) (p out : Bytes) (wf : c.WF) (h : build c p = .ok out) :
    out.length = size c p.length := by
  by_cases enc : Encodable c p.length
  · rw [build_ok c p wf enc] at h
    cases h
    exact buildOk_length c p wf
  · rw [build_err c p wf enc] at h
    cases h

/-- layout of a successful write: link header, VLAN tags, net header (+ extension headers),
    transport header, payload — nothing else, in this order; each part has the length `size`
    counts for it. -/
theorem build_layout (c : Cfg) (p out : Bytes) (wf : c.WF) (h : build c p = .ok out) :
    Encodable c p.length ∧
    out = outLink c ++ outVlan c ++ outNet c p.length ++ tpBytes (outTpHeader c p) ++ p ∧
    (tpBytes (outTpHeader c p)).length = tpHeaderLen c.tp ∧
    (outLink c ++ outVlan c ++ outNet c p.length ++ tpBytes (outTpHeader c p)).length + p.length
      = size c p.length := by
  by_cases enc : Encodable c p.length
  · rw [build_ok c p wf enc] at h
    cases h
    refine ⟨enc, rfl, outTp_len c p wf.2.2.2.1, ?_⟩
    rw [← buildOk_length c p wf, buildOk]; simp only [List.length_append]
  · rw [build_err c p wf enc] at h
    cases h

/-- ether types name the layer that follows: the Ethernet II type is 0x8100 / 0x88a8 in front of a
    single / double tag and the net type otherwise; the outer tag of a double tag says 0x8100, the
    innermost tag and the SLL protocol field carry the net type (0x0800 / 0x86dd / 0x0806). -/
theorem ether_types (c : Cfg) :
    (∀ h, c.link = some (.eth2 h) →
      outLink c = Eth2.toBytes { dst := h.dst, src := h.src, et := firstEt c.vlan c.net.etherType }) ∧
    (firstEt c.vlan c.net.etherType = (match c.vlan with
        | some (.single _) => 0x8100 | some (.double _ _) => 0x88a8 | none => c.net.etherType)) ∧
    (∀ s, c.link = some (.sll s) → s.proto = .etherType 0 →
      outLink c = Sll.toBytes (Sll.mk s.ptype s.hrd s.alen s.addr (.etherType c.net.etherType))) ∧
    (∀ v, c.vlan = some (.single v) → outVlan c = (withEt v c.net.etherType).toBytes) ∧
    (∀ o i, c.vlan = some (.double o i) →
      outVlan c = (withEt o 0x8100).toBytes ++ (withEt i c.net.etherType).toBytes) ∧
    (c.net.etherType = 0x0800 ∨ c.net.etherType = 0x86dd ∨ c.net.etherType = 0x0806) := by
  refine ⟨?_, ?_, ?_, ?_, ?_, ?_⟩
  · intro h hl; simp [outLink, outLinkOf, hl]
  · rfl
  · intro s hl hp
    have : sllChangeValue (.etherType 0) c.net.etherType = .etherType c.net.etherType := by
      cases c.net <;> simp [sllChangeValue, Net.etherType, isNonstdEtherType]
    simp [outLink, outLinkOf, hl, hp, this]
  · intro v hv; simp [outVlan, vlanBytes, hv]
  · intro o i hv; simp [outVlan, vlanBytes, hv]
  · cases c.net <;> simp [Net.etherType]

/-- length fields equal the actual sizes — as equations on natural numbers (no `% 65536` left):
    IPv4 total length = header + extension headers + transport header + payload, IPv6 payload
    length = extension headers + transport header + payload, UDP length = 8 + payload; and the
    protocol / next header fields start the chain that ends with the transport protocol. -/
theorem derived_fields (c : Cfg) (p : Bytes) (wf : c.WF) (enc : Encodable c p.length) :
    (∀ ip e, c.net = .ipv4 ip e →
      (ipv4Out ip e (endNum c) (innerLen c p.length)).totalLen
        = 20 + ip.options.length + e.headerLen + tpHeaderLen c.tp + p.length ∧
      (ipv4Out ip e (endNum c) (innerLen c p.length)).protocol
        = (match e.auth with | some _ => 51 | none => endNum c)) ∧
    (∀ ip e, c.net = .ipv6 ip e →
      (ipv6Out ip e (endNum c) (innerLen c p.length)).payloadLength
        = e.headerLen + tpHeaderLen c.tp + p.length ∧
      (ipv6Out ip e (endNum c) (innerLen c p.length)).nextHeader
        = (if e.hbh.isSome then 0 else if e.dest.isSome then 60 else if e.routing.isSome then 43
           else if e.fragment.isSome then 44 else if e.auth.isSome then 51 else endNum c)) ∧
    (∀ u, c.tp = some (.udp u) → (∀ a, c.net ≠ .arp a) →
      ∃ ck, outTpHeader c p = some (.udp { sp := u.sp, dp := u.dp, len := 8 + p.length, ck := ck })) := by
  refine ⟨?_, ?_, ?_⟩
  · intro ip e hnet
    simp only [Encodable, hnet, innerLen, Net.extsLen] at enc
    refine ⟨?_, ?_⟩
    · simp only [ipv4Out, innerLen, hnet, Net.extsLen, Ipv4Header.headerLen]
      omega
    · rcases e with ⟨_ | a⟩ <;> simp [ipv4Out, ipv4ExtsSetNextHeaders]
  · intro ip e hnet
    simp only [Encodable, hnet, innerLen, Net.extsLen] at enc
    refine ⟨?_, ?_⟩
    · simp only [ipv6Out, innerLen, hnet, Net.extsLen]
      omega
    · show (e.setNextHeaders (endNum c)).2 = _
      rw [setNextHeaders_eq]
      simp only [nHbh, nDest, nRoute, nFrag, nAuth, nFd, optNum]
      -- final destination options exist only inside a routing header
      rcases hr : e.routing with _ | r <;> simp [Ipv6Exts.finalDest, hr]
  · intro u htp hnet
    unfold Encodable at enc
    rcases hn : c.net with a | ⟨ip, e⟩ | ⟨ip, e⟩
    · exact absurd hn (hnet a)
    all_goals
      simp only [hn, innerLen, Net.extsLen, htp, tpHeaderLen, Tp.headerLen, Udp.headerLen] at enc
      have hlen : (8 + p.length) % 65536 = 8 + p.length := by omega
      simp only [outTpHeader, htp, setUdpLen, hn, withCk, hlen]
      exact ⟨_, rfl⟩

/-- a configuration that cannot be encoded is refused: the exact error value (variant, `actual`,
    `max_allowed`, value type) and exactly what had been handed to the writer before it. -/
theorem build_rejects (c : Cfg) (p : Bytes) (wf : c.WF) (nenc : ¬ Encodable c p.length) :
    build c p = .error (buildFail c p) ∧
    (∀ ip e, c.net = .ipv4 ip e → 65535 < 20 + ip.options.length + innerLen c p.length →
      buildFail c p = { err := .payloadLen { actual := innerLen c p.length,
                                              maxAllowed := 65535 - ip.options.length - 20,
                                              ty := "Ipv4PayloadLength" },
                        written := outLink c ++ outVlan c }) ∧
    (∀ ip e, c.net = .ipv4 ip e → 20 + ip.options.length + innerLen c p.length ≤ 65535 →
      isIcmp6 c.tp = true ∧
      buildFail c p = { err := .icmpv6InIpv4, written := outLink c ++ outVlan c ++ outNet c p.length }) ∧
    (∀ ip e, c.net = .ipv6 ip e →
      65535 < innerLen c p.length ∧
      buildFail c p = { err := .payloadLen { actual := innerLen c p.length, maxAllowed := 65535,
                                              ty := "Ipv6PayloadLength" },
                        written := outLink c ++ outVlan c }) ∧
    (∀ a, c.net ≠ .arp a) := by
  refine ⟨build_err c p wf nenc, ?_, ?_, ?_, ?_⟩
  · intro ip e hnet hbig
    have : ¬ (20 + ip.options.length + innerLen c p.length ≤ 65535) := by omega
    simp [buildFail, hnet, this]
  · intro ip e hnet hfit
    refine ⟨?_, by simp [buildFail, hnet, hfit]⟩
    cases hh : isIcmp6 c.tp
    · exact absurd (by simp [Encodable, hnet, hfit, hh]) nenc
    · rfl
  · intro ip e hnet
    refine ⟨?_, by simp [buildFail, hnet]⟩
    simp only [Encodable, hnet] at nenc
    omega
  · intro a hnet
    exact nenc (by simp [Encodable, hnet])

/-- `build` is total and two-valued: success exactly for encodable configurations; every failure
    is `PayloadLen` or `Icmpv6InIpv4` — never a panic of the modelled panic sites (SLL hardware
    type assertion, checked `u16`/`u32` additions), and never `Ipv4Exts` / `Ipv6Exts`: because
    `set_next_headers` always runs first, the "extension header not referenced" errors cannot be
    produced through the builder. -/
theorem build_total (c : Cfg) (p : Bytes) (wf : c.WF) :
    (Encodable c p.length ∧ build c p = .ok (buildOk c p)) ∨
    (¬ Encodable c p.length ∧ ∃ f, build c p = .error f ∧
      (f.err = .icmpv6InIpv4 ∨ ∃ e, f.err = .payloadLen e)) := by
  by_cases enc : Encodable c p.length
  · exact .inl ⟨enc, build_ok c p wf enc⟩
  · refine .inr ⟨enc, buildFail c p, build_err c p wf enc, ?_⟩
    unfold buildFail
    cases hnet : c.net with
    | arp a => exact absurd (by simp [Encodable, hnet]) enc
    | ipv4 ip e => simp only; split <;> simp
    | ipv6 ip e => simp

theorem build_never_panics (c : Cfg) (p : Bytes) (wf : c.WF) (f : BuildFail) (h : build c p = .error f) :
    (∀ s, f.err ≠ .panic s) ∧ (∀ e, f.err ≠ .ipv4Exts e) ∧ (∀ e, f.err ≠ .ipv6Exts e) := by
  rcases build_total c p wf with ⟨_, hok⟩ | ⟨_, f', hf, hv⟩
  · rw [hok] at h; cases h
  · rw [hf] at h; cases h
    rcases hv with hv | ⟨e, hv⟩ <;> rw [hv] <;> refine ⟨?_, ?_, ?_⟩ <;> intro _ hc <;> cases hc

/-- `write_to_slice`: `Space(size)` exactly for buffers shorter than `size`, otherwise the same
    bytes / the same error as `write`, and the returned length is `size` (the slice writer never
    runs out of room: the `overflow` value is not reachable). -/
theorem slice_agrees (c : Cfg) (p : Bytes) (cap : Nat) (wf : c.WF) :
    writeToSlice c cap p =
      if cap < size c p.length then .space (size c p.length)
      else match build c p with
        | .ok out => .ok (size c p.length) out
        | .error f => .fail f.err := by
  unfold writeToSlice
  simp only
  split
  · rfl
  · cases hb : build c p with
    | error f => rfl
    | ok out =>
      have := build_size c p out wf hb
      simp [this]

/-- the checksum field of the emitted transport header holds `ck4` / `ck6` computed over the
    *emitted* IP header (derived lengths and protocol numbers already in place) and the payload. -/
theorem build_checksums (c : Cfg) (p : Bytes) (t : Tp) (ht : setUdpLen c.tp p.length = some t) :
    (∀ ip e, c.net = .ipv4 ip e →
      outTpHeader c p = some (withCk t (ck4 t (ipv4Out ip e (endNum c) (innerLen c p.length)) p))) ∧
    (∀ ip e, c.net = .ipv6 ip e →
      outTpHeader c p = some (withCk t (ck6 t (ipv6Out ip e (endNum c) (innerLen c p.length)) p))) := by
  constructor <;> intro ip e hnet <;> simp [outTpHeader, ht, hnet]

/-- IPv4 header checksum = RFC 1071 checksum of the header words other than the checksum field
    (for the emitted header: with the derived total length and protocol). -/
theorem checksum_ipv4_header (ip : Ipv4Header) (e : Ipv4Extensions) (num inner : Nat)
    (hs : ip.source.length = 4) (hd : ip.destination.length = 4) :
    let h := ipv4Out ip e num inner
    h.headerChecksum
      = Spec.checksum ([u8 ((4 <<< 4) ||| h.ihl), u8 (shl8 h.dscp 2 ||| h.ecn)] ++ enc16 h.totalLen
          ++ enc16 h.identification ++ [u8 h.fragAndFlags.1, u8 h.fragAndFlags.2]
          ++ [u8 h.timeToLive, u8 h.protocol] ++ h.source ++ h.destination ++ h.options) := by
  intro h
  exact ipv4_header_words
    { ip with totalLen := (ip.headerLen + inner) % 65536, protocol := (ipv4ExtsSetNextHeaders e num).2 } hs hd

/-- UDP over IPv4: RFC 768 checksum over pseudo header, UDP header with zero checksum field and
    payload; a computed 0 is transmitted as 0xffff. -/
theorem checksum_udp_ipv4 (h : Udp) (ip : Ipv4Header) (p : Bytes) (hs : ip.source.length = 4)
    (hd : ip.destination.length = 4) :
    ck4 (.udp h) ip p
      = noZero (Spec.checksum (ip.source ++ ip.destination ++ [0, 17] ++ enc16 h.len
                                ++ Udp.toBytes { sp := h.sp, dp := h.dp, len := h.len, ck := 0 } ++ p)) :=
  udp4_bytes h ip p hs hd

/-- UDP over IPv6 (same 16 bit words as the RFC 8200 pseudo header), header words except the
    checksum field, payload. -/
theorem checksum_udp_ipv6 (h : Udp) (ip : Ipv6Header) (p : Bytes) (hs : ip.source.length = 16)
    (hd : ip.destination.length = 16) :
    ck6 (.udp h) ip p
      = noZero (Spec.checksum (ip.source ++ ip.destination ++ [0, 17] ++ enc16 h.len
                                ++ (enc16 h.sp ++ enc16 h.dp ++ enc16 h.len) ++ p)) :=
  udp6_words h ip p hs hd

/-- TCP over IPv4 / IPv6: the pseudo header length is header + payload (exact), then the header
    words except the checksum field, the options, the payload. -/
theorem checksum_tcp_ipv4 (h : Tcp) (ip : Ipv4Header) (p : Bytes) (hs : ip.source.length = 4)
    (hd : ip.destination.length = 4) (ho : h.opts.asSlice.length % 2 = 0) :
    ck4 (.tcp h) ip p
      = Spec.checksum (ip.source ++ ip.destination ++ [0, 6] ++ enc16 (h.headerLen + p.length)
          ++ (enc16 h.sp ++ enc16 h.dp ++ enc32 h.seq ++ enc32 h.ack ++ [u8 h.byte12, u8 h.byte13]
              ++ enc16 h.win ++ enc16 h.urgp) ++ h.opts.asSlice ++ p) :=
  tcp4_words h ip p hs hd ho

theorem checksum_tcp_ipv6 (h : Tcp) (ip : Ipv6Header) (p : Bytes) (hs : ip.source.length = 16)
    (hd : ip.destination.length = 16) (ho : h.opts.asSlice.length % 2 = 0) :
    ck6 (.tcp h) ip p
      = Spec.checksum (ip.source ++ ip.destination ++ enc32 (h.headerLen + p.length) ++ [0, 6]
          ++ (enc16 h.sp ++ enc16 h.dp ++ enc32 h.seq ++ enc32 h.ack ++ [u8 h.byte12, u8 h.byte13]
              ++ enc16 h.win ++ enc16 h.urgp) ++ h.opts.asSlice ++ p) :=
  tcp6_words h ip p hs hd ho

/-- ICMPv4 (also when carried in IPv6): header words except the checksum field, payload. -/
theorem checksum_icmpv4 (t : Icmp4Type) (p : Bytes) (ok : icmp4LenOk t) :
    icmp4Checksum t p = Spec.checksum ((icmp4Parts t).flatten ++ p) := icmp4_words t p ok

/-- ICMPv6: pseudo header with next header 58 and the exact 32 bit message length. -/
theorem checksum_icmpv6 (h : Icmp6) (ip : Ipv6Header) (p : Bytes) (hs : ip.source.length = 16)
    (hd : ip.destination.length = 16) (ok : icmp6LenOk h.ty) :
    ck6 (.icmp6 h) ip p
      = Spec.checksum (ip.source ++ ip.destination ++ [0, 58] ++ enc32 (p.length + 8)
                        ++ (icmp6Parts h.ty).flatten ++ p) :=
  icmp6_words h ip p hs hd ok

/-! ### parsing the output

`build_parses`: for every well-formed configuration whose build succeeds, strict wire-format decoding
(`Spec.decode`, started where the configuration starts: Ethernet II, Linux SLL or IP) accepts the
output and returns exactly the configured layers `expPacket c p.length` (EpModel.Lemmas.BuilderParse):
the link window over the whole output, one `.vlan` extension per tag, the net layer (ARP; IPv4 with
options and authentication header; IPv6 with every subset of hop-by-hop / destination options / routing /
fragment / authentication / final destination options headers, walked in the order `set_next_headers`
chains them) with its payload window, protocol number, length source and fragmentation flag, and the
transport window (UDP by its length field, TCP with the header length from the data offset, ICMPv4,
ICMPv6) - no transport layer behind ARP and in fragments.  Side conditions `ParseOk` (decidable;
sufficient, and each of them excludes configurations for which the statement is false):
  * VLAN tags only behind Ethernet II, ARP only behind a link layer (all the typed steps offer);
  * a payload written without transport header (`write` of the IP step with an ip number) must not be
    announced by a number the decoder itself interprets (51 in IPv4; 0, 43, 44, 51, 60 in IPv6; 1, 6, 17,
    58 unless the packet is a fragment) - what such a payload parses as is up to the payload;
  * an ICMPv4 header with type 13 / 14 and code 0 (typed timestamp header or raw) must make a 20 byte
    message: RFC 792 timestamp messages have a fixed size and strict slicing refuses any other, so
    `.icmpv4(TimestampRequest(..))` with a non-empty payload builds a packet the crate's own
    `SlicedPacket::from_*` / `PacketHeaders::from_*` reject (`icmpv4_timestamp_with_payload_is_built_and_rejected`
    below; reproduced against the crate: `Len{required_len: 20, len: 21, layer: Icmpv4Timestamp, offset 34}`).
Through C03 (`SlicedPacket` model = `Spec.decode` on every byte string) the same packets are what the
model of the crate's strict slicing returns (`strict_slicing_accepts_*`).  The special cases below
spell the returned `Packet` out.  Not covered: nothing of `Cfg` is left out; outside the statement are
only the configurations excluded by `ParseOk`, and the lax / `PacketHeaders` decoders (C04, C05). -/

/-- the statement asked for in DESIGN.md; proved below as `build_parses_full` (with `ParseOk`, without
    which it is false: see the doc comment above). -/
def build_parses_full_statement : Prop :=
  ∀ (c : Cfg) (p out : Bytes), c.WF → build c p = .ok out → ParseOk c p.length →
    (∀ h, c.link = some (.eth2 h) → ∃ pkt, Spec.decode .eth (Dec.memOf out) out.length = .ok pkt ∧
      pkt.link = some (Dec.LinkR.eth2 ⟨0, out.length⟩)) ∧
    (∀ s, c.link = some (.sll s) → ∃ pkt, Spec.decode .sll (Dec.memOf out) out.length = .ok pkt) ∧
    (c.link = none → (∀ a, c.net ≠ .arp a) → ∃ pkt, Spec.decode .ip (Dec.memOf out) out.length = .ok pkt)

/-- strict decoding accepts every built packet and recovers the configured layers. -/
theorem build_parses (c : Cfg) (p out : Bytes) (wf : c.WF) (hb : build c p = .ok out)
    (ok : ParseOk c p.length) :
    Spec.decode (startOf c) (Dec.memOf out) out.length = .ok (expPacket c p.length) := by
  obtain ⟨enc, _, _, _⟩ := build_layout c p out wf hb
  rw [build_ok c p wf enc] at hb
  cases hb
  exact decode_buildOk c p wf enc ok

theorem build_parses_full : build_parses_full_statement := by
  intro c p out wf hb ok
  have h := build_parses c p out wf hb ok
  have hs := build_size c p out wf hb
  refine ⟨?_, ?_, ?_⟩
  · intro e hl
    simp only [startOf, hl] at h
    exact ⟨_, h, by simp [expPacket, hl, hs]⟩
  · intro s hl
    simp only [startOf, hl] at h
    exact ⟨_, h⟩
  · intro hl _
    simp only [startOf, hl] at h
    exact ⟨_, h⟩

theorem build_parses_partial (c : Cfg) (p out : Bytes) (h : Eth2) (wf : c.WF)
    (hl : c.link = some (.eth2 h)) (hb : build c p = .ok out) :
    Eth2.fromSlice out
      = .ok ({ dst := h.dst, src := h.src, et := firstEt c.vlan c.net.etherType },
             outVlan c ++ outNet c p.length ++ tpBytes (outTpHeader c p) ++ p) := by
  obtain ⟨_, hout, _, _⟩ := build_layout c p out wf hb
  have wl := wf.1
  rw [hl] at wl
  have hw : Eth2.WF { dst := h.dst, src := h.src, et := firstEt c.vlan c.net.etherType } :=
    ⟨wl.1, wl.2.1, firstEt_lt c⟩
  have := EpModel.Props.C08Link.Eth2.decode_encode _
    (outVlan c ++ outNet c p.length ++ tpBytes (outTpHeader c p) ++ p) hw
  rw [hout]
  simpa [outLink, outLinkOf, hl, List.append_assoc] using this


/-! #### what the crate's strict slicing (model of C03) returns for built packets -/

theorem refines_ok {m : Except Dec.PErr Dec.Packet} {pkt : Dec.Packet}
    (h : EpModel.Props.C03.Refines m (.ok pkt)) : m = .ok pkt := by
  cases m with
  | error e => exact h.elim
  | ok q => simp only [EpModel.Props.C03.Refines] at h; rw [h]

/-- `SlicedPacket::from_ethernet` (model) accepts every packet built behind `ethernet2` and returns
    the configured layers. -/
theorem strict_slicing_accepts_ethernet (c : Cfg) (p out : Bytes) (h : Eth2) (wf : c.WF)
    (hl : c.link = some (.eth2 h)) (hb : build c p = .ok out) (ok : ParseOk c p.length) :
    Dec.slicedFromEthernet (Dec.memOf out) out.length = .ok (expPacket c p.length) := by
  have hd := build_parses c p out wf hb ok
  simp only [startOf, hl] at hd
  have r := EpModel.Props.C03.strict_from_ethernet_matches_wire_formats out
  rw [hd] at r
  exact refines_ok r

/-- `SlicedPacket::from_linux_sll` (model) accepts every packet built behind `linux_sll`. -/
theorem strict_slicing_accepts_linux_sll (c : Cfg) (p out : Bytes) (s : Sll) (wf : c.WF)
    (hl : c.link = some (.sll s)) (hb : build c p = .ok out) (ok : ParseOk c p.length) :
    Dec.slicedFromLinuxSll (Dec.memOf out) out.length = .ok (expPacket c p.length) := by
  have hd := build_parses c p out wf hb ok
  simp only [startOf, hl] at hd
  have r := EpModel.Props.C03.strict_from_linux_sll_matches_wire_formats out
  rw [hd] at r
  exact refines_ok r

/-- `SlicedPacket::from_ip` (model) accepts every packet built without link layer. -/
theorem strict_slicing_accepts_ip (c : Cfg) (p out : Bytes) (wf : c.WF)
    (hl : c.link = none) (hb : build c p = .ok out) (ok : ParseOk c p.length) :
    Dec.slicedFromIp (Dec.memOf out) out.length = .ok (expPacket c p.length) := by
  have hd := build_parses c p out wf hb ok
  simp only [startOf, hl] at hd
  have r := EpModel.Props.C03.strict_from_ip_matches_wire_formats out
  have hs := build_size c p out wf hb
  have hnc : ¬ (Dec.memOf out 0 / 16 = 4 ∧ 0 < out.length ∧ out.length < 20) := by
    intro ⟨h4, _, h20⟩
    -- an IPv4 packet has at least 20 bytes, and an IPv6 packet does not start with the nibble 4
    rw [hs, size_eq] at h20
    cases hnet : c.net with
    | arp a => have := ok.2; simp [NetOk, hnet, hl] at this
    | ipv4 ip e => simp [netLen, hnet] at h20; omega
    | ipv6 ip e => simp [netLen, hnet] at h20; omega
  simp only [hnc, if_false] at r
  rw [hd] at r
  exact refines_ok r

/-! #### the other decoder families on builder output (corollaries through C05 and C04) -/

/-- `LaxSlicedPacket::from_ethernet` (model) returns for every packet built behind `ethernet2` exactly the
    configured layers, with no stop error and nothing marked incomplete. -/
theorem lax_slicing_accepts_ethernet (c : Cfg) (p out : Bytes) (h : Eth2) (wf : c.WF)
    (hl : c.link = some (.eth2 h)) (hb : build c p = .ok out) (ok : ParseOk c p.length) :
    Dec.laxSlicedFromEthernet (Dec.memOf out) out.length = .ok (expPacket c p.length) ∧
      (expPacket c p.length).stop = none ∧ EpModel.Lemmas.Dec.NoInc (expPacket c p.length) :=
  EpModel.Props.C05.strict_ok_lax_same_ethernet _ _ _ (strict_slicing_accepts_ethernet c p out h wf hl hb ok)

/-- `LaxSlicedPacket::from_ip` (model) on every packet built without link layer. -/
theorem lax_slicing_accepts_ip (c : Cfg) (p out : Bytes) (wf : c.WF)
    (hl : c.link = none) (hb : build c p = .ok out) (ok : ParseOk c p.length) :
    Dec.laxSlicedFromIp (Dec.memOf out) out.length = .ok (expPacket c p.length) ∧
      (expPacket c p.length).stop = none ∧ EpModel.Lemmas.Dec.NoInc (expPacket c p.length) :=
  EpModel.Props.C05.strict_ok_lax_same_ip _ _ _ (strict_slicing_accepts_ip c p out wf hl hb ok)

/-- `PacketHeaders::from_ethernet_slice` (model) never rejects a packet built behind `ethernet2`, and
    returns the configured layers as header structs (`NetAgree`, `PayAgree`: the same network layer and
    payload range as the slices of `expPacket`) - or stops in front of an IPv6 extension header that the
    struct cannot hold a second time (`Early`: the documented limitation of `Ipv6Extensions`, reachable
    from the builder only when the configured final next-header number itself is 43/44/51/60). -/
theorem headers_accept_ethernet (c : Cfg) (p out : Bytes) (h : Eth2) (wf : c.WF)
    (hl : c.link = some (.eth2 h)) (hb : build c p = .ok out) (ok : ParseOk c p.length) :
    ∃ x, Dec.phFromEthernet (Dec.memOf out) out.length = .ok x ∧
      ((x.p.link = some (.eth2 ⟨0, 14⟩) ∧ x.p.exts = (expPacket c p.length).exts.map EpModel.Lemmas.StructSlice.hdrExt ∧
          EpModel.Lemmas.StructSlice.NetAgree x.p.net (expPacket c p.length).net ∧ x.p.tp = (expPacket c p.length).tp ∧
          EpModel.Lemmas.StructSlice.PayAgree (Dec.memOf out) x.pay (expPacket c p.length)) ∨
        EpModel.Lemmas.StructSlice.Early x) := by
  have hs := strict_slicing_accepts_ethernet c p out h wf hl hb ok
  have hv := EpModel.Props.C04.headers_from_ethernet_agree_with_slicing out
  rw [hs] at hv
  cases hp : Dec.phFromEthernet (Dec.memOf out) out.length with
  | error e => rw [hp] at hv; exact absurd hv (by simp)
  | ok x =>
    rw [hp] at hv
    refine ⟨x, rfl, ?_⟩
    rcases hv with ⟨h1, _, h3, h4, h5, h6⟩ | he
    · exact Or.inl ⟨h1, h3, h4, h5, h6⟩
    · exact Or.inr he

section special
open EpModel.Dec (memOf ExtSlots)
attribute [local simp] expPacket expExtsAt expNetAt expTpAt expTp expIpv4 expIpv6 extsFrag fragOf v4Frag
  cfgFrag linkLen vlanLen netLen endNum tpHeaderLen Tp.headerLen Tp.ipNumber size Eth2.headerLen
  Ipv4Header.headerLen Ipv4Extensions.headerLen Ipv6Exts.headerLen Ipv6Exts.empty optLen ParseOk NetOk
  RawOk TpOk Step.ipv4 Step.ipv6

/-- Ethernet II / IPv4 (`.ipv4(src, dst, ttl)`: no options, no extension) / UDP -/
theorem build_parses_eth_ipv4_udp (c : Cfg) (p out : Bytes) (h : Eth2) (src dst : Bytes) (ttl : Nat) (u : Udp)
    (wf : c.WF) (hl : c.link = some (.eth2 h)) (hv : c.vlan = none) (hn : c.net = Step.ipv4 src dst ttl)
    (ht : c.tp = some (.udp u)) (hb : build c p = .ok out) :
    Spec.decode .eth (memOf out) out.length = .ok
      { link := some (.eth2 ⟨0, out.length⟩), exts := [],
        net := some (.ip { v4 := true, hdr := ⟨14, 20⟩, auth := none, exts := ⟨14, 0⟩, first := none,
                           slots := ExtSlots.none,
                           pl := { num := 17, frag := false, src := .ipv4HeaderTotalLen,
                                   w := ⟨34, 8 + p.length⟩, inc := false } }),
        tp := some (.udp ⟨34, 8 + p.length⟩), stop := none } ∧
    out.length = 42 + p.length := by
  have ok : ParseOk c p.length := by
    simp [hl, hn, ht]
  have hd := build_parses c p out wf hb ok
  have hs := build_size c p out wf hb
  simp only [startOf, hl] at hd
  rw [hd]
  simp [Udp.headerLen, hl, hv, hn, ht, hs]



/-- Ethernet II / IPv6 (`.ipv6(src, dst, hop_limit)`: no extension headers) / UDP.  The payload length
    field is `8 + p.length`, never 0, so the "zero = up to the end of the slice" convention does not
    apply and the length source is the IPv6 header. -/
theorem build_parses_eth_ipv6_udp (c : Cfg) (p out : Bytes) (h : Eth2) (src dst : Bytes) (hop : Nat) (u : Udp)
    (wf : c.WF) (hl : c.link = some (.eth2 h)) (hv : c.vlan = none) (hn : c.net = Step.ipv6 src dst hop)
    (ht : c.tp = some (.udp u)) (hb : build c p = .ok out) :
    Spec.decode .eth (memOf out) out.length = .ok
      { link := some (.eth2 ⟨0, out.length⟩), exts := [],
        net := some (.ip { v4 := false, hdr := ⟨14, 40⟩, auth := none, exts := ⟨54, 0⟩, first := none,
                           slots := ExtSlots.none,
                           pl := { num := 17, frag := false, src := .ipv6HeaderPayloadLen,
                                   w := ⟨54, 8 + p.length⟩, inc := false } }),
        tp := some (.udp ⟨54, 8 + p.length⟩), stop := none } ∧
    out.length = 62 + p.length := by
  have ok : ParseOk c p.length := by
    simp [hl, hn, ht]
  have hd := build_parses c p out wf hb ok
  have hs := build_size c p out wf hb
  simp only [startOf, hl] at hd
  rw [hd]
  simp [Udp.headerLen, hl, hv, hn, ht, hs]

/-- a single VLAN tag in front, TCP (any flags, any option area): one `.vlan` extension over everything
    behind the Ethernet header; the TCP header length is the one the data offset announces. -/
theorem build_parses_eth_vlan_ipv4_tcp (c : Cfg) (p out : Bytes) (h : Eth2) (v : Vlan) (src dst : Bytes)
    (ttl : Nat) (t : Tcp) (wf : c.WF) (hl : c.link = some (.eth2 h)) (hv : c.vlan = some (.single v))
    (hn : c.net = Step.ipv4 src dst ttl) (ht : c.tp = some (.tcp t)) (hb : build c p = .ok out) :
    Spec.decode .eth (memOf out) out.length = .ok
      { link := some (.eth2 ⟨0, out.length⟩), exts := [.vlan ⟨14, 44 + t.opts.len + p.length⟩],
        net := some (.ip { v4 := true, hdr := ⟨18, 20⟩, auth := none, exts := ⟨18, 0⟩, first := none,
                           slots := ExtSlots.none,
                           pl := { num := 6, frag := false, src := .ipv4HeaderTotalLen,
                                   w := ⟨38, 20 + t.opts.len + p.length⟩, inc := false } }),
        tp := some (.tcp ⟨38, 20 + t.opts.len + p.length⟩ (20 + t.opts.len)), stop := none } ∧
    out.length = 58 + t.opts.len + p.length := by
  have ok : ParseOk c p.length := by
    simp [hl, hn, ht]
  have hd := build_parses c p out wf hb ok
  have hs := build_size c p out wf hb
  simp only [startOf, hl] at hd
  rw [hd]
  simp [Tcp.headerLen, hl, hv, hn, ht, hs]
  omega

/-- two VLAN tags in front (0x88a8, then 0x8100), ICMPv6 in IPv6: two `.vlan` extensions, the outer one
    covering the inner. -/
theorem build_parses_eth_qinq_ipv6_icmpv6 (c : Cfg) (p out : Bytes) (h : Eth2) (vo vi : Vlan) (src dst : Bytes)
    (hop : Nat) (i : Icmp6) (wf : c.WF) (hl : c.link = some (.eth2 h)) (hv : c.vlan = some (.double vo vi))
    (hn : c.net = Step.ipv6 src dst hop) (ht : c.tp = some (.icmp6 i)) (hb : build c p = .ok out) :
    Spec.decode .eth (memOf out) out.length = .ok
      { link := some (.eth2 ⟨0, out.length⟩),
        exts := [.vlan ⟨14, 56 + p.length⟩, .vlan ⟨18, 52 + p.length⟩],
        net := some (.ip { v4 := false, hdr := ⟨22, 40⟩, auth := none, exts := ⟨62, 0⟩, first := none,
                           slots := ExtSlots.none,
                           pl := { num := 58, frag := false, src := .ipv6HeaderPayloadLen,
                                   w := ⟨62, 8 + p.length⟩, inc := false } }),
        tp := some (.icmp6 ⟨62, 8 + p.length⟩), stop := none } ∧
    out.length = 70 + p.length := by
  have ok : ParseOk c p.length := by
    simp [hl, hn, ht]
  have hd := build_parses c p out wf hb ok
  have hs := build_size c p out wf hb
  simp only [startOf, hl] at hd
  rw [hd]
  simp [Icmp6.headerLen, hl, hv, hn, ht, hs]
  omega

/-- ICMPv4 echo request / reply (`.icmpv4_echo_request`, `.icmpv4_echo_reply`) in IPv4 -/
theorem build_parses_eth_ipv4_icmpv4_echo (c : Cfg) (p out : Bytes) (h : Eth2) (src dst : Bytes) (ttl id seq : Nat)
    (wf : c.WF) (hl : c.link = some (.eth2 h)) (hv : c.vlan = none) (hn : c.net = Step.ipv4 src dst ttl)
    (ht : c.tp = some (Step.icmpv4EchoRequest id seq) ∨ c.tp = some (Step.icmpv4EchoReply id seq))
    (hb : build c p = .ok out) :
    Spec.decode .eth (memOf out) out.length = .ok
      { link := some (.eth2 ⟨0, out.length⟩), exts := [],
        net := some (.ip { v4 := true, hdr := ⟨14, 20⟩, auth := none, exts := ⟨14, 0⟩, first := none,
                           slots := ExtSlots.none,
                           pl := { num := 1, frag := false, src := .ipv4HeaderTotalLen,
                                   w := ⟨34, 8 + p.length⟩, inc := false } }),
        tp := some (.icmp4 ⟨34, 8 + p.length⟩), stop := none } := by
  have hs := build_size c p out wf hb
  rcases ht with ht | ht
  all_goals
    have ok : ParseOk c p.length := by
      simp [Icmp4Ok, icmp4TypeCode, hl, hn, ht, Step.icmpv4EchoRequest, Step.icmpv4EchoReply]
    have hd := build_parses c p out wf hb ok
    simp only [startOf, hl] at hd
    rw [hd]
    simp [Icmp4.headerLen, hl, hv, hn, ht, Step.icmpv4EchoRequest, Step.icmpv4EchoReply, hs]

/-- no link layer, IPv4 payload announced by an ip number the decoder does not interpret
    (`PacketBuilder::ipv4(..).write(&mut w, number, payload)`): `from_ip` returns the IPv4 layer with the
    payload window and the number, and no transport layer. -/
theorem build_parses_ip_raw_ipv4 (c : Cfg) (p out : Bytes) (src dst : Bytes) (ttl : Nat)
    (wf : c.WF) (hl : c.link = none) (hv : c.vlan = none) (hn : c.net = Step.ipv4 src dst ttl) (ht : c.tp = none)
    (hnum : c.last ≠ 1 ∧ c.last ≠ 6 ∧ c.last ≠ 17 ∧ c.last ≠ 51 ∧ c.last ≠ 58) (hb : build c p = .ok out) :
    Spec.decode .ip (memOf out) out.length = .ok
      { link := none, exts := [],
        net := some (.ip { v4 := true, hdr := ⟨0, 20⟩, auth := none, exts := ⟨0, 0⟩, first := none,
                           slots := ExtSlots.none,
                           pl := { num := c.last, frag := false, src := .ipv4HeaderTotalLen,
                                   w := ⟨20, p.length⟩, inc := false } }),
        tp := none, stop := none } ∧
    out.length = 20 + p.length := by
  have ok : ParseOk c p.length := by
    simp [hl, hv, hn, ht, hnum]
  have hd := build_parses c p out wf hb ok
  have hs := build_size c p out wf hb
  simp only [startOf, hl] at hd
  rw [hd]
  simp [hl, hv, hn, ht, hs]

/-- the same over IPv6 (numbers of the extension headers excluded as well) -/
theorem build_parses_ip_raw_ipv6 (c : Cfg) (p out : Bytes) (src dst : Bytes) (hop : Nat)
    (wf : c.WF) (hl : c.link = none) (hv : c.vlan = none) (hn : c.net = Step.ipv6 src dst hop) (ht : c.tp = none)
    (hnum : c.last ≠ 0 ∧ c.last ≠ 1 ∧ c.last ≠ 6 ∧ c.last ≠ 17 ∧ c.last ≠ 43 ∧ c.last ≠ 44 ∧ c.last ≠ 51 ∧
      c.last ≠ 58 ∧ c.last ≠ 60) (hb : build c p = .ok out) :
    Spec.decode .ip (memOf out) out.length = .ok
      { link := none, exts := [],
        net := some (.ip { v4 := false, hdr := ⟨0, 40⟩, auth := none, exts := ⟨40, 0⟩, first := none,
                           slots := ExtSlots.none,
                           pl := { num := c.last, frag := false, src := .ipv6HeaderPayloadLen,
                                   w := ⟨40, p.length⟩, inc := false } }),
        tp := none, stop := none } ∧
    out.length = 40 + p.length := by
  have ok : ParseOk c p.length := by
    simp [hl, hv, hn, ht, hnum]
  have hd := build_parses c p out wf hb ok
  have hs := build_size c p out wf hb
  simp only [startOf, hl] at hd
  rw [hd]
  simp [hl, hv, hn, ht, hs]

/-- ARP behind Ethernet II: the ARP window is `packet_len()`, there is no transport layer. -/
theorem build_parses_eth_arp (c : Cfg) (p out : Bytes) (h : Eth2) (a : Arp)
    (wf : c.WF) (hl : c.link = some (.eth2 h)) (hv : c.vlan = none) (hn : c.net = .arp a)
    (hb : build c p = .ok out) :
    Spec.decode .eth (memOf out) out.length = .ok
      { link := some (.eth2 ⟨0, out.length⟩), exts := [], net := some (.arp ⟨14, a.headerLen⟩), tp := none,
        stop := none } := by
  have ok : ParseOk c p.length := by simp [hl, hn]
  have hd := build_parses c p out wf hb ok
  have hs := build_size c p out wf hb
  simp only [startOf, hl] at hd
  rw [hd]
  simp [hl, hv, hn, hs]

end special

/-! ### non-vacuity: concrete configurations satisfy the hypotheses (and the negations) -/

def exCfg : Cfg :=
  { link := Step.ethernet2 [1, 2, 3, 4, 5, 6] [7, 8, 9, 10, 11, 12],
    vlan := Step.singleVlan 5,
    net := Step.ipv4 [192, 168, 1, 1] [192, 168, 1, 2] 20,
    tp := some (Step.udp 21 1234), last := 0 }

def exCfg6 : Cfg :=
  { exCfg with net := .ipv6 { trafficClass := 0, flowLabel := 0, payloadLength := 0, nextHeader := 255,
                              hopLimit := 3, source := List.replicate 16 1, destination := List.replicate 16 2 }
                            { Ipv6Exts.empty with
                              fragment := some { nextHeader := 0, fragmentOffset := 0, moreFragments := false,
                                                 identification := 7 } },
                tp := some (Step.icmpv6EchoRequest 1 2) }

example : exCfg.WF ∧ Encodable exCfg 8 ∧ ¬ Encodable exCfg 65508 := by decide
example : exCfg6.WF ∧ Encodable exCfg6 65519 ∧ ¬ Encodable exCfg6 65520 := by decide
example : ¬ Encodable { exCfg with tp := some (Step.icmpv6EchoRequest 1 2) } 0 := by decide


/-! parsing: the side conditions hold for the sample configurations; the expected packet of a
    configuration with an IPv6 fragment header, evaluated; and the ICMPv4 timestamp case: a 21 byte
    timestamp request is built without error and refused by strict decoding ("too long for a
    timestamp message"), so `ParseOk` cannot be dropped from `build_parses`. -/

example : ParseOk exCfg 8 ∧ ParseOk exCfg6 3 := by decide

example : expPacket exCfg6 3 =
    { link := some (.eth2 ⟨0, 77⟩), exts := [.vlan ⟨14, 63⟩],
      net := some (.ip { v4 := false, hdr := ⟨18, 40⟩, auth := none, exts := ⟨58, 8⟩, first := some 44,
                         slots := Dec.ExtSlots.none,
                         pl := { num := 58, frag := false, src := .ipv6HeaderPayloadLen, w := ⟨66, 11⟩,
                                 inc := false } }),
      tp := some (.icmp6 ⟨66, 11⟩), stop := none } := by decide

def exCfgTs : Cfg := { exCfg with vlan := none, tp := some (Step.icmpv4 (.tsRequest 1 2 3 4 5)) }

def faultOf : Except Spec.Fault Dec.Packet → Option Spec.Fault
  | .error f => some f
  | .ok _ => none

example : exCfgTs.WF ∧ Encodable exCfgTs 1 ∧ ParseOk exCfgTs 0 ∧ ¬ ParseOk exCfgTs 1 := by decide

theorem icmpv4_timestamp_with_payload_is_built_and_rejected :
    build exCfgTs [7] = .ok (buildOk exCfgTs [7]) ∧
    faultOf (Spec.decode .eth (Dec.memOf (buildOk exCfgTs [7])) (buildOk exCfgTs [7]).length)
      = some { cls := .tooLong, unit := .icmp4, off := 34, avail := 21, need := 20,
               lim := .ipv4HeaderTotalLen, value := 0 } :=
  ⟨build_accepts exCfgTs [7] (by decide) (by decide), by decide⟩

end EpModel.Props.C10
