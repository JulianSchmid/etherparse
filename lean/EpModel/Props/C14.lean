import EpModel.Lemmas.Setters
import EpModel.Props.C08Net
import EpModel.Props.C08Link
/-
  C14 — out-of-range lengths and values are rejected, never truncated.

  Model: EpModel.Model.Setters (the length taking constructors / setters / checksum entry points)
  over the C08 codec models (EpModel.Model.Codec.*: header structures, `toBytes`, `fromSlice`).
  Per API (one namespace each), for every header state and every length `n` (no bound on `n`):
    accepts_iff       the call succeeds ↔ n + c ≤ 2^w − 1 (∧ alignment rule), where c is the overhead
                      the code adds (header / extension header length) and w the width of the wire
                      field: the stated maximum is the true maximum
    rejects_with      otherwise the result is exactly the error value with `actual` = the offending
                      and `max_allowed` = the allowed value (MACsec: short length 0), and the header
                      comes back unchanged (`&mut` setters return the header as second component)
    encodes_exactly   an accepted value is stored without reduction and the serialised header
                      decodes to it: `fromSlice (toBytes h' ++ tail) = ok (h', tail)` by the C08
                      theorems for the new header, plus a direct big endian read of the field from
                      `toBytes h'` (`be16 … = n + c`, `(byte + 2) * 4 = 12 + n`, …); for the
                      checksum entry points: the length summed into the pseudo header is n + c
    wraps_without_check  the cast / fixed width addition behind the check (`% 2^k` in the model) is
                      not the identity just above the limit: the check is what protects
  One statement is false for the code as it is and kept visible as a `_full_statement` with its
  negation proved on the model: `UdpCalcChecksum.v6_pseudo_length_full_statement` (known finding
  F14).  Hypotheses are the decidable `WF` predicates of the C08 models (field ranges of the Rust
  types); the section `Examples` shows they are satisfiable and exercises every limit.
-/
namespace EpModel.Props.C14
open EpModel EpModel.Setters EpModel.CodecNet

theorem ipv4_totalLen_field (h : Ipv4Header) (wf : h.WF) : be16 h.toBytes 2 = h.totalLen := by
  rw [Lemmas.CodecNet.Ipv4.toBytes_eq h wf, Lemmas.CodecNet.Ipv4.fixedPart_eq h _ wf]
  have := wf.2.2.1
  simp [be16, bAt]
  omega

namespace Ipv4New

theorem accepts_iff (n ttl proto : Nat) (src dst : Bytes) :
    isOk (ipv4New n ttl proto src dst) = true ↔ n + 20 ≤ 65535 := by
  unfold ipv4New; simp only [isOk_ite, isOk_ok, and_true]; omega

theorem rejects_with (n ttl proto : Nat) (src dst : Bytes) (h : ¬ n + 20 ≤ 65535) :
    ipv4New n ttl proto src dst =
      .error { actual := n, maxAllowed := 65535 - 20, vt := .ipv4PayloadLength } := by
  unfold ipv4New; rw [if_pos (by omega)]

theorem encodes_exactly (n ttl proto : Nat) (src dst tail : Bytes) (h : Ipv4Header)
    (httl : ttl < 256) (hproto : proto < 256) (hsrc : src.length = 4) (hdst : dst.length = 4)
    (hok : ipv4New n ttl proto src dst = .ok h) :
    h.WF ∧ Ipv4Header.fromSlice (h.toBytes ++ tail) = .ok (h, tail) ∧ h.totalLen = n + 20 ∧
      be16 h.toBytes 2 = n + 20 := by
  unfold ipv4New at hok
  split at hok
  · cases hok
  · injection hok with hok
    have wf : h.WF := by
      subst hok; unfold Ipv4Header.WF; simp [hsrc, hdst, httl, hproto]; omega
    have ht : h.totalLen = n + 20 := by subst hok; simp; omega
    exact ⟨wf, C08Net.Ipv4.decode_encode h tail wf, ht, by rw [ipv4_totalLen_field h wf, ht]⟩

end Ipv4New

/-! ## `Ipv4Header::set_payload_len` / `max_payload_len` -/
namespace Ipv4SetPayloadLen

/-- the stated maximum is the true maximum: `max_payload_len() + header_len() = 65535`. -/
theorem max_is_true_max (h : Ipv4Header) (wf : h.WF) : ipv4MaxPayloadLen h + h.headerLen = 65535 := by
  obtain ⟨_, _, _, _, _, _, _, _, _, _, h11, _⟩ := wf
  unfold ipv4MaxPayloadLen Ipv4Header.optLenU8 Ipv4Header.headerLen; omega

theorem accepts_iff (h : Ipv4Header) (wf : h.WF) (n : Nat) :
    isOk (ipv4SetPayloadLen h n).1 = true ↔ n + h.headerLen ≤ 65535 := by
  have := max_is_true_max h wf
  unfold ipv4SetPayloadLen
  simp only
  simp only [isOk_ite_fst, isOk_ok, and_true]; omega

theorem rejects_with (h : Ipv4Header) (wf : h.WF) (n : Nat) (hn : ¬ n + h.headerLen ≤ 65535) :
    ipv4SetPayloadLen h n =
      (.error { actual := n, maxAllowed := 65535 - h.headerLen, vt := .ipv4PayloadLength }, h) := by
  have := max_is_true_max h wf
  unfold ipv4SetPayloadLen
  simp only
  rw [if_pos (by omega)]
  congr 3; omega

/-- the header comes back untouched from every rejected call (no hypothesis on the header). -/
theorem unchanged_on_error (h : Ipv4Header) (n : Nat) (hn : isOk (ipv4SetPayloadLen h n).1 = false) :
    (ipv4SetPayloadLen h n).2 = h := by
  unfold ipv4SetPayloadLen at hn ⊢
  simp only at hn ⊢
  split <;> simp_all [isOk]

theorem encodes_exactly (h : Ipv4Header) (wf : h.WF) (n : Nat) (tail : Bytes)
    (hok : isOk (ipv4SetPayloadLen h n).1 = true) :
    let h' := (ipv4SetPayloadLen h n).2
    h'.WF ∧ Ipv4Header.fromSlice (h'.toBytes ++ tail) = .ok (h', tail) ∧
      h'.totalLen = n + h.headerLen ∧ be16 h'.toBytes 2 = n + h.headerLen ∧
      h' = { h with totalLen := n + h.headerLen } := by
  have hfit := (accepts_iff h wf n).1 hok
  have hmax := max_is_true_max h wf
  unfold ipv4SetPayloadLen
  simp only
  rw [if_neg (by omega)]
  simp only
  have e : (h.headerLen + n) % 65536 = n + h.headerLen := by omega
  rw [e]
  have wf' : Ipv4Header.WF { h with totalLen := n + h.headerLen } := by
    obtain ⟨a, b, _, d⟩ := wf
    exact ⟨a, b, by show n + h.headerLen < 65536; omega, d⟩
  exact ⟨wf', C08Net.Ipv4.decode_encode _ tail wf', rfl, ipv4_totalLen_field _ wf', rfl⟩

/-- without the check the `as u16` cast truncates: the length just above the maximum would be
    stored as 0. -/
theorem wraps_without_check (h : Ipv4Header) (wf : h.WF) :
    (h.headerLen + (ipv4MaxPayloadLen h + 1)) % 65536 = 0 := by
  have := max_is_true_max h wf; omega

end Ipv4SetPayloadLen

/-! ## `Ipv6Header::set_payload_length` -/

theorem ipv6_payloadLength_field (h : Ipv6Header) (wf : h.WF) : be16 h.toBytes 4 = h.payloadLength := by
  have := wf.2.2.1
  simp [Ipv6Header.toBytes, be16, bAt]
  omega

namespace Ipv6SetPayloadLength

theorem accepts_iff (h : Ipv6Header) (n : Nat) :
    isOk (ipv6SetPayloadLength h n).1 = true ↔ n ≤ 65535 := by
  unfold ipv6SetPayloadLength
  simp only [isOk_ite_fst, isOk_ok, and_true]; omega

theorem rejects_with (h : Ipv6Header) (n : Nat) (hn : ¬ n ≤ 65535) :
    ipv6SetPayloadLength h n =
      (.error { actual := n, maxAllowed := 65535, vt := .ipv6PayloadLength }, h) := by
  unfold ipv6SetPayloadLength
  rw [if_pos (by omega)]

theorem encodes_exactly (h : Ipv6Header) (wf : h.WF) (n : Nat) (tail : Bytes) (hn : n ≤ 65535) :
    let h' := (ipv6SetPayloadLength h n).2
    (ipv6SetPayloadLength h n).1 = .ok () ∧
    h'.WF ∧ Ipv6Header.fromSlice (h'.toBytes ++ tail) = .ok (h', tail) ∧
      h'.payloadLength = n ∧ be16 h'.toBytes 4 = n ∧ h' = { h with payloadLength := n } := by
  unfold ipv6SetPayloadLength
  rw [if_neg (by omega)]
  simp only
  have e : n % 65536 = n := by omega
  rw [e]
  have wf' : Ipv6Header.WF { h with payloadLength := n } := by
    obtain ⟨a, b, _, d⟩ := wf
    exact ⟨a, b, by show n < 65536; omega, d⟩
  exact ⟨trivial, wf', C08Net.Ipv6.decode_encode _ tail wf', rfl, ipv6_payloadLength_field _ wf', rfl⟩

theorem wraps_without_check : (65535 + 1) % 65536 = 0 ∧ (65536 + 1500) % 65536 = 1500 := by decide

end Ipv6SetPayloadLength


/-! ## `IpHeaders::set_payload_len` -/
namespace IpHeadersSetPayloadLen

/-- IPv4 (+ authentication header): the overhead is the IPv4 header plus the extension headers. -/
theorem v4_accepts_iff (h : Ipv4Header) (wf : h.WF) (e : Ipv4Extensions) (n : Nat) :
    isOk (ipHeadersSetPayloadLen (.v4 h e) n).1 = true ↔ n + e.headerLen + h.headerLen ≤ 65535 := by
  unfold ipHeadersSetPayloadLen
  simp only
  split
  · exact Ipv4SetPayloadLen.accepts_iff h wf (n + e.headerLen)
  · simp [isOk, usizeMax] at *; omega

/-- rejected, sum representable in `usize`: the error is the one of the IPv4 header, about the
    payload of the IPv4 header (extension headers + n); header and extensions unchanged. -/
theorem v4_rejects_with (h : Ipv4Header) (wf : h.WF) (e : Ipv4Extensions) (n : Nat)
    (hn : ¬ n + e.headerLen + h.headerLen ≤ 65535) (hu : n + e.headerLen ≤ usizeMax) :
    ipHeadersSetPayloadLen (.v4 h e) n =
      (.error { actual := n + e.headerLen, maxAllowed := 65535 - h.headerLen,
                vt := .ipv4PayloadLength }, .v4 h e) := by
  unfold ipHeadersSetPayloadLen
  simp only
  rw [if_pos hu, Ipv4SetPayloadLen.rejects_with h wf _ hn]

/-- rejected because `len + ext_len` overflows `usize`: error about `len` itself with the maximum
    for `len`; unchanged. -/
theorem v4_rejects_with_overflow (h : Ipv4Header) (e : Ipv4Extensions) (n : Nat)
    (hu : ¬ n + e.headerLen ≤ usizeMax) :
    ipHeadersSetPayloadLen (.v4 h e) n =
      (.error { actual := n, maxAllowed := 65535 - h.headerLen - e.headerLen,
                vt := .ipv4PayloadLength }, .v4 h e) := by
  unfold ipHeadersSetPayloadLen
  simp only
  rw [if_neg hu]

/-- in both rejection frames the reported pair describes the same excess:
    `actual - max_allowed = (n + c) - 65535` -/
theorem v4_error_consistent (h : Ipv4Header) (wf : h.WF) (e : Ipv4Extensions) (n : Nat) (err : TooBig)
    (he : e.headerLen + h.headerLen ≤ 65535)
    (hr : (ipHeadersSetPayloadLen (.v4 h e) n).1 = .error err) :
    err.actual + 65535 = err.maxAllowed + (n + e.headerLen + h.headerLen) ∧
      err.maxAllowed < err.actual ∧ err.vt = .ipv4PayloadLength ∧
      (ipHeadersSetPayloadLen (.v4 h e) n).2 = .v4 h e := by
  have hn : ¬ n + e.headerLen + h.headerLen ≤ 65535 := by
    intro hc
    have := (v4_accepts_iff h wf e n).2 hc
    rw [hr] at this; simp [isOk] at this
  by_cases hu : n + e.headerLen ≤ usizeMax
  · rw [v4_rejects_with h wf e n hn hu] at hr ⊢
    injection hr with hr; subst hr
    exact ⟨by simp only; omega, by simp only; omega, rfl, rfl⟩
  · rw [v4_rejects_with_overflow h e n hu] at hr ⊢
    injection hr with hr; subst hr
    exact ⟨by simp only; omega, by simp only; omega, rfl, rfl⟩

theorem v4_encodes_exactly (h : Ipv4Header) (wf : h.WF) (e : Ipv4Extensions) (n : Nat) (tail : Bytes)
    (hn : n + e.headerLen + h.headerLen ≤ 65535) :
    ∃ h' : Ipv4Header, ipHeadersSetPayloadLen (.v4 h e) n = (.ok (), .v4 h' e) ∧
      h'.WF ∧ Ipv4Header.fromSlice (h'.toBytes ++ tail) = .ok (h', tail) ∧
      be16 h'.toBytes 2 = n + e.headerLen + h.headerLen ∧
      h' = { h with totalLen := n + e.headerLen + h.headerLen } := by
  have hok := (Ipv4SetPayloadLen.accepts_iff h wf (n + e.headerLen)).2 hn
  obtain ⟨w, d, _, f, g⟩ := Ipv4SetPayloadLen.encodes_exactly h wf (n + e.headerLen) tail hok
  refine ⟨(ipv4SetPayloadLen h (n + e.headerLen)).2, ?_, w, d, f, g⟩
  unfold ipHeadersSetPayloadLen
  simp only
  rw [if_pos (by unfold usizeMax; omega)]
  generalize hr : ipv4SetPayloadLen h (n + e.headerLen) = r at hok
  obtain ⟨r1, r2⟩ := r
  cases r1 with
  | ok u => rfl
  | error _ => simp [isOk] at hok

/-- IPv6 (+ extension headers) -/
theorem v6_accepts_iff (h : Ipv6Header) (e : Ipv6Exts) (n : Nat) :
    isOk (ipHeadersSetPayloadLen (.v6 h e) n).1 = true ↔ n + e.headerLen ≤ 65535 := by
  unfold ipHeadersSetPayloadLen
  simp only
  split
  · exact Ipv6SetPayloadLength.accepts_iff h (n + e.headerLen)
  · simp [isOk, usizeMax] at *; omega

theorem v6_rejects_with (h : Ipv6Header) (e : Ipv6Exts) (n : Nat)
    (hn : ¬ n + e.headerLen ≤ 65535) (hu : n + e.headerLen ≤ usizeMax) :
    ipHeadersSetPayloadLen (.v6 h e) n =
      (.error { actual := n + e.headerLen, maxAllowed := 65535, vt := .ipv6PayloadLength },
       .v6 h e) := by
  unfold ipHeadersSetPayloadLen
  simp only
  rw [if_pos hu, Ipv6SetPayloadLength.rejects_with h _ hn]

/-- the `usize` overflow branch of the IPv6 arm (only reachable with `len > 2^64 - 1 - ext_len`,
    outside the property's quantifier 0..2^32): the maximum is the right one for `len`, but the
    value type names the IPv4 field — the code says `ValueType::Ipv4PayloadLength` here. -/
theorem v6_rejects_with_overflow (h : Ipv6Header) (e : Ipv6Exts) (n : Nat)
    (hu : ¬ n + e.headerLen ≤ usizeMax) :
    ipHeadersSetPayloadLen (.v6 h e) n =
      (.error { actual := n, maxAllowed := 65535 - e.headerLen, vt := .ipv4PayloadLength },
       .v6 h e) := by
  unfold ipHeadersSetPayloadLen
  simp only
  rw [if_neg hu]

/-- inside the quantified domain the overflow branch is not taken, so the value type is right. -/
theorem v6_value_type_in_domain (h : Ipv6Header) (e : Ipv6Exts) (n : Nat) (err : TooBig)
    (hn : n ≤ 2 ^ 32) (he : e.headerLen ≤ 65535)
    (hr : (ipHeadersSetPayloadLen (.v6 h e) n).1 = .error err) :
    err = { actual := n + e.headerLen, maxAllowed := 65535, vt := .ipv6PayloadLength } ∧
      (ipHeadersSetPayloadLen (.v6 h e) n).2 = .v6 h e := by
  have hu : n + e.headerLen ≤ usizeMax := by unfold usizeMax; omega
  have hnn : ¬ n + e.headerLen ≤ 65535 := by
    intro hc
    have := (v6_accepts_iff h e n).2 hc
    rw [hr] at this; simp [isOk] at this
  rw [v6_rejects_with h e n hnn hu] at hr ⊢
  injection hr with hr
  exact ⟨hr.symm, rfl⟩

theorem v6_encodes_exactly (h : Ipv6Header) (wf : h.WF) (e : Ipv6Exts) (n : Nat) (tail : Bytes)
    (hn : n + e.headerLen ≤ 65535) :
    ∃ h' : Ipv6Header, ipHeadersSetPayloadLen (.v6 h e) n = (.ok (), .v6 h' e) ∧
      h'.WF ∧ Ipv6Header.fromSlice (h'.toBytes ++ tail) = .ok (h', tail) ∧
      be16 h'.toBytes 4 = n + e.headerLen ∧ h' = { h with payloadLength := n + e.headerLen } := by
  obtain ⟨ok, w, d, _, f, g⟩ := Ipv6SetPayloadLength.encodes_exactly h wf (n + e.headerLen) tail hn
  refine ⟨(ipv6SetPayloadLength h (n + e.headerLen)).2, ?_, w, d, f, g⟩
  unfold ipHeadersSetPayloadLen
  simp only
  rw [if_pos (by unfold usizeMax; omega), ok]

end IpHeadersSetPayloadLen



theorem swap16_lt (v : Nat) : Checksum.swap16 v < 65536 := by
  unfold Checksum.swap16; omega

theorem udp_length_field (h : Codec.Udp) (wf : h.WF) : be16 h.toBytes 4 = h.len := by
  obtain ⟨_, _, hl, _⟩ := wf
  simp [Codec.Udp.toBytes, enc16, be16, bAt]
  omega

namespace UdpWithoutIpv4Checksum

theorem accepts_iff (sp dp n : Nat) :
    isOk (udpWithoutIpv4Checksum sp dp n) = true ↔ n + 8 ≤ 65535 := by
  unfold udpWithoutIpv4Checksum; simp only [isOk_ite, isOk_ok, and_true]; omega

theorem rejects_with (sp dp n : Nat) (hn : ¬ n + 8 ≤ 65535) :
    udpWithoutIpv4Checksum sp dp n =
      .error { actual := n, maxAllowed := 65535 - 8, vt := .udpPayloadLengthIpv4 } := by
  unfold udpWithoutIpv4Checksum; rw [if_pos (by omega)]

theorem encodes_exactly (sp dp n : Nat) (tail : Bytes) (h : Codec.Udp) (hsp : sp < 65536)
    (hdp : dp < 65536) (hok : udpWithoutIpv4Checksum sp dp n = .ok h) :
    h = { sp := sp, dp := dp, len := n + 8, ck := 0 } ∧ h.WF ∧
      Codec.Udp.fromSlice (h.toBytes ++ tail) = .ok (h, tail) ∧ be16 h.toBytes 4 = n + 8 := by
  unfold udpWithoutIpv4Checksum at hok
  split at hok
  · cases hok
  · rename_i hn
    injection hok with hok
    subst hok
    obtain ⟨hl, wf, hd, hf⟩ := udp_built sp dp n 0 tail hsp hdp (by decide) hn
    have e : (8 + n) % 65536 = n + 8 := hl
    exact ⟨by simp only [e], wf, hd, hf⟩

/-- without the check `(8 + n) as u16` truncates: 65528 payload bytes would be stored as length 0. -/
theorem wraps_without_check : (8 + 65528) % 65536 = 0 := by decide

end UdpWithoutIpv4Checksum

namespace UdpWithChecksum

theorem v4_accepts_iff (sp dp : Nat) (src dst payload : Bytes) :
    isOk (udpWithIpv4Checksum sp dp src dst payload) = true ↔ payload.length + 8 ≤ 65535 := by
  unfold udpWithIpv4Checksum; simp only [isOk_ite, isOk_ok, and_true]; omega

theorem v4_rejects_with (sp dp : Nat) (src dst payload : Bytes) (hn : ¬ payload.length + 8 ≤ 65535) :
    udpWithIpv4Checksum sp dp src dst payload =
      .error { actual := payload.length, maxAllowed := 65535 - 8, vt := .udpPayloadLengthIpv4 } := by
  unfold udpWithIpv4Checksum; rw [if_pos (by omega)]

/-- accepted: the length field is `payload.len() + 8` exactly and the checksum is the one of the
    header carrying that length (so the pseudo header carries it too). -/
theorem v4_encodes_exactly (sp dp : Nat) (src dst payload tail : Bytes) (h : Codec.Udp)
    (hsp : sp < 65536) (hdp : dp < 65536) (hok : udpWithIpv4Checksum sp dp src dst payload = .ok h) :
    h.len = payload.length + 8 ∧
      h.ck = udpCkIpv4Internal { sp := sp, dp := dp, len := payload.length + 8, ck := 0 } src dst payload ∧
      h.sp = sp ∧ h.dp = dp ∧ h.WF ∧
      Codec.Udp.fromSlice (h.toBytes ++ tail) = .ok (h, tail) ∧
      be16 h.toBytes 4 = payload.length + 8 := by
  unfold udpWithIpv4Checksum at hok
  split at hok
  · cases hok
  · rename_i hn
    injection hok with hok
    subst hok
    obtain ⟨hl, wf, hd, hf⟩ := udp_built sp dp payload.length _ tail hsp hdp (swap16_lt _) hn
    have e : (8 + payload.length) % 65536 = payload.length + 8 := hl
    exact ⟨hl, by simp only [e], rfl, rfl, wf, hd, hf⟩

theorem v6_accepts_iff (sp dp : Nat) (src dst payload : Bytes) :
    isOk (udpWithIpv6Checksum sp dp src dst payload) = true ↔ payload.length + 8 ≤ 65535 := by
  unfold udpWithIpv6Checksum; simp only [isOk_ite, isOk_ok, and_true]; omega

theorem v6_rejects_with (sp dp : Nat) (src dst payload : Bytes) (hn : ¬ payload.length + 8 ≤ 65535) :
    udpWithIpv6Checksum sp dp src dst payload =
      .error { actual := payload.length, maxAllowed := 65535 - 8, vt := .udpPayloadLengthIpv6 } := by
  unfold udpWithIpv6Checksum; rw [if_pos (by omega)]

theorem v6_encodes_exactly (sp dp : Nat) (src dst payload tail : Bytes) (h : Codec.Udp)
    (hsp : sp < 65536) (hdp : dp < 65536) (hok : udpWithIpv6Checksum sp dp src dst payload = .ok h) :
    h.len = payload.length + 8 ∧
      h.ck = udpCkIpv6Internal { sp := sp, dp := dp, len := payload.length + 8, ck := 0 } src dst payload ∧
      h.sp = sp ∧ h.dp = dp ∧ h.WF ∧
      Codec.Udp.fromSlice (h.toBytes ++ tail) = .ok (h, tail) ∧
      be16 h.toBytes 4 = payload.length + 8 := by
  unfold udpWithIpv6Checksum at hok
  split at hok
  · cases hok
  · rename_i hn
    injection hok with hok
    subst hok
    obtain ⟨hl, wf, hd, hf⟩ := udp_built sp dp payload.length _ tail hsp hdp (swap16_lt _) hn
    have e : (8 + payload.length) % 65536 = payload.length + 8 := hl
    exact ⟨hl, by simp only [e], rfl, rfl, wf, hd, hf⟩

end UdpWithChecksum

namespace UdpCalcChecksum

theorem v4_accepts_iff (h : Codec.Udp) (src dst payload : Bytes) :
    isOk (udpCalcChecksumIpv4Raw h src dst payload) = true ↔ payload.length + 8 ≤ 65535 := by
  unfold udpCalcChecksumIpv4Raw; simp only [isOk_ite, isOk_ok, and_true]; omega

theorem v4_rejects_with (h : Codec.Udp) (src dst payload : Bytes) (hn : ¬ payload.length + 8 ≤ 65535) :
    udpCalcChecksumIpv4Raw h src dst payload =
      .error { actual := payload.length, maxAllowed := 65535 - 8, vt := .udpPayloadLengthIpv4 } := by
  unfold udpCalcChecksumIpv4Raw; rw [if_pos (by omega)]

/-- the length summed into the pseudo header is the header's own 16 bit length field (RFC 768);
    for every accepted payload there is a header value for which this is the true length. -/
theorem v4_encodes_exactly (h : Codec.Udp) (src dst payload : Bytes) (hn : payload.length + 8 ≤ 65535) :
    udpCalcChecksumIpv4Raw h src dst payload = .ok (udpCkIpv4Internal h src dst payload) ∧
      be16 (udpPseudoLen { h with len := payload.length + 8 }) 0 = payload.length + 8 := by
  unfold udpCalcChecksumIpv4Raw
  rw [if_neg (by omega)]
  refine ⟨rfl, ?_⟩
  simp [udpPseudoLen, enc16, be16, bAt]; omega

theorem v6_accepts_iff (h : Codec.Udp) (src dst payload : Bytes) :
    isOk (udpCalcChecksumIpv6Raw h src dst payload) = true ↔ payload.length + 8 ≤ 4294967295 := by
  unfold udpCalcChecksumIpv6Raw; simp only [isOk_ite, isOk_ok, and_true]; omega

theorem v6_rejects_with (h : Codec.Udp) (src dst payload : Bytes)
    (hn : ¬ payload.length + 8 ≤ 4294967295) :
    udpCalcChecksumIpv6Raw h src dst payload =
      .error { actual := payload.length, maxAllowed := 4294967295 - 8, vt := .udpPayloadLengthIpv6 } := by
  unfold udpCalcChecksumIpv6Raw; rw [if_pos (by omega)]

/-- FULL STATEMENT (false for the code as it is, see `v6_pseudo_length_full_statement_false`;
    known finding F14): every payload length `calc_checksum_ipv6_raw` accepts can be put into the
    pseudo header, i.e. there is a header value whose pseudo header length is `payload.len() + 8`.
    The IPv6 pseudo header has a 32 bit upper-layer length (RFC 8200 §8.1, RFC 2675 §4 for UDP
    beyond 65535), the code sums the 16 bit `self.length`. -/
def v6_pseudo_length_full_statement : Prop :=
  ∀ (h : Codec.Udp) (src dst payload : Bytes),
    isOk (udpCalcChecksumIpv6Raw h src dst payload) = true →
      ∃ len : Nat, be16 (udpPseudoLen { h with len := len } ++ []) 0 = payload.length + 8

/-- what holds: the statement restricted to payloads the 16 bit length field can describe
    (exactly the payloads `with_ipv6_checksum` accepts). -/
theorem v6_pseudo_length_partial (h : Codec.Udp) (src dst payload : Bytes)
    (hn : payload.length + 8 ≤ 65535) :
    udpCalcChecksumIpv6Raw h src dst payload = .ok (udpCkIpv6Internal h src dst payload) ∧
      be16 (udpPseudoLen { h with len := payload.length + 8 } ++ []) 0 = payload.length + 8 := by
  unfold udpCalcChecksumIpv6Raw
  rw [if_neg (by omega)]
  refine ⟨rfl, ?_⟩
  simp [udpPseudoLen, enc16, be16, bAt]; omega

/-- the negation on the model: 65528 payload bytes are accepted, and no header value makes the
    pseudo header carry the length 65536. -/
theorem v6_pseudo_length_full_statement_false : ¬ v6_pseudo_length_full_statement := by
  intro hfull
  have hacc : isOk (udpCalcChecksumIpv6Raw ⟨0, 0, 0, 0⟩ [] [] (List.replicate 65528 0)) = true := by
    rw [v6_accepts_iff, List.length_replicate]; omega
  obtain ⟨len, hlen⟩ := hfull ⟨0, 0, 0, 0⟩ [] [] (List.replicate 65528 0) hacc
  have hlt : be16 (udpPseudoLen { (⟨0, 0, 0, 0⟩ : Codec.Udp) with len := len } ++ []) 0 < 65536 :=
    be16_lt _ _
  rw [hlen, List.length_replicate] at hlt
  omega

end UdpCalcChecksum


/-! ## TCP: `TcpHeader::calc_checksum_ipv4(_raw)` / `calc_checksum_ipv6(_raw)`,
    `TcpSlice::calc_checksum_ipv4` / `calc_checksum_ipv6` -/
namespace TcpCalcChecksum

theorem v4_accepts_iff (h : Codec.Tcp) (src dst payload : Bytes) (hl : h.opts.len ≤ 40) :
    isOk (tcpCalcChecksumIpv4Raw h src dst payload) = true ↔ payload.length + h.headerLen ≤ 65535 := by
  unfold tcpCalcChecksumIpv4Raw Codec.Tcp.headerLen
  simp only
  simp only [isOk_ite, isOk_ok, and_true]; omega

theorem v4_rejects_with (h : Codec.Tcp) (src dst payload : Bytes) (hl : h.opts.len ≤ 40)
    (hn : ¬ payload.length + h.headerLen ≤ 65535) :
    tcpCalcChecksumIpv4Raw h src dst payload =
      .error { actual := payload.length, maxAllowed := 65535 - h.headerLen,
               vt := .tcpPayloadLengthIpv4 } := by
  unfold tcpCalcChecksumIpv4Raw
  simp only
  rw [if_pos (by unfold Codec.Tcp.headerLen at *; omega)]

/-- accepted: the TCP length summed into the pseudo header is `header_len + payload.len()`
    exactly (neither the `as u16` cast nor the `u16` addition wraps). -/
theorem v4_encodes_exactly (h : Codec.Tcp) (src dst payload : Bytes)
    (hn : payload.length + h.headerLen ≤ 65535) :
    tcpLenIpv4 h payload.length = h.headerLen + payload.length ∧
    tcpCalcChecksumIpv4Raw h src dst payload =
      .ok (tcpCkPostIp h (tcpPseudoIpv4 src dst (h.headerLen + payload.length)) payload) ∧
    be16 (enc16 (h.headerLen + payload.length) ++ []) 0 = h.headerLen + payload.length := by
  have e : tcpLenIpv4 h payload.length = h.headerLen + payload.length := by
    unfold tcpLenIpv4 tcpHeaderLenU16 Codec.Tcp.headerLen at *; omega
  refine ⟨e, ?_, Lemmas.Codec.be16_enc16 _ _ (by omega)⟩
  unfold tcpCalcChecksumIpv4Raw
  simp only
  rw [if_neg (by omega), e]

/-- without the check the 16 bit length wraps: one byte above the maximum gives TCP length 0. -/
theorem v4_wraps_without_check (h : Codec.Tcp) (hl : h.opts.len ≤ 40) :
    tcpLenIpv4 h (65535 - h.headerLen + 1) = 0 := by
  unfold tcpLenIpv4 tcpHeaderLenU16 Codec.Tcp.headerLen; omega

theorem v6_accepts_iff (h : Codec.Tcp) (src dst payload : Bytes) (hl : h.opts.len ≤ 40) :
    isOk (tcpCalcChecksumIpv6Raw h src dst payload) = true ↔
      payload.length + h.headerLen ≤ 4294967295 := by
  unfold tcpCalcChecksumIpv6Raw Codec.Tcp.headerLen
  simp only
  simp only [isOk_ite, isOk_ok, and_true]; omega

theorem v6_rejects_with (h : Codec.Tcp) (src dst payload : Bytes) (hl : h.opts.len ≤ 40)
    (hn : ¬ payload.length + h.headerLen ≤ 4294967295) :
    tcpCalcChecksumIpv6Raw h src dst payload =
      .error { actual := payload.length, maxAllowed := 4294967295 - h.headerLen,
               vt := .tcpPayloadLengthIpv6 } := by
  unfold tcpCalcChecksumIpv6Raw
  simp only
  rw [if_pos (by unfold Codec.Tcp.headerLen at *; omega)]

theorem v6_encodes_exactly (h : Codec.Tcp) (src dst payload : Bytes)
    (hn : payload.length + h.headerLen ≤ 4294967295) :
    tcpLenIpv6 h payload.length = h.headerLen + payload.length ∧
    tcpCalcChecksumIpv6Raw h src dst payload =
      .ok (tcpCkPostIp h (tcpPseudoIpv6 src dst (h.headerLen + payload.length)) payload) ∧
    be32 (enc32 (h.headerLen + payload.length) ++ []) 0 = h.headerLen + payload.length := by
  have e : tcpLenIpv6 h payload.length = h.headerLen + payload.length := by
    unfold tcpLenIpv6 tcpHeaderLenU16 Codec.Tcp.headerLen at *; omega
  refine ⟨e, ?_, Lemmas.Codec.be32_enc32 _ _ (by omega)⟩
  unfold tcpCalcChecksumIpv6Raw
  simp only
  rw [if_neg (by omega), e]

theorem v6_wraps_without_check (h : Codec.Tcp) (hl : h.opts.len ≤ 40) :
    tcpLenIpv6 h (4294967295 - h.headerLen + 1) = 0 := by
  unfold tcpLenIpv6 tcpHeaderLenU16 Codec.Tcp.headerLen; omega

/-- `TcpSlice`: the slice is header ++ payload, the checked value is its whole length. -/
theorem slice_v4_accepts_iff (hdr payload src dst : Bytes) :
    isOk (tcpSliceCalcChecksumIpv4 (hdr ++ payload) src dst) = true ↔
      payload.length + hdr.length ≤ 65535 := by
  unfold tcpSliceCalcChecksumIpv4
  simp only [List.length_append]
  simp only [isOk_ite, isOk_ok, and_true]; omega

theorem slice_v4_rejects_with (slice src dst : Bytes) (hn : ¬ slice.length ≤ 65535) :
    tcpSliceCalcChecksumIpv4 slice src dst =
      .error { actual := slice.length, maxAllowed := 65535, vt := .tcpPayloadLengthIpv4 } := by
  unfold tcpSliceCalcChecksumIpv4
  rw [if_pos (by omega)]

theorem slice_v4_encodes_exactly (slice src dst : Bytes) (hn : slice.length ≤ 65535) :
    tcpSliceCalcChecksumIpv4 slice src dst =
      .ok (tcpSliceCkPostIp slice (tcpPseudoIpv4 src dst slice.length)) ∧
    be16 (enc16 slice.length ++ []) 0 = slice.length := by
  unfold tcpSliceCalcChecksumIpv4
  rw [if_neg (by omega)]
  have e : slice.length % 65536 = slice.length := by omega
  rw [e]
  exact ⟨rfl, Lemmas.Codec.be16_enc16 _ _ (by omega)⟩

theorem slice_v6_accepts_iff (hdr payload src dst : Bytes) :
    isOk (tcpSliceCalcChecksumIpv6 (hdr ++ payload) src dst) = true ↔
      payload.length + hdr.length ≤ 4294967295 := by
  unfold tcpSliceCalcChecksumIpv6
  simp only [List.length_append]
  simp only [isOk_ite, isOk_ok, and_true]; omega

theorem slice_v6_rejects_with (slice src dst : Bytes) (hn : ¬ slice.length ≤ 4294967295) :
    tcpSliceCalcChecksumIpv6 slice src dst =
      .error { actual := slice.length, maxAllowed := 4294967295, vt := .tcpPayloadLengthIpv6 } := by
  unfold tcpSliceCalcChecksumIpv6
  rw [if_pos (by omega)]

theorem slice_v6_encodes_exactly (slice src dst : Bytes) (hn : slice.length ≤ 4294967295) :
    tcpSliceCalcChecksumIpv6 slice src dst =
      .ok (tcpSliceCkPostIp slice (tcpSlicePseudoIpv6 src dst slice.length)) ∧
    be32 (enc32 slice.length ++ []) 0 = slice.length := by
  unfold tcpSliceCalcChecksumIpv6
  rw [if_neg (by omega)]
  have e : slice.length % 4294967296 = slice.length := by omega
  rw [e]
  exact ⟨rfl, Lemmas.Codec.be32_enc32 _ _ (by omega)⟩

theorem slice_wraps_without_check : 65536 % 65536 = 0 ∧ 4294967296 % 4294967296 = 0 := by decide

end TcpCalcChecksum

/-! ## ICMPv6: `Icmpv6Type::calc_checksum`, `Icmpv6Header::with_checksum` / `update_checksum` -/
namespace Icmp6CalcChecksum

theorem accepts_iff (t : Codec.Icmp6Type) (src dst payload : Bytes) :
    isOk (icmp6CalcChecksum t src dst payload) = true ↔ payload.length + 8 ≤ 4294967295 := by
  unfold icmp6CalcChecksum
  simp only
  simp only [isOk_ite, isOk_ok, and_true]; omega

theorem rejects_with (t : Codec.Icmp6Type) (src dst payload : Bytes)
    (hn : ¬ payload.length + 8 ≤ 4294967295) :
    icmp6CalcChecksum t src dst payload =
      .error { actual := payload.length, maxAllowed := 4294967295 - 8,
               vt := .icmpv6PayloadLength } := by
  unfold icmp6CalcChecksum
  simp only
  rw [if_pos (by omega)]

/-- accepted: the upper-layer length in the pseudo header is `payload.len() + 8` exactly. -/
theorem encodes_exactly (t : Codec.Icmp6Type) (src dst payload : Bytes)
    (hn : payload.length + 8 ≤ 4294967295) :
    icmp6MsgLenU32 payload.length = payload.length + 8 ∧
    icmp6CalcChecksum t src dst payload =
      .ok (Checksum.swap16 (Checksum.onesComplement64 (Checksum.addSlice64
        (icmp6TypeSum t (icmp6Pseudo src dst (payload.length + 8))) payload))) ∧
    be32 (enc32 (payload.length + 8) ++ []) 0 = payload.length + 8 := by
  have e : icmp6MsgLenU32 payload.length = payload.length + 8 := by unfold icmp6MsgLenU32; omega
  refine ⟨e, ?_, Lemmas.Codec.be32_enc32 _ _ (by omega)⟩
  unfold icmp6CalcChecksum
  simp only
  rw [if_neg (by omega), e]

theorem wraps_without_check : icmp6MsgLenU32 (4294967295 - 8 + 1) = 0 := by decide

/-- `with_checksum`: same acceptance, the type is kept, the checksum is `calc_checksum`'s. -/
theorem with_checksum_iff (t : Codec.Icmp6Type) (src dst payload : Bytes) :
    isOk (icmp6WithChecksum t src dst payload) = isOk (icmp6CalcChecksum t src dst payload) ∧
    ∀ h, icmp6WithChecksum t src dst payload = .ok h →
      h.ty = t ∧ icmp6CalcChecksum t src dst payload = .ok h.ck := by
  unfold icmp6WithChecksum
  cases icmp6CalcChecksum t src dst payload with
  | error e => simp [isOk]
  | ok ck => simp [isOk]

/-- `update_checksum`: the header is unchanged when the payload is rejected. -/
theorem update_unchanged_on_error (h : Codec.Icmp6) (src dst payload : Bytes)
    (hn : ¬ payload.length + 8 ≤ 4294967295) :
    icmp6UpdateChecksum h src dst payload =
      (.error { actual := payload.length, maxAllowed := 4294967295 - 8,
                vt := .icmpv6PayloadLength }, h) := by
  unfold icmp6UpdateChecksum
  rw [rejects_with h.ty src dst payload hn]

end Icmp6CalcChecksum


/-! ## MACsec: `MacsecShortLen::from_len` / `try_from`, `MacsecHeader::set_payload_len` -/
namespace MacsecShortLen

theorem from_len_accepts_iff (n : Nat) : (macsecFromLen n = n) ↔ n ≤ 63 := by
  unfold macsecFromLen; split <;> omega

/-- a length that does not fit is stored as the documented "unknown" short length 0. -/
theorem from_len_rejects_with (n : Nat) (hn : ¬ n ≤ 63) : macsecFromLen n = 0 := by
  unfold macsecFromLen; rw [if_pos (by omega)]

theorem from_len_in_range (n : Nat) : macsecFromLen n ≤ 63 := by
  unfold macsecFromLen; split <;> omega

/-- without the check `len as u8` truncates: 256 + 5 would be stored as 5. -/
theorem from_len_wraps_without_check : (256 + 5) % 256 = 5 := by decide

theorem try_from_accepts_iff (n : Nat) : isOk (macsecTryFromU8 n) = true ↔ n ≤ 63 := by
  unfold macsecTryFromU8; split <;> simp [isOk] <;> omega

theorem try_from_rejects_with (n : Nat) (hn : ¬ n ≤ 63) :
    macsecTryFromU8 n = .error { actual := n, maxAllowed := 63, vt := .macsecShortLen } := by
  unfold macsecTryFromU8; rw [if_neg hn]

theorem try_from_encodes_exactly (n : Nat) (hn : n ≤ 63) : macsecTryFromU8 n = .ok n := by
  unfold macsecTryFromU8; rw [if_pos hn]

end MacsecShortLen

namespace MacsecSetPayloadLen

/-- overhead counted by the short length: the ether type of an unmodified packet -/
def overhead (h : Codec.Macsec) : Nat := if h.isUnmodified then 2 else 0

/-- the short length byte of the serialised header is the stored short length -/
theorem short_len_field (h : Codec.Macsec) (hsl : h.sl ≤ 63) : bAt h.toBytes 1 = h.sl := by
  have e : h.sl &&& 63 = h.sl := by
    rw [Lemmas.CodecNet.and63]; omega
  unfold Codec.Macsec.toBytes
  cases h.sci.isSome <;> cases h.isUnmodified <;> simp [bAt, e] <;> omega

theorem accepts_iff (h : Codec.Macsec) (n : Nat) :
    (macsecSetPayloadLen h n).sl = n + overhead h ↔ n + overhead h ≤ 63 := by
  unfold macsecSetPayloadLen overhead macsecShortLenMax
  cases h.isUnmodified <;> simp <;> split <;> simp <;> omega

/-- a payload length that does not fit sets the "unknown" short length 0; every other field of
    the header is left as it was (in both cases). -/
theorem rejects_with (h : Codec.Macsec) (n : Nat) (hn : ¬ n + overhead h ≤ 63) :
    macsecSetPayloadLen h n = { h with sl := 0 } := by
  unfold macsecSetPayloadLen overhead macsecShortLenMax at *
  cases hu : h.isUnmodified <;> simp [hu] at hn ⊢ <;> omega

theorem encodes_exactly (h : Codec.Macsec) (n : Nat) (hn : n + overhead h ≤ 63) :
    macsecSetPayloadLen h n = { h with sl := n + overhead h } ∧
      bAt (macsecSetPayloadLen h n).toBytes 1 = n + overhead h ∧
      (1 ≤ n + overhead h → macsecExpectedPayloadLen (macsecSetPayloadLen h n) = some n) := by
  have e : macsecSetPayloadLen h n = { h with sl := n + overhead h } := by
    unfold macsecSetPayloadLen overhead macsecShortLenMax at *
    cases hu : h.isUnmodified <;> simp [hu] at hn ⊢
    · rw [if_neg (by omega)]; congr 1; omega
    · rw [if_neg (by omega)]; congr 1; omega
  refine ⟨e, ?_, ?_⟩
  · rw [e, short_len_field _ (by simpa using hn)]
  · intro h1
    rw [e]
    unfold macsecExpectedPayloadLen overhead at *
    have hu' : Codec.Macsec.isUnmodified { h with sl := n + (if h.isUnmodified then 2 else 0) }
        = h.isUnmodified := rfl
    simp only [hu']
    cases hu : h.isUnmodified <;> simp [hu] at h1 ⊢ <;> omega

/-- without the check `payload_len as u8 + 2` wraps: 254 would give short length 0, 260 gives 6. -/
theorem wraps_without_check : (254 % 256 + 2) % 256 = 0 ∧ (260 % 256 + 2) % 256 = 6 := by decide

end MacsecSetPayloadLen


/-! ## IP authentication header: `IpAuthHeader::new` / `set_raw_icv` -/
namespace AuthIcv

/-- the payload length byte of the serialised header: `(byte + 2) * 4 = 12 + ICV length` -/
theorem payload_len_field (h : IpAuthHeader) (wf : h.WF) :
    (bAt h.toBytes 1 + 2) * 4 = 12 + h.rawIcv.length := by
  rw [Lemmas.CodecNet.Auth.toBytes_eq h wf]
  have hl := Lemmas.CodecNet.Auth.rawIcvLen_eq h wf
  obtain ⟨_, _, _, h4, h5⟩ := wf
  simp [IpAuthHeader.fixedPart, bAt, hl]
  omega

theorem new_accepts_iff (nh spi seq : Nat) (icv : Bytes) :
    isOk (IpAuthHeader.new nh spi seq icv) = true ↔ icv.length ≤ 1016 ∧ icv.length % 4 = 0 := by
  unfold IpAuthHeader.new
  split
  · simp [isOk]; omega
  · simp only [isOk_ite, isOk_ok, and_true]; omega

theorem new_rejects_with (nh spi seq : Nat) (icv : Bytes)
    (hn : ¬ (icv.length ≤ 1016 ∧ icv.length % 4 = 0)) :
    IpAuthHeader.new nh spi seq icv =
      .error (if icv.length > 1016 then .tooBig icv.length else .unaligned icv.length) := by
  unfold IpAuthHeader.new
  split
  · rfl
  · rw [if_pos (by omega)]

theorem new_encodes_exactly (nh spi seq : Nat) (icv tail : Bytes) (h : IpAuthHeader)
    (hnh : nh < 256) (hspi : spi < 4294967296) (hseq : seq < 4294967296)
    (hok : IpAuthHeader.new nh spi seq icv = .ok h) :
    h = { nextHeader := nh, spi := spi, sequenceNumber := seq, rawIcv := icv } ∧ h.WF ∧
      IpAuthHeader.fromSlice (h.toBytes ++ tail) = .ok (h, tail) ∧
      h.headerLen = 12 + icv.length ∧ (bAt h.toBytes 1 + 2) * 4 = 12 + icv.length := by
  have hacc := (new_accepts_iff nh spi seq icv).1 (by rw [hok]; rfl)
  unfold IpAuthHeader.new at hok
  rw [if_neg (by omega), if_neg (by omega)] at hok
  injection hok with hok
  have wf : h.WF := by subst hok; exact ⟨hnh, hspi, hseq, hacc.1, hacc.2⟩
  have hi : h.rawIcv = icv := by subst hok; rfl
  exact ⟨hok.symm, wf, C08Net.Auth.decode_encode h tail wf,
    by rw [Lemmas.CodecNet.Auth.headerLen_eq h wf, hi], by rw [payload_len_field h wf, hi]⟩

theorem set_accepts_iff (h : IpAuthHeader) (icv : Bytes) :
    isOk (authSetRawIcv h icv).1 = true ↔ icv.length ≤ 1016 ∧ icv.length % 4 = 0 := by
  unfold authSetRawIcv
  split
  · simp [isOk]; omega
  · simp only [isOk_ite_fst, isOk_ok, and_true]; omega

/-- rejected: the error names the length and the rule it breaks; the header is unchanged. -/
theorem set_rejects_with (h : IpAuthHeader) (icv : Bytes)
    (hn : ¬ (icv.length ≤ 1016 ∧ icv.length % 4 = 0)) :
    authSetRawIcv h icv =
      (.error (if icv.length > 1016 then .tooBig icv.length else .unaligned icv.length), h) := by
  unfold authSetRawIcv
  split
  · rfl
  · rw [if_pos (by omega)]

theorem set_encodes_exactly (h : IpAuthHeader) (wf : h.WF) (icv tail : Bytes)
    (hn : icv.length ≤ 1016 ∧ icv.length % 4 = 0) :
    authSetRawIcv h icv = (.ok (), { h with rawIcv := icv }) ∧
      let h' : IpAuthHeader := { h with rawIcv := icv }
      h'.WF ∧ IpAuthHeader.fromSlice (h'.toBytes ++ tail) = .ok (h', tail) ∧
        h'.headerLen = 12 + icv.length ∧ (bAt h'.toBytes 1 + 2) * 4 = 12 + icv.length := by
  have wf' : IpAuthHeader.WF { h with rawIcv := icv } := by
    obtain ⟨a, b, c, _, _⟩ := wf
    exact ⟨a, b, c, hn.1, hn.2⟩
  refine ⟨?_, wf', C08Net.Auth.decode_encode _ tail wf', Lemmas.CodecNet.Auth.headerLen_eq _ wf',
    payload_len_field _ wf'⟩
  unfold authSetRawIcv
  rw [if_neg (by omega), if_neg (by omega)]

/-- without the checks `(len / 4) as u8` truncates: a 1024 byte ICV would be stored as length 0,
    and `len / 4` drops the remainder of an unaligned length (1015 → 1012 bytes). -/
theorem wraps_without_check : (1024 / 4) % 256 = 0 ∧ (1015 / 4) % 256 * 4 = 1012 := by decide

end AuthIcv

/-! ## IPv6 raw extension header: `Ipv6RawExtHeader::new_raw` / `set_payload` -/
namespace RawExtPayload

/-- acceptance condition: 6 ≤ len ≤ 2046 and len ≡ 6 (mod 8) -/
def Fits (len : Nat) : Prop := 6 ≤ len ∧ len ≤ 2046 ∧ (len + 2) % 8 = 0
instance (len : Nat) : Decidable (Fits len) := by unfold Fits; infer_instance

/-- the `Hdr Ext Len` byte of the serialised header: `(byte + 1) * 8 = 2 + payload length` -/
theorem hdr_ext_len_field (h : Ipv6RawExtHeader) (wf : h.WF) :
    (bAt h.toBytes 1 + 1) * 8 = 2 + h.payload.length := by
  have hl := Lemmas.CodecNet.RawExt.headerLength_eq h wf
  obtain ⟨_, h2, h3, h4⟩ := wf
  simp [Ipv6RawExtHeader.toBytes, bAt, hl]
  omega

def rejection (len : Nat) : ExtPayloadLenError :=
  if len < 6 then .tooSmall len else if len > 2046 then .tooBig len else .unaligned len

theorem new_accepts_iff (nh : Nat) (p : Bytes) :
    isOk (Ipv6RawExtHeader.newRaw nh p) = true ↔ Fits p.length := by
  unfold Ipv6RawExtHeader.newRaw Fits
  split
  · simp [isOk]; omega
  · split
    · simp [isOk]; omega
    · simp only [isOk_ite, isOk_ok, and_true]; omega

theorem new_rejects_with (nh : Nat) (p : Bytes) (hn : ¬ Fits p.length) :
    Ipv6RawExtHeader.newRaw nh p = .error (rejection p.length) := by
  unfold Ipv6RawExtHeader.newRaw rejection Fits at *
  split
  · rfl
  · split
    · rfl
    · rw [if_pos (by omega)]

theorem new_encodes_exactly (nh : Nat) (p tail : Bytes) (h : Ipv6RawExtHeader) (hnh : nh < 256)
    (hok : Ipv6RawExtHeader.newRaw nh p = .ok h) :
    h = { nextHeader := nh, payload := p } ∧ h.WF ∧
      Ipv6RawExtHeader.fromSlice (h.toBytes ++ tail) = .ok (h, tail) ∧
      h.headerLen = 2 + p.length ∧ (bAt h.toBytes 1 + 1) * 8 = 2 + p.length := by
  have hacc := (new_accepts_iff nh p).1 (by rw [hok]; rfl)
  unfold Fits at hacc
  unfold Ipv6RawExtHeader.newRaw at hok
  rw [if_neg (by omega), if_neg (by omega), if_neg (by omega)] at hok
  injection hok with hok
  have wf : h.WF := by subst hok; exact ⟨hnh, hacc.1, hacc.2.1, hacc.2.2⟩
  have hi : h.payload = p := by subst hok; rfl
  exact ⟨hok.symm, wf, C08Net.RawExt.decode_encode h tail wf,
    by rw [Lemmas.CodecNet.RawExt.headerLen_eq h wf, hi], by rw [hdr_ext_len_field h wf, hi]⟩

theorem set_accepts_iff (h : Ipv6RawExtHeader) (p : Bytes) :
    isOk (rawExtSetPayload h p).1 = true ↔ Fits p.length := by
  unfold rawExtSetPayload Fits
  split
  · simp [isOk]; omega
  · split
    · simp [isOk]; omega
    · simp only [isOk_ite_fst, isOk_ok, and_true]; omega

theorem set_rejects_with (h : Ipv6RawExtHeader) (p : Bytes) (hn : ¬ Fits p.length) :
    rawExtSetPayload h p = (.error (rejection p.length), h) := by
  unfold rawExtSetPayload rejection Fits at *
  split
  · rfl
  · split
    · rfl
    · rw [if_pos (by omega)]

theorem set_encodes_exactly (h : Ipv6RawExtHeader) (wf : h.WF) (p tail : Bytes) (hn : Fits p.length) :
    rawExtSetPayload h p = (.ok (), { h with payload := p }) ∧
      let h' : Ipv6RawExtHeader := { h with payload := p }
      h'.WF ∧ Ipv6RawExtHeader.fromSlice (h'.toBytes ++ tail) = .ok (h', tail) ∧
        h'.headerLen = 2 + p.length ∧ (bAt h'.toBytes 1 + 1) * 8 = 2 + p.length := by
  unfold Fits at hn
  have wf' : Ipv6RawExtHeader.WF { h with payload := p } := ⟨wf.1, hn.1, hn.2.1, hn.2.2⟩
  refine ⟨?_, wf', C08Net.RawExt.decode_encode _ tail wf',
    Lemmas.CodecNet.RawExt.headerLen_eq _ wf', hdr_ext_len_field _ wf'⟩
  unfold rawExtSetPayload
  rw [if_neg (by omega), if_neg (by omega), if_neg (by omega)]

/-- without the checks `((len - 6) / 8) as u8` truncates: 2054 payload bytes would be stored as
    length byte 0 (= 6 bytes), and 5 bytes (`5 - 6` underflows in `usize`) cannot be represented. -/
theorem wraps_without_check : ((2054 - 6) / 8) % 256 = 0 ∧ ((13 - 6) / 8) % 256 * 8 + 6 = 6 := by
  decide

end RawExtPayload


/-! ## IPv4 options: `Ipv4Options::try_from` / `Ipv4Header::set_options` -/
namespace Ipv4OptionsLen

/-- the IHL nibble of the serialised header: `(byte0 mod 16) * 4 = 20 + options length` -/
theorem ihl_field (h : Ipv4Header) (wf : h.WF) : (bAt h.toBytes 0 % 16) * 4 = 20 + h.options.length := by
  rw [Lemmas.CodecNet.Ipv4.toBytes_eq h wf, Lemmas.CodecNet.Ipv4.fixedPart_eq h _ wf]
  obtain ⟨_, _, _, _, _, _, _, _, _, _, h11, h12⟩ := wf
  simp [bAt]
  omega

theorem try_from_accepts_iff (d : Bytes) :
    isOk (Ipv4Options.tryFrom d) = true ↔ d.length ≤ 40 ∧ d.length % 4 = 0 := by
  unfold Ipv4Options.tryFrom; split <;> simp_all [isOk]

theorem try_from_rejects_with (d : Bytes) (hn : ¬ (d.length ≤ 40 ∧ d.length % 4 = 0)) :
    Ipv4Options.tryFrom d = .error d.length := by
  unfold Ipv4Options.tryFrom; rw [if_neg hn]

theorem try_from_encodes_exactly (d : Bytes) (hn : d.length ≤ 40 ∧ d.length % 4 = 0) :
    Ipv4Options.tryFrom d = .ok d := by
  unfold Ipv4Options.tryFrom; rw [if_pos hn]

theorem set_accepts_iff (h : Ipv4Header) (d : Bytes) :
    isOk (ipv4SetOptions h d).1 = true ↔ d.length ≤ 40 ∧ d.length % 4 = 0 := by
  unfold ipv4SetOptions
  by_cases hc : d.length ≤ 40 ∧ d.length % 4 = 0
  · rw [try_from_encodes_exactly d hc]; simp [isOk, hc]
  · rw [try_from_rejects_with d hc]; simp [isOk, hc]

theorem set_rejects_with (h : Ipv4Header) (d : Bytes) (hn : ¬ (d.length ≤ 40 ∧ d.length % 4 = 0)) :
    ipv4SetOptions h d = (.error d.length, h) := by
  unfold ipv4SetOptions; rw [try_from_rejects_with d hn]

theorem set_encodes_exactly (h : Ipv4Header) (wf : h.WF) (d tail : Bytes)
    (hn : d.length ≤ 40 ∧ d.length % 4 = 0) :
    ipv4SetOptions h d = (.ok (), { h with options := d }) ∧
      let h' : Ipv4Header := { h with options := d }
      h'.WF ∧ Ipv4Header.fromSlice (h'.toBytes ++ tail) = .ok (h', tail) ∧
        h'.headerLen = 20 + d.length ∧ (bAt h'.toBytes 0 % 16) * 4 = 20 + d.length := by
  have wf' : Ipv4Header.WF { h with options := d } := by
    obtain ⟨a1, a2, a3, a4, a5, a6, a7, a8, a9, a10, _, _⟩ := wf
    exact ⟨a1, a2, a3, a4, a5, a6, a7, a8, a9, a10, hn.1, hn.2⟩
  refine ⟨?_, wf', C08Net.Ipv4.decode_encode _ tail wf', rfl, ihl_field _ wf'⟩
  unfold ipv4SetOptions; rw [try_from_encodes_exactly d hn]

/-- without the check `len as u8 / 4 + 5` does not fit the 4 bit IHL: 44 option bytes would give
    IHL 16, which the `| (4 << 4)` turns into version 5, IHL 0. -/
theorem wraps_without_check : ((4 <<< 4) ||| (44 / 4 + 5)) % 16 = 0 ∧ ((4 <<< 4) ||| (44 / 4 + 5)) / 16 = 5 := by
  decide

end Ipv4OptionsLen

/-! ## TCP options: `TcpOptions::try_from_slice` / `TcpHeader::set_options_raw` -/
namespace TcpOptionsLen

/-- the stored length is the slice length rounded up to a multiple of 4 -/
theorem padded_len : ∀ l : Nat, l < 41 →
    (((l % 256) >>> 2) <<< 2) % 256 + (if ((l % 256) &&& 0b11) ≠ 0 then 4 else 0) = (l + 3) / 4 * 4 := by
  decide

theorem try_from_accepts_iff (d : Bytes) :
    isOk (Codec.TcpOpts.tryFromSlice d) = true ↔ d.length ≤ 40 := by
  unfold Codec.TcpOpts.tryFromSlice; simp only [isOk_ite, isOk_ok, and_true]; omega

theorem try_from_rejects_with (d : Bytes) (hn : ¬ d.length ≤ 40) :
    Codec.TcpOpts.tryFromSlice d = .error (.other s!"NotEnoughSpace({d.length})") := by
  unfold Codec.TcpOpts.tryFromSlice; rw [if_pos (by omega)]

theorem try_from_encodes_exactly (d : Bytes) (hn : d.length ≤ 40) :
    ∃ o : Codec.TcpOpts, Codec.TcpOpts.tryFromSlice d = .ok o ∧ o.len = (d.length + 3) / 4 * 4 ∧
      o.WF ∧ o.asSlice = d ++ Codec.zeros (o.len - d.length) ∧ o.dataOffset * 4 = 20 + o.len := by
  refine ⟨{ len := (d.length + 3) / 4 * 4, buf := d ++ Codec.zeros (40 - d.length) }, ?_, rfl, ?_, ?_, ?_⟩
  · unfold Codec.TcpOpts.tryFromSlice
    rw [if_neg (by omega)]
    simp only
    rw [padded_len d.length (by omega)]
  · have h1 : d.length ≤ (d.length + 3) / 4 * 4 := by omega
    refine ⟨by show (d.length + 3) / 4 * 4 ≤ 40; omega, by show (d.length + 3) / 4 * 4 % 4 = 0; omega,
      by simp [Codec.zeros]; omega, ?_⟩
    show (d ++ Codec.zeros (40 - d.length)).drop ((d.length + 3) / 4 * 4) = _
    rw [List.drop_append, List.drop_of_length_le h1]
    simp only [Codec.zeros, List.drop_replicate, List.nil_append]
    congr 1; omega
  · have h1 : d.length ≤ (d.length + 3) / 4 * 4 := by omega
    show (d ++ Codec.zeros (40 - d.length)).take ((d.length + 3) / 4 * 4) = _
    rw [List.take_append, List.take_of_length_le h1]
    simp only [Codec.zeros, List.take_replicate]
    congr 2; omega
  · unfold Codec.TcpOpts.dataOffset
    simp only [Nat.shiftRight_eq_div_pow]; omega

theorem byte12_val : ∀ l : Nat, l < 41 → l % 4 = 0 → ∀ ns : Bool,
    ((let value := (((5 + (l >>> 2)) <<< 4) % 256) &&& 0xF0
      if ns then value ||| 1 else value) % 256 / 16) * 4 = 20 + l := by
  decide

/-- the data offset nibble of the serialised header: `(byte12 / 16) * 4 = 20 + options length` -/
theorem data_offset_field (h : Codec.Tcp) (wf : h.WF) : (bAt h.toBytes 12 / 16) * 4 = 20 + h.opts.len := by
  rw [C08Link.Tcp.toBytes_eq h]
  have hb : bAt (Codec.Tcp.fixed h ++ h.opts.buf.take h.opts.len) 12 = h.byte12 % 256 := by
    simp [Codec.Tcp.fixed, enc16, enc32, bAt]
  rw [hb]
  obtain ⟨_, _, _, _, _, _, _, ho1, ho2, _, _⟩ := wf
  have := byte12_val h.opts.len (by omega) ho2 h.ns
  unfold Codec.Tcp.byte12 Codec.TcpOpts.dataOffset
  exact this

theorem set_accepts_iff (h : Codec.Tcp) (d : Bytes) :
    isOk (tcpSetOptionsRaw h d).1 = true ↔ d.length ≤ 40 := by
  unfold tcpSetOptionsRaw
  by_cases hc : d.length ≤ 40
  · obtain ⟨o, ho, _⟩ := try_from_encodes_exactly d hc
    rw [ho]; simp [isOk, hc]
  · rw [try_from_rejects_with d hc]; simp [isOk, hc]

/-- rejected: `NotEnoughSpace(len)`, header unchanged -/
theorem set_rejects_with (h : Codec.Tcp) (d : Bytes) (hn : ¬ d.length ≤ 40) :
    tcpSetOptionsRaw h d = (.error (.other s!"NotEnoughSpace({d.length})"), h) := by
  unfold tcpSetOptionsRaw; rw [try_from_rejects_with d hn]

theorem set_encodes_exactly (h : Codec.Tcp) (wf : h.WF) (d tail : Bytes) (hn : d.length ≤ 40) :
    ∃ o : Codec.TcpOpts, tcpSetOptionsRaw h d = (.ok (), { h with opts := o }) ∧
      let h' : Codec.Tcp := { h with opts := o }
      o.len = (d.length + 3) / 4 * 4 ∧ o.asSlice = d ++ Codec.zeros (o.len - d.length) ∧ h'.WF ∧
        Codec.Tcp.fromSlice (h'.toBytes ++ tail) = .ok (h', tail) ∧
        h'.headerLen = 20 + (d.length + 3) / 4 * 4 ∧
        (bAt h'.toBytes 12 / 16) * 4 = 20 + (d.length + 3) / 4 * 4 := by
  obtain ⟨o, ho, hl, hw, hs, _⟩ := try_from_encodes_exactly d hn
  have wf' : Codec.Tcp.WF { h with opts := o } := by
    obtain ⟨a1, a2, a3, a4, a5, a6, a7, _⟩ := wf
    exact ⟨a1, a2, a3, a4, a5, a6, a7, hw⟩
  refine ⟨o, ?_, hl, hs, wf', C08Link.Tcp.decode_encode _ tail wf', ?_, ?_⟩
  · unfold tcpSetOptionsRaw; rw [ho]
  · show 20 + o.len = _; rw [hl]
  · rw [data_offset_field _ wf']; show 20 + o.len = _; rw [hl]

/-- without the check the rounded-up length does not fit the 4 bit data offset: 41..44 bytes would
    give data offset 16, which `<< 4` on a `u8` turns into 0. -/
theorem wraps_without_check : (((5 + (44 >>> 2)) <<< 4) % 256) &&& 0xF0 = 0 := by decide

end TcpOptionsLen


/-! ## ARP: `ArpPacket::new` / `set_hw_addrs` / `set_protocol_addrs` -/
namespace ArpAddrs

/-- the two address size bytes of the serialised packet -/
theorem size_fields (h : Codec.Arp) (wf : h.WF) :
    bAt h.toBytes 4 = h.shw.length ∧ bAt h.toBytes 5 = h.sp.length := by
  obtain ⟨_, _, _, h4, _, h6, _⟩ := wf
  simp [Codec.Arp.toBytes, Codec.Arp.hwSize, Codec.Arp.protoSize, enc16, bAt]
  omega

theorem packet_len (h : Codec.Arp) (wf : h.WF) : h.headerLen = 8 + 2 * h.shw.length + 2 * h.sp.length := by
  obtain ⟨_, _, _, h4, _, h6, _⟩ := wf
  unfold Codec.Arp.headerLen Codec.Arp.hwSize Codec.Arp.protoSize; omega

/-- acceptance condition of `ArpPacket::new` -/
def Fits (shw sp thw tp : Bytes) : Prop :=
  shw.length = thw.length ∧ sp.length = tp.length ∧ shw.length ≤ 255 ∧ sp.length ≤ 255
instance (shw sp thw tp : Bytes) : Decidable (Fits shw sp thw tp) := by unfold Fits; infer_instance

theorem new_accepts_iff (hw proto op : Nat) (shw sp thw tp : Bytes) :
    isOk (Codec.Arp.new hw proto op shw sp thw tp) = true ↔ Fits shw sp thw tp := by
  unfold Codec.Arp.new Fits
  split
  · simp [isOk]; omega
  · split
    · simp [isOk]; omega
    · split
      · simp [isOk]; omega
      · simp only [isOk_ite, isOk_ok, and_true]; omega

/-- rejected: the error names the first violated rule with the offending length(s) -/
theorem new_rejects_with (hw proto op : Nat) (shw sp thw tp : Bytes) (hn : ¬ Fits shw sp thw tp) :
    Codec.Arp.new hw proto op shw sp thw tp = .error (.other (
      if shw.length ≠ thw.length then s!"arpnew(HwAddr(LenNonMatching({shw.length},{thw.length})))"
      else if sp.length ≠ tp.length then s!"arpnew(ProtoAddr(LenNonMatching({sp.length},{tp.length})))"
      else if shw.length > 255 then s!"arpnew(HwAddr(LenTooBig({shw.length})))"
      else s!"arpnew(ProtoAddr(LenTooBig({sp.length})))")) := by
  unfold Codec.Arp.new Fits at *
  split
  · rfl
  · split
    · rfl
    · split
      · rfl
      · rw [if_pos (by omega)]

theorem new_encodes_exactly (hw proto op : Nat) (shw sp thw tp : Bytes) (h : Codec.Arp)
    (hhw : hw < 65536) (hproto : proto < 65536) (hop : op < 65536)
    (hok : Codec.Arp.new hw proto op shw sp thw tp = .ok h) :
    h = { hw := hw, proto := proto, op := op, shw := shw, sp := sp, thw := thw, tp := tp } ∧ h.WF ∧
      bAt h.toBytes 4 = shw.length ∧ bAt h.toBytes 5 = sp.length ∧
      h.headerLen = 8 + 2 * shw.length + 2 * sp.length := by
  have hacc := (new_accepts_iff hw proto op shw sp thw tp).1 (by rw [hok]; rfl)
  unfold Fits at hacc
  unfold Codec.Arp.new at hok
  rw [if_neg (by omega), if_neg (by omega), if_neg (by omega), if_neg (by omega)] at hok
  injection hok with hok
  have wf : h.WF := by
    subst hok; exact ⟨hhw, hproto, hop, hacc.2.2.1, hacc.1.symm, hacc.2.2.2, hacc.2.1.symm⟩
  have e1 : h.shw = shw := by subst hok; rfl
  have e2 : h.sp = sp := by subst hok; rfl
  have hs := size_fields h wf
  exact ⟨hok.symm, wf, by rw [hs.1, e1], by rw [hs.2, e2], by rw [packet_len h wf, e1, e2]⟩

theorem set_hw_accepts_iff (h : Codec.Arp) (s t : Bytes) :
    isOk (arpSetHwAddrs h s t).1 = true ↔ s.length = t.length ∧ s.length ≤ 255 := by
  unfold arpSetHwAddrs
  split
  · simp [isOk]; omega
  · simp only [isOk_ite_fst, isOk_ok, and_true]; omega

theorem set_hw_rejects_with (h : Codec.Arp) (s t : Bytes) (hn : ¬ (s.length = t.length ∧ s.length ≤ 255)) :
    arpSetHwAddrs h s t =
      (.error (if s.length ≠ t.length then .lenNonMatching s.length t.length else .lenTooBig s.length), h) := by
  unfold arpSetHwAddrs
  split
  · rfl
  · rw [if_pos (by omega)]

theorem set_hw_encodes_exactly (h : Codec.Arp) (wf : h.WF) (s t : Bytes)
    (hn : s.length = t.length ∧ s.length ≤ 255) :
    arpSetHwAddrs h s t = (.ok (), { h with shw := s, thw := t }) ∧
      let h' : Codec.Arp := { h with shw := s, thw := t }
      h'.WF ∧ bAt h'.toBytes 4 = s.length ∧ bAt h'.toBytes 5 = h.sp.length ∧
        h'.headerLen = 8 + 2 * s.length + 2 * h.sp.length := by
  have wf' : Codec.Arp.WF { h with shw := s, thw := t } := by
    obtain ⟨a1, a2, a3, _, _, a6, a7⟩ := wf
    exact ⟨a1, a2, a3, hn.2, hn.1.symm, a6, a7⟩
  have hs := size_fields _ wf'
  refine ⟨?_, wf', hs.1, hs.2, packet_len _ wf'⟩
  unfold arpSetHwAddrs
  rw [if_neg (by omega), if_neg (by omega)]

theorem set_proto_accepts_iff (h : Codec.Arp) (s t : Bytes) :
    isOk (arpSetProtocolAddrs h s t).1 = true ↔ s.length = t.length ∧ s.length ≤ 255 := by
  unfold arpSetProtocolAddrs
  split
  · simp [isOk]; omega
  · simp only [isOk_ite_fst, isOk_ok, and_true]; omega

theorem set_proto_rejects_with (h : Codec.Arp) (s t : Bytes)
    (hn : ¬ (s.length = t.length ∧ s.length ≤ 255)) :
    arpSetProtocolAddrs h s t =
      (.error (if s.length ≠ t.length then .lenNonMatching s.length t.length else .lenTooBig s.length), h) := by
  unfold arpSetProtocolAddrs
  split
  · rfl
  · rw [if_pos (by omega)]

theorem set_proto_encodes_exactly (h : Codec.Arp) (wf : h.WF) (s t : Bytes)
    (hn : s.length = t.length ∧ s.length ≤ 255) :
    arpSetProtocolAddrs h s t = (.ok (), { h with sp := s, tp := t }) ∧
      let h' : Codec.Arp := { h with sp := s, tp := t }
      h'.WF ∧ bAt h'.toBytes 4 = h.shw.length ∧ bAt h'.toBytes 5 = s.length ∧
        h'.headerLen = 8 + 2 * h.shw.length + 2 * s.length := by
  have wf' : Codec.Arp.WF { h with sp := s, tp := t } := by
    obtain ⟨a1, a2, a3, a4, a5, _, _⟩ := wf
    exact ⟨a1, a2, a3, a4, a5, hn.2, hn.1.symm⟩
  have hs := size_fields _ wf'
  refine ⟨?_, wf', hs.1, hs.2, packet_len _ wf'⟩
  unfold arpSetProtocolAddrs
  rw [if_neg (by omega), if_neg (by omega)]

/-- without the check `len as u8` truncates: 256 address bytes would be stored as size 0. -/
theorem wraps_without_check : 256 % 256 = 0 ∧ 261 % 256 = 5 := by decide

end ArpAddrs


/-! ## the overhead of an IPv6 extension chain built from in-range headers is at most 9228 bytes,
    so `e.headerLen ≤ 65535` (hypothesis of `v6_value_type_in_domain`) holds for every chain the
    public API can build -/
namespace Ipv6ExtsLen

def optWF {α : Type} (p : α → Prop) : Option α → Prop
  | none => True
  | some a => p a

/-- every present header is in range -/
def WF (e : Ipv6Exts) : Prop :=
  optWF Ipv6RawExtHeader.WF e.hopByHop ∧ optWF Ipv6RawExtHeader.WF e.destOpts ∧
  optWF (fun rf : Ipv6RawExtHeader × Option Ipv6RawExtHeader => rf.1.WF ∧ optWF Ipv6RawExtHeader.WF rf.2) e.routing ∧
  optWF IpAuthHeader.WF e.auth

theorem rawExt_headerLen_le (h : Ipv6RawExtHeader) (wf : h.WF) : h.headerLen ≤ 2048 := by
  rw [Lemmas.CodecNet.RawExt.headerLen_eq h wf]; have := wf.2.2.1; omega

theorem auth_headerLen_le (h : IpAuthHeader) (wf : h.WF) : h.headerLen ≤ 1028 := by
  rw [Lemmas.CodecNet.Auth.headerLen_eq h wf]; have := wf.2.2.2.1; omega

theorem headerLen_le (e : Ipv6Exts) (wf : WF e) : e.headerLen ≤ 9228 := by
  obtain ⟨hbh, dst, rt, frag, auth⟩ := e
  obtain ⟨w1, w2, w3, w4⟩ := wf
  -- the accumulating `if let Some(h) = … { result += h.header_len() }` chain, one header taken
  -- off at a time, from the last
  have h5 : Ipv6Exts.headerLen ⟨hbh, dst, rt, frag, auth⟩ ≤
      Ipv6Exts.headerLen ⟨hbh, dst, rt, frag, none⟩ + 1028 := by
    cases auth with
    | none => exact Nat.le_add_right _ _
    | some a => exact Nat.add_le_add_left (auth_headerLen_le a w4) _
  have h4 : Ipv6Exts.headerLen ⟨hbh, dst, rt, frag, none⟩ ≤
      Ipv6Exts.headerLen ⟨hbh, dst, rt, none, none⟩ + 8 := by
    cases frag with
    | none => exact Nat.le_add_right _ _
    | some f => exact Nat.le_refl _
  have h3 : Ipv6Exts.headerLen ⟨hbh, dst, rt, none, none⟩ ≤
      Ipv6Exts.headerLen ⟨hbh, dst, none, none, none⟩ + 4096 := by
    rcases rt with _ | ⟨r, _ | f⟩
    · exact Nat.le_add_right _ _
    · exact Nat.add_le_add_left (Nat.le_trans (rawExt_headerLen_le r w3.1) (by decide)) _
    · exact Nat.le_trans (Nat.le_of_eq (Nat.add_assoc _ _ _)) (Nat.add_le_add_left
        (Nat.add_le_add (rawExt_headerLen_le r w3.1) (rawExt_headerLen_le f w3.2)) _)
  have h2 : Ipv6Exts.headerLen ⟨hbh, dst, none, none, none⟩ ≤
      Ipv6Exts.headerLen ⟨hbh, none, none, none, none⟩ + 2048 := by
    cases dst with
    | none => exact Nat.le_add_right _ _
    | some d => exact Nat.add_le_add_left (rawExt_headerLen_le d w2) _
  have h1 : Ipv6Exts.headerLen ⟨hbh, none, none, none, none⟩ ≤ 0 + 2048 := by
    cases hbh with
    | none => exact Nat.le_add_right _ _
    | some h => exact Nat.add_le_add_left (rawExt_headerLen_le h w1) _
  omega

end Ipv6ExtsLen

/-- `v6_value_type_in_domain` for every chain of in-range extension headers -/
theorem IpHeadersSetPayloadLen.v6_value_type_in_domain_wf (h : Ipv6Header) (e : Ipv6Exts) (n : Nat)
    (err : TooBig) (hn : n ≤ 2 ^ 32) (we : Ipv6ExtsLen.WF e)
    (hr : (ipHeadersSetPayloadLen (.v6 h e) n).1 = .error err) :
    err = { actual := n + e.headerLen, maxAllowed := 65535, vt := .ipv6PayloadLength } ∧
      (ipHeadersSetPayloadLen (.v6 h e) n).2 = .v6 h e :=
  IpHeadersSetPayloadLen.v6_value_type_in_domain h e n err hn
    (by have := Ipv6ExtsLen.headerLen_le e we; omega) hr


/-- the checksum field of the serialised ICMPv6 header is the stored checksum -/
theorem icmp6_checksum_field (h : Codec.Icmp6) (hck : h.ck < 65536) : be16 h.toBytes 2 = h.ck := by
  -- both closures of `to_bytes` put the checksum into bytes 2–3
  have closure : ∀ (t c : Nat) (x : Bytes), be16 (([u8 t, u8 c] ++ enc16 h.ck ++ x).take 8) 2 = h.ck := by
    intro t c x
    rw [Lemmas.Codec.be16_take _ _ _ (by decide)]
    simp only [List.cons_append, List.nil_append, Lemmas.Codec.be16_cons_succ,
      Lemmas.Codec.be16_enc16 _ _ hck]
  have h0 : ∀ t c, be16 (Codec.Icmp6.returnTrivial h.ck t c) 2 = h.ck := fun t c => closure t c _
  have h4 : ∀ t c x, be16 (Codec.Icmp6.return4u8 h.ck t c x) 2 = h.ck := fun t c x => by
    unfold Codec.Icmp6.return4u8; rw [List.append_assoc]; exact closure t c _
  unfold Codec.Icmp6.toBytes
  split <;> simp only [h0, h4]

theorem icmp6_with_checksum_field (t : Codec.Icmp6Type) (src dst payload : Bytes) (h : Codec.Icmp6)
    (hok : icmp6WithChecksum t src dst payload = .ok h) :
    icmp6CalcChecksum t src dst payload = .ok (be16 h.toBytes 2) := by
  have hh := (Icmp6CalcChecksum.with_checksum_iff t src dst payload).2 h hok
  have hlt : h.ck < 65536 := by
    have := hh.2
    unfold icmp6CalcChecksum at this
    simp only at this
    split at this
    · cases this
    · injection this with this; rw [← this]; exact swap16_lt _
  rw [icmp6_checksum_field h hlt]; exact hh.2

/-! ## Non-vacuity: concrete values at the limit (accepted, encoded exactly) and one above
    (rejected with the stated values), and the hypotheses of the theorems are satisfiable. -/
section Examples
open EpModel.Codec

-- Ipv4Header::new: 65515 accepted, 65516 rejected
example : (ipv4New 65515 64 17 [1, 2, 3, 4] [5, 6, 7, 8]).map (·.totalLen) = .ok 65535 := by rfl
example : ipv4New 65516 64 17 [1, 2, 3, 4] [5, 6, 7, 8] =
    .error { actual := 65516, maxAllowed := 65515, vt := .ipv4PayloadLength } := by rfl
-- Ipv4Header::set_payload_len on a header with 40 option bytes (header_len 60): limit 65475
example : Ipv4Header.sampleMax.WF := by decide
example : ipv4MaxPayloadLen Ipv4Header.sampleMax = 65475 := by rfl
example : (ipv4SetPayloadLen { Ipv4Header.sampleMax with totalLen := 7 } 65475).2.totalLen = 65535 := by rfl
example : be16 (ipv4SetPayloadLen { Ipv4Header.sampleMax with totalLen := 7 } 65475).2.toBytes 2 = 65535 := by
  rfl
example : ipv4SetPayloadLen Ipv4Header.sampleMax 65476 =
    (.error { actual := 65476, maxAllowed := 65475, vt := .ipv4PayloadLength }, Ipv4Header.sampleMax) := by rfl
-- Ipv6Header::set_payload_length
example : Ipv6Header.sampleMax.WF := by decide
example : (ipv6SetPayloadLength { Ipv6Header.sampleMax with payloadLength := 0 } 65535).2.payloadLength = 65535 := by
  rfl
example : (ipv6SetPayloadLength Ipv6Header.sampleMax 65536).1 =
    .error { actual := 65536, maxAllowed := 65535, vt := .ipv6PayloadLength } := by rfl
-- IpHeaders::set_payload_len with an authentication header of 12 + 8 bytes behind a 20 byte IPv4 header
def exAuth : IpAuthHeader := { nextHeader := 6, spi := 1, sequenceNumber := 2, rawIcv := [1, 2, 3, 4, 5, 6, 7, 8] }
def exV4 : Ipv4Header := { Ipv4Header.sampleMax with options := [], protocol := 51, totalLen := 0 }
example : exV4.WF ∧ exAuth.WF := by decide
example : (ipHeadersSetPayloadLen (.v4 exV4 { auth := some exAuth }) 65495).1 = .ok () := by rfl
example : (ipHeadersSetPayloadLen (.v4 exV4 { auth := some exAuth }) 65496).1 =
    .error { actual := 65516, maxAllowed := 65515, vt := .ipv4PayloadLength } := by rfl
def exExts : Ipv6Exts :=
  { hopByHop := some { nextHeader := 60, payload := [1, 2, 3, 4, 5, 6] }, destOpts := none, routing := none,
    fragment := none, auth := some exAuth }
example : exExts.headerLen = 28 := by rfl
example : Ipv6ExtsLen.WF exExts :=
  ⟨by show Ipv6RawExtHeader.WF _; decide, trivial, trivial, by show IpAuthHeader.WF _; decide⟩
example : (ipHeadersSetPayloadLen (.v6 Ipv6Header.sampleMax exExts) 65507).1 = .ok () := by rfl
example : (ipHeadersSetPayloadLen (.v6 Ipv6Header.sampleMax exExts) 65508).1 =
    .error { actual := 65536, maxAllowed := 65535, vt := .ipv6PayloadLength } := by rfl
-- the `usize` overflow branch of the IPv6 arm names the IPv4 value type (outside the quantified domain)
example : (ipHeadersSetPayloadLen (.v6 Ipv6Header.sampleMax exExts) usizeMax).1 =
    .error { actual := usizeMax, maxAllowed := 65507, vt := .ipv4PayloadLength } := by rfl
example : udpWithoutIpv4Checksum 1 2 65527 = .ok { sp := 1, dp := 2, len := 65535, ck := 0 } := by rfl
example : udpWithoutIpv4Checksum 1 2 65528 =
    .error { actual := 65528, maxAllowed := 65527, vt := .udpPayloadLengthIpv4 } := by rfl
example : macsecFromLen 63 = 63 ∧ macsecFromLen 64 = 0 := by decide
example : (macsecSetPayloadLen Macsec.sampleMax 61).sl = 63 ∧ (macsecSetPayloadLen Macsec.sampleMax 62).sl = 0 := by
  decide
example : (macsecSetPayloadLen Macsec.sampleEnc 63).sl = 63 ∧ (macsecSetPayloadLen Macsec.sampleEnc 64).sl = 0 := by
  decide
example : macsecExpectedPayloadLen (macsecSetPayloadLen Macsec.sampleMax 61) = some 61 := by decide
-- AH: 1016 accepted, 1020 too big, 1014 unaligned
example : isOk (IpAuthHeader.new 6 1 2 (List.replicate 1016 7)) = true := by
  rw [AuthIcv.new_accepts_iff, List.length_replicate]; omega
example : IpAuthHeader.new 6 1 2 (List.replicate 1020 7) = .error (.tooBig 1020) := by
  rw [AuthIcv.new_rejects_with _ _ _ _ (by rw [List.length_replicate]; omega), List.length_replicate]; rfl
example : IpAuthHeader.new 6 1 2 (List.replicate 1014 7) = .error (.unaligned 1014) := by
  rw [AuthIcv.new_rejects_with _ _ _ _ (by rw [List.length_replicate]; omega), List.length_replicate]; rfl
-- raw extension header: 2046 accepted, 2054 too big, 2047 unaligned, 5 too small
example : RawExtPayload.Fits 2046 ∧ ¬ RawExtPayload.Fits 2054 ∧ ¬ RawExtPayload.Fits 2047 ∧
    ¬ RawExtPayload.Fits 5 ∧ RawExtPayload.Fits 6 := by decide
example : RawExtPayload.rejection 2054 = .tooBig 2054 ∧ RawExtPayload.rejection 2045 = .unaligned 2045 ∧
    RawExtPayload.rejection 5 = .tooSmall 5 := by decide
example : isOk (Ipv4Options.tryFrom (List.replicate 40 1)) = true ∧
    Ipv4Options.tryFrom (List.replicate 44 1) = .error 44 ∧
    Ipv4Options.tryFrom (List.replicate 38 1) = .error 38 := ⟨rfl, rfl, rfl⟩
example : (TcpOpts.tryFromSlice (List.replicate 40 1)).map (·.len) = .ok 40 ∧
    (TcpOpts.tryFromSlice (List.replicate 37 1)).map (·.len) = .ok 40 ∧
    isOk (TcpOpts.tryFromSlice (List.replicate 41 1)) = false := ⟨rfl, rfl, rfl⟩
example : Tcp.sampleMax.WF := by decide
example : isOk (Arp.new 1 2048 1 (List.replicate 255 1) [1] (List.replicate 255 2) [2]) = true := by
  rw [ArpAddrs.new_accepts_iff]; unfold ArpAddrs.Fits
  simp only [List.length_replicate, List.length_cons, List.length_nil]; decide
example : isOk (Arp.new 1 2048 1 (List.replicate 256 1) [1] (List.replicate 256 2) [2]) = false := by
  have h := ArpAddrs.new_accepts_iff 1 2048 1 (List.replicate 256 1) [1] (List.replicate 256 2) [2]
  unfold ArpAddrs.Fits at h
  simp only [List.length_replicate, List.length_cons, List.length_nil] at h
  cases hr : isOk (Arp.new 1 2048 1 (List.replicate 256 1) [1] (List.replicate 256 2) [2])
  · rfl
  · have := h.1 hr; omega

end Examples

end EpModel.Props.C14
