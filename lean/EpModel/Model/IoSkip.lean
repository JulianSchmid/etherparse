import EpModel.Lemmas.Io
/-
  Reader-side skipping of IPv6 extension headers (C16, ops `io.skip.*`), following
  etherparse/src/net/ipv6_header.rs as written:

    Ipv6Header::is_skippable_header_extension
    Ipv6Header::skip_header_extension        (Read + Seek)
    Ipv6Header::skip_all_header_extensions   (Read + Seek)

  The reader is the failing reader of Model/Io.lean (`data`, `pos`, `failAt`) with the `Seek` of
  `std::io::Cursor`: `SeekFrom::Current(n)` just moves the position, also past the end of the data,
  and reports no error (every offset the code passes is positive: `rest_length - 1 ≥ 5`).  A
  `read_exact` at or behind the point where the reader fails / the data ends returns the injected
  error / `UnexpectedEof` (`Reader.readExact`); this is the only way the code notices that the
  skipped header was not completely there, hence the final one byte read.
-/
namespace EpModel.Io.Skip
open EpModel EpModel.Io

/-- `seek(SeekFrom::Current(n))` with `n ≥ 0` on a cursor-like reader: never an error, the position
    may end up behind the data. -/
def seekCur (r : Reader) (n : Nat) : Reader := { data := r.data, pos := r.pos + n, failAt := r.failAt }

/-- the three arms of the `match next_header` in `skip_header_extension` -/
inductive Kind where
  /-- `IPV6_FRAG`: one byte read, `rest_length = 7` -/
  | frag
  /-- `AUTH`: two bytes read, `rest_length = buf[1] * 4 + 6` -/
  | auth
  /-- `IPV6_HOP_BY_HOP | IPV6_ROUTE | IPV6_DEST_OPTIONS | MOBILITY | HIP | SHIM6`: two bytes read,
      `rest_length = buf[1] * 8 + 6` -/
  | generic
deriving DecidableEq, Repr

/-- which arm an ip number selects (`none`: the `_ => return Ok(next_header)` arm) -/
def kindOf (nh : Nat) : Option Kind :=
  if nh = 44 then some .frag
  else if nh = 51 then some .auth
  else if nh = 0 ∨ nh = 43 ∨ nh = 60 ∨ nh = 135 ∨ nh = 139 ∨ nh = 140 then some .generic
  else none

/-- `Ipv6Header::is_skippable_header_extension` (a separate `matches!` in the code) -/
def isSkippable (nh : Nat) : Prop :=
  nh = 0 ∨ nh = 43 ∨ nh = 44 ∨ nh = 51 ∨ nh = 60 ∨ nh = 135 ∨ nh = 139 ∨ nh = 140
instance (nh : Nat) : Decidable (isSkippable nh) := by unfold isSkippable; infer_instance

/-- size of the first `read_exact` of an arm -/
def Kind.firstRead : Kind → Nat
  | .frag => 1
  | _ => 2

/-- `rest_length` of an arm, from the bytes of the first read -/
def Kind.restLength (k : Kind) (buf : Bytes) : Nat :=
  match k with
  | .frag => 7
  | .auth => bAt buf 1 * 4 + 6
  | .generic => bAt buf 1 * 8 + 6

/-- `Ipv6Header::skip_header_extension(reader, next_header)`: first read (`?`), seek to one byte
    before the end of the header, one byte read (`?`), `Ok(IpNumber(buf[0]))`. -/
def skipHeaderExtension (r : Reader) (nh : Nat) : Reader × Except IoError Nat :=
  match kindOf nh with
  | none => (r, .ok nh)
  | some kind =>
    match r.readExact kind.firstRead with
    | (r1, .error e) => (r1, .error e)
    | (r1, .ok buf) =>
      match (seekCur r1 (kind.restLength buf - 1)).readExact 1 with
      | (r3, .error e) => (r3, .error e)
      | (r3, .ok _) => (r3, .ok (bAt buf 0))

/-- the `matches!` of `is_skippable_header_extension` lists the ip numbers of the three arms -/
theorem isSkippable_iff_arms (nh : Nat) :
    isSkippable nh ↔ nh = 44 ∨ nh = 51 ∨ (nh = 0 ∨ nh = 43 ∨ nh = 60 ∨ nh = 135 ∨ nh = 139 ∨ nh = 140) := by
  unfold isSkippable
  constructor
  · rintro (h | h | h | h | h | h | h | h) <;> simp [h]
  · rintro (h | h | h | h | h | h | h | h) <;> simp [h]

theorem kindOf_eq_none {nh : Nat} : kindOf nh = none ↔ ¬ isSkippable nh := by
  rw [isSkippable_iff_arms]
  unfold kindOf
  split
  · exact iff_of_false nofun (fun h => h (Or.inl ‹_›))
  · split
    · exact iff_of_false nofun (fun h => h (Or.inr (Or.inl ‹_›)))
    · split
      · exact iff_of_false nofun (fun h => h (Or.inr (Or.inr ‹_›)))
      · exact iff_of_true rfl (fun h => h.elim ‹_› (fun h => h.elim ‹_› ‹_›))

theorem Kind.firstRead_ne_zero (k : Kind) : k.firstRead ≠ 0 := by
  cases k <;> exact Nat.succ_ne_zero _

/-- a successful skip of a skippable header moves the reader forward and leaves it inside the
    bytes the reader can hand out (the last byte of the header was really read). -/
theorem skip_progress (r : Reader) (nh : Nat) (hs : isSkippable nh) (r' : Reader) (next : Nat)
    (h : skipHeaderExtension r nh = (r', .ok next)) :
    r'.limit = r.limit ∧ r.pos < r'.pos ∧ r'.pos ≤ r'.limit := by
  unfold skipHeaderExtension at h
  cases hk : kindOf nh with
  | none => exact absurd hs (kindOf_eq_none.1 hk)
  | some kind =>
    rw [hk] at h
    simp only at h
    cases h1 : r.readExact kind.firstRead with
    | mk r1 res1 =>
      rw [h1] at h
      cases res1 with
      | error e => cases h
      | ok buf =>
        simp only at h
        cases h3 : (seekCur r1 (kind.restLength buf - 1)).readExact 1 with
        | mk r3 res3 =>
          rw [h3] at h
          cases res3 with
          | error e => cases h
          | ok b =>
            cases h
            obtain ⟨l1, p1, _⟩ := Lemmas.Io.readExact_ok_inv h1
            obtain ⟨l3, p3, q3⟩ := Lemmas.Io.readExact_ok_inv h3
            refine ⟨l3.trans l1, ?_, q3 (Or.inl Nat.one_ne_zero)⟩
            rw [p3, show (seekCur r1 (kind.restLength buf - 1)).pos = r1.pos + _ from rfl, p1]
            omega

/-- `Ipv6Header::skip_all_header_extensions(reader, next_header)`: the `loop`.  It terminates
    because every successful skip moves the reader forward inside what the reader can hand out. -/
def skipAll (r : Reader) (nh : Nat) : Reader × Except IoError Nat :=
  if _hs : isSkippable nh then
    match _hr : skipHeaderExtension r nh with
    | (r', .error e) => (r', .error e)
    | (r', .ok next) => skipAll r' next
  else (r, .ok nh)
termination_by r.limit - r.pos
decreasing_by
  have := skip_progress r nh _hs r' next _hr
  omega

/-! ## a reader whose `seek` can fail

  `Seek::seek` returns `io::Result<u64>`, and both functions propagate its error with `?`
  (`reader.seek(std::io::SeekFrom::Current(rest_length - 1))?;`).  The reader below counts its
  `seek` calls; the call with index `seekFail` (0-based, over the whole run) returns an error and
  leaves the position where it was, every other call behaves like `seekCur`.  The functions are
  written again call by call (read, seek, read), now with an error type that tells the two kinds
  of failure apart; with `seekFail = none` they are provably the plain functions above
  (`Props/C16.lean`). -/

/-- errors of the skip functions over a reader whose seek can fail -/
inductive SkipError where
  /-- an error of a `read_exact` (`?` behind the first or the last read) -/
  | io (e : IoError)
  /-- the injected error of the failing `seek` (`?` behind the seek) -/
  | seek
deriving DecidableEq, Repr

def SkipError.render : SkipError → String
  | .io e => e.render
  | .seek => "err(seek)"

/-- the failing reader with a `Seek` that counts its calls (`seeks`) and fails at the call with
    index `seekFail`. -/
structure SReader where
  rd : Reader
  /-- number of `seek` calls made so far -/
  seeks : Nat
  /-- the 0-based index of the `seek` call that fails (`none`: no call fails) -/
  seekFail : Option Nat
deriving DecidableEq, Repr

/-- `seek(SeekFrom::Current(n))`, `n ≥ 0`: the call is counted; the failing call reports the error
    and does not move; any other call moves like `seekCur`. -/
def SReader.seekCur (s : SReader) (n : Nat) : SReader × Except SkipError Unit :=
  if s.seekFail = some s.seeks then
    ({ rd := s.rd, seeks := s.seeks + 1, seekFail := s.seekFail }, .error .seek)
  else ({ rd := Skip.seekCur s.rd n, seeks := s.seeks + 1, seekFail := s.seekFail }, .ok ())

/-- a `read_exact(..)?` on the inner reader -/
def SReader.readExact (s : SReader) (n : Nat) : SReader × Except SkipError Bytes :=
  match s.rd.readExact n with
  | (r, .error e) => ({ rd := r, seeks := s.seeks, seekFail := s.seekFail }, .error (.io e))
  | (r, .ok b) => ({ rd := r, seeks := s.seeks, seekFail := s.seekFail }, .ok b)

/-- `Ipv6Header::skip_header_extension(reader, next_header)` call by call: first read (`?`),
    seek (`?`), one byte read (`?`), `Ok(IpNumber(buf[0]))`. -/
def skipExtSf (s : SReader) (nh : Nat) : SReader × Except SkipError Nat :=
  match kindOf nh with
  | none => (s, .ok nh)
  | some kind =>
    match s.readExact kind.firstRead with
    | (s1, .error e) => (s1, .error e)
    | (s1, .ok buf) =>
      match s1.seekCur (kind.restLength buf - 1) with
      | (s2, .error e) => (s2, .error e)
      | (s2, .ok ()) =>
        match s2.readExact 1 with
        | (s3, .error e) => (s3, .error e)
        | (s3, .ok _) => (s3, .ok (bAt buf 0))

/-- forgetting the seek counter: an `Ok` of `skipExtSf` is an `Ok` of `skipHeaderExtension` on the
    inner reader (used for the termination of the loop). -/
theorem skipExtSf_ok (s : SReader) (nh : Nat) (s' : SReader) (next : Nat)
    (h : skipExtSf s nh = (s', .ok next)) :
    skipHeaderExtension s.rd nh = (s'.rd, .ok next) := by
  unfold skipExtSf at h
  unfold skipHeaderExtension
  cases hk : kindOf nh with
  | none =>
    rw [hk] at h
    cases h
    rfl
  | some kind =>
    rw [hk] at h
    simp only [SReader.readExact, SReader.seekCur] at h ⊢
    cases h1 : s.rd.readExact kind.firstRead with
    | mk r1 res1 =>
      rw [h1] at h
      cases res1 with
      | error e => simp at h
      | ok buf =>
        simp only at h ⊢
        by_cases hf : s.seekFail = some s.seeks
        · simp [hf] at h
        · simp only [hf, if_false] at h
          cases h3 : (seekCur r1 (kind.restLength buf - 1)).readExact 1 with
          | mk r3 res3 =>
            rw [h3] at h
            cases res3 with
            | error e => simp at h
            | ok b =>
              cases h
              rfl

/-- `Ipv6Header::skip_all_header_extensions(reader, next_header)`: the `loop`, every error of
    `skip_header_extension` leaves it (`?`). -/
def skipAllSf (s : SReader) (nh : Nat) : SReader × Except SkipError Nat :=
  if _hs : isSkippable nh then
    match _hr : skipExtSf s nh with
    | (s', .error e) => (s', .error e)
    | (s', .ok next) => skipAllSf s' next
  else (s, .ok nh)
termination_by s.rd.limit - s.rd.pos
decreasing_by
  have := skip_progress s.rd nh _hs s'.rd next (skipExtSf_ok s nh s' next _hr)
  omega

end EpModel.Io.Skip
