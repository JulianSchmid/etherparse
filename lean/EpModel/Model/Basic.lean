/-
  Basic byte-string utilities shared by the model, the spec and the driver.
  Core Lean only (no Mathlib / Batteries imports) so that the driver links as a native executable.
-/
namespace EpModel

abbrev Bytes := List UInt8

/-- value of byte `i` of `b` as a natural number; 0 when out of range (every use in the model is
    guarded by an explicit length check; theorems stated for all `b` without a length hypothesis,
    as the bit-layout ones of C15, read this 0 behind the end). -/
def bAt (b : Bytes) (i : Nat) : Nat := (b.getD i 0).toNat

theorem bAt_lt (b : Bytes) (i : Nat) : bAt b i < 256 := UInt8.toNat_lt _

/-- big endian 16 bit value at offset `i`. -/
def be16 (b : Bytes) (i : Nat) : Nat := bAt b i * 256 + bAt b (i + 1)
/-- big endian 32 bit value at offset `i`. -/
def be32 (b : Bytes) (i : Nat) : Nat :=
  bAt b i * 16777216 + bAt b (i + 1) * 65536 + bAt b (i + 2) * 256 + bAt b (i + 3)

theorem be16_lt (b : Bytes) (i : Nat) : be16 b i < 65536 := by
  unfold be16; have := bAt_lt b i; have := bAt_lt b (i+1); omega

theorem be32_lt (b : Bytes) (i : Nat) : be32 b i < 4294967296 := by
  unfold be32
  have := bAt_lt b i; have := bAt_lt b (i+1); have := bAt_lt b (i+2); have := bAt_lt b (i+3); omega

/-- a byte from a natural number (the `as u8` cast: truncation is explicit). -/
def u8 (n : Nat) : UInt8 := UInt8.ofNat (n % 256)

@[simp] theorem u8_toNat (n : Nat) : (u8 n).toNat = n % 256 := by
  unfold u8; simp

/-- big endian encoding of a 16 bit value (`to_be_bytes` after an `as u16` cast). -/
def enc16 (n : Nat) : Bytes := [u8 (n / 256), u8 n]
/-- big endian encoding of a 32 bit value. -/
def enc32 (n : Nat) : Bytes := [u8 (n / 16777216), u8 (n / 65536), u8 (n / 256), u8 n]

@[simp] theorem enc16_length (n : Nat) : (enc16 n).length = 2 := rfl
@[simp] theorem enc32_length (n : Nat) : (enc32 n).length = 4 := rfl

/-- sub-slice `[o, o+l)`. Callers check `o + l ≤ b.length` first. -/
def sub (b : Bytes) (o l : Nat) : Bytes := (b.drop o).take l

theorem sub_length (b : Bytes) (o l : Nat) (h : o + l ≤ b.length) : (sub b o l).length = l := by
  unfold sub; simp; omega

/-! ### Hex encoding used by the line protocol -/

def hexDigit (n : Nat) : Char :=
  if n < 10 then Char.ofNat (48 + n) else Char.ofNat (87 + n)

def hexOfBytes (b : Bytes) : String :=
  if b.isEmpty then "-" else
  String.ofList (b.foldr (fun x acc => hexDigit (x.toNat / 16) :: hexDigit (x.toNat % 16) :: acc) [])

def hexVal (c : Char) : Option Nat :=
  if '0' ≤ c ∧ c ≤ '9' then some (c.toNat - 48)
  else if 'a' ≤ c ∧ c ≤ 'f' then some (c.toNat - 87)
  else if 'A' ≤ c ∧ c ≤ 'F' then some (c.toNat - 55)
  else none

def bytesOfHexChars : List Char → Option Bytes
  | [] => some []
  | [_] => none
  | a :: b :: rest =>
    match hexVal a, hexVal b, bytesOfHexChars rest with
    | some x, some y, some r => some (UInt8.ofNat (x * 16 + y) :: r)
    | _, _, _ => none

def bytesOfHex (s : String) : Option Bytes :=
  if s == "-" then some [] else bytesOfHexChars s.toList

end EpModel
