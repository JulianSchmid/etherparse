import EpModel.Model.Basic
/-
  Model of the TCP option codec of etherparse:
    transport/tcp_options.rs            TcpOptions::try_from_elements, try_from_slice, as_slice
    transport/tcp_options_iterator.rs   TcpOptionsIterator::next
    transport/tcp_option_element.rs     TcpOptionElement
    transport/tcp_option_read_error.rs / tcp_option_write_error.rs
  (TcpHeader::set_options / set_options_raw / options_iterator only forward to these.)

  Values of the elements (u16 / u8 / u32 in Rust) are `Nat`; the range facts are the explicit
  well-formedness predicate `Elem.WF` used as hypothesis where it matters.  Core Lean only.
-/
namespace EpModel.TcpOptions
open EpModel

/-- a SACK block `(left edge, right edge)`, both u32 in the crate. -/
abbrev Pair := Nat × Nat

/-- `TcpOptionElement`. The three optional blocks of `SelectiveAcknowledgement` are the array
    `[Option<(u32,u32)>; 3]`. -/
inductive Elem where
  | noop
  | mss (v : Nat)
  | ws (v : Nat)
  | sackPerm
  | sack (first : Pair) (r0 r1 r2 : Option Pair)
  | ts (a b : Nat)
  deriving DecidableEq, Repr, Inhabited

/-- `TcpOptionWriteError`. -/
inductive WriteErr where
  | notEnoughSpace (required : Nat)
  deriving DecidableEq, Repr

/-- `TcpOptionReadError`. -/
inductive ReadErr where
  /-- `UnexpectedEndOfSlice{option_id, expected_len, actual_len}` -/
  | eos (id exp act : Nat)
  /-- `UnexpectedSize{option_id, size}` -/
  | size (id size : Nat)
  /-- `UnknownId(id)` -/
  | unknown (id : Nat)
  deriving DecidableEq, Repr

/-- item type of the iterator: `Result<TcpOptionElement, TcpOptionReadError>`. -/
abbrev Item := Except ReadErr Elem

/-! ### Encoder: `TcpOptions::try_from_elements` -/

/-- `rest.iter().fold(10, |acc, y| match y { None => acc, Some(_) => acc + 8 })` -/
def sackLen (r0 r1 r2 : Option Pair) : Nat :=
  [r0, r1, r2].foldl (fun acc y => match y with | none => acc | some _ => acc + 8) 10

/-- the per element summand of `required_len`. -/
def elemSize : Elem → Nat
  | .noop => 1
  | .mss _ => 4
  | .ws _ => 3
  | .sackPerm => 2
  | .sack _ r0 r1 r2 => sackLen r0 r1 r2
  | .ts _ _ => 10

/-- `required_len = elements.iter().fold(0, |acc, x| acc + …)` -/
def size (es : List Elem) : Nat := es.foldl (fun acc x => acc + elemSize x) 0

/-- one of the `rest` blocks: `None => {}`, `Some((a,b))` => 8 bytes. -/
def writePair : Option Pair → Bytes
  | none => []
  | some (a, b) => enc32 a ++ enc32 b

/-- the bytes the match arm of one element stores at the cursor (in order).  The length byte of
    SACK is the fold value cast to u8. -/
def writeElem : Elem → Bytes
  | .noop => [1]
  | .mss v => [2, 4] ++ enc16 v
  | .ws v => [3, 3, u8 v]
  | .sackPerm => [4, 2]
  | .sack (a, b) r0 r1 r2 =>
      [5, u8 (sackLen r0 r1 r2)] ++ enc32 a ++ enc32 b ++ writePair r0 ++ writePair r1 ++ writePair r2
  | .ts a b => [8, 10] ++ enc32 a ++ enc32 b

/-- `let t = &mut buf[len..len + n]; t[..] = data`: `none` is the slice-index panic. -/
def bufWrite (buf : Bytes) (len : Nat) (data : Bytes) : Option Bytes :=
  if len + data.length ≤ buf.length then
    some (buf.take len ++ data ++ buf.drop (len + data.length))
  else none

/-- the `for element in elements` loop over `(buf, len)`.  (The SACK arm performs its stores
    through several sub-slices `buf[len..len+10]`, `buf[len..len+8]`…; one of them is out of
    range iff the whole element is, and a partially written buffer is not observable after the
    panic, so one `bufWrite` per element has the same observable behaviour.) -/
def writeLoop : List Elem → Bytes → Nat → Option (Bytes × Nat)
  | [], buf, len => some (buf, len)
  | e :: es, buf, len =>
    match bufWrite buf len (writeElem e) with
    | none => none
    | some buf' => writeLoop es buf' (len + (writeElem e).length)

/-- result of the two constructors; `ok b` is `as_slice()` of the `TcpOptions` value. -/
inductive EncRes where
  | ok (b : Bytes)
  | err (e : WriteErr)
  | panic
  deriving DecidableEq, Repr

/-- `if (len > 0) && (0 != len & 0b11) { len = (len & !0b11) + 4 }` -/
def padLen (len : Nat) : Nat :=
  if 0 < len ∧ len % 4 ≠ 0 then len / 4 * 4 + 4 else len

/-- `TcpOptions::try_from_elements(elements)` followed by `as_slice()`. -/
def encode (es : List Elem) : EncRes :=
  let required := size es
  if 40 < required then .err (.notEnoughSpace required)
  else
    match writeLoop es (List.replicate 40 0) 0 with
    | none => .panic
    | some (buf, len) => .ok (buf.take (padLen len % 256))   -- `len: len as u8`, `buf[..len]`

/-- `TcpOptions::try_from_slice(slice)` followed by `as_slice()` (`set_options_raw`). -/
def fromSlice (s : Bytes) : EncRes :=
  if 40 < s.length then .err (.notEnoughSpace s.length)
  else
    let len := s.length % 256                                   -- `slice.len() as u8`
    let len' := len / 4 * 4 + (if len % 4 ≠ 0 then 4 else 0)    -- `((len >> 2) << 2) + if 0 != len & 0b11 {4} else {0}`
    match bufWrite (List.replicate 40 0) 0 s with               -- `buf[..slice.len()].copy_from_slice(slice)`
    | none => .panic
    | some buf => .ok (buf.take len')

/-- `TcpOptions::data_offset`: `MIN_DATA_OFFSET + (len >> 2)`. -/
def dataOffset (len : Nat) : Nat := 5 + len / 4

/-! ### Iterator: `TcpOptionsIterator::next` -/

/-- the closure `expect_specific_size(expected_size, slice)`; the slice is not empty when it is
    called.  `slice[1]` is only evaluated when `slice.len() ≥ expected_size ≥ 2`. -/
def expectSize (exp : Nat) (b : Bytes) : Except ReadErr Unit :=
  if b.length < exp then .error (.eos (bAt b 0) exp b.length)
  else if bAt b 1 ≠ exp then .error (.size (bAt b 0) (bAt b 1))
  else .ok ()

/-- block `i` (0..2) of a SACK option with length byte `len`: present iff `2 + 8 + 8*i < len`. -/
def sackBlock (b : Bytes) (len i : Nat) : Option Pair :=
  let offset := 2 + 8 + i * 8
  if offset < len then some (be32 b offset, be32 b (offset + 4)) else none

/-- the `match self.options[0]` of `next`: result and the new value of `self.options`
    before the final "move to the end on None/Err" step. -/
def nextRaw (b : Bytes) : Option Item × Bytes :=
  let k := bAt b 0
  if k = 0 then (none, b)                                           -- KIND_END
  else if k = 1 then (some (.ok .noop), b.drop 1)                   -- KIND_NOOP
  else if k = 2 then
    match expectSize 4 b with
    | .error e => (some (.error e), b)
    | .ok _ => (some (.ok (.mss (be16 b 2))), b.drop 4)
  else if k = 3 then
    match expectSize 3 b with
    | .error e => (some (.error e), b)
    | .ok _ => (some (.ok (.ws (bAt b 2))), b.drop 3)
  else if k = 4 then
    match expectSize 2 b with
    | .error e => (some (.error e), b)
    | .ok _ => (some (.ok .sackPerm), b.drop 2)
  else if k = 5 then
    if b.length < 2 then (some (.error (.eos (bAt b 0) 2 b.length)), b)
    else
      let len := bAt b 1
      if len ≠ 10 ∧ len ≠ 18 ∧ len ≠ 26 ∧ len ≠ 34 then
        (some (.error (.size (bAt b 0) len)), b)
      else if b.length < len then
        (some (.error (.eos (bAt b 0) len b.length)), b)
      else
        (some (.ok (.sack (be32 b 2, be32 b 6) (sackBlock b len 0) (sackBlock b len 1) (sackBlock b len 2))),
          b.drop len)
  else if k = 8 then
    match expectSize 10 b with
    | .error e => (some (.error e), b)
    | .ok _ => (some (.ok (.ts (be32 b 2) (be32 b 6))), b.drop 10)
  else (some (.error (.unknown (bAt b 0))), b)

/-- `TcpOptionsIterator::next`: the returned item and the new iterator state (`self.options`).
    On `None` (END) or `Some(Err(_))` the state becomes the empty slice at the end. -/
def next (b : Bytes) : Option Item × Bytes :=
  if b.length = 0 then (none, b)                                     -- `self.options.is_empty()`
  else
    match nextRaw b with
    | (none, _) => (none, [])                                        -- `&self.options[len..len]`
    | (some (.error e), _) => (some (.error e), [])
    | (some (.ok e), rest) => (some (.ok e), rest)

theorem expectSize_ok (exp : Nat) (b : Bytes) (u : Unit) (h : expectSize exp b = .ok u) :
    exp ≤ b.length ∧ bAt b 1 = exp := by
  unfold expectSize at h
  split at h
  · cases h
  · split at h
    · cases h
    · omega

/-- the arm of `nextRaw` for a kind whose options have the fixed size `n` and decode to `x`. -/
def fixedArm (n : Nat) (x : Elem) (b : Bytes) : Option Item × Bytes :=
  match expectSize n b with
  | .error e => (some (.error e), b)
  | .ok _ => (some (.ok x), b.drop n)

theorem fixedArm_eq (n : Nat) (x : Elem) (b : Bytes) :
    fixedArm n x b =
      if b.length < n then (some (.error (.eos (bAt b 0) n b.length)), b)
      else if bAt b 1 ≠ n then (some (.error (.size (bAt b 0) (bAt b 1))), b)
      else (some (.ok x), b.drop n) := by
  unfold fixedArm expectSize
  by_cases h : b.length < n
  · simp only [if_pos h]
  by_cases h1 : bAt b 1 ≠ n
  · simp only [if_neg h, if_pos h1]
  · simp only [if_neg h, if_neg h1]

/-- the kinds whose options have a fixed size: that size, and the element they decode to. -/
def fixedKind (b : Bytes) : Nat → Option (Nat × Elem)
  | 2 => some (4, .mss (be16 b 2))
  | 3 => some (3, .ws (bAt b 2))
  | 4 => some (2, .sackPerm)
  | 8 => some (10, .ts (be32 b 2) (be32 b 6))
  | _ => none

theorem nextRaw_end {b : Bytes} (h : bAt b 0 = 0) : nextRaw b = (none, b) := by
  simp only [nextRaw, h, if_true]

theorem nextRaw_noop {b : Bytes} (h : bAt b 0 = 1) : nextRaw b = (some (.ok .noop), b.drop 1) := by
  simp [nextRaw, h]

theorem nextRaw_fixed {b : Bytes} {k n : Nat} {x : Elem} (hk : bAt b 0 = k)
    (h : fixedKind b k = some (n, x)) : nextRaw b = fixedArm n x b ∧ 0 < n := by
  unfold fixedKind at h
  split at h <;> cases h <;> simp [nextRaw, hk, fixedArm]

theorem nextRaw_sack {b : Bytes} (h : bAt b 0 = 5) :
    nextRaw b =
      if b.length < 2 then (some (.error (.eos 5 2 b.length)), b)
      else if bAt b 1 ≠ 10 ∧ bAt b 1 ≠ 18 ∧ bAt b 1 ≠ 26 ∧ bAt b 1 ≠ 34 then
        (some (.error (.size 5 (bAt b 1))), b)
      else if b.length < bAt b 1 then (some (.error (.eos 5 (bAt b 1) b.length)), b)
      else
        (some (.ok (.sack (be32 b 2, be32 b 6) (sackBlock b (bAt b 1) 0) (sackBlock b (bAt b 1) 1)
          (sackBlock b (bAt b 1) 2))), b.drop (bAt b 1)) := by
  simp [nextRaw, h]

theorem nextRaw_unknown {b : Bytes}
    (h : ¬ (bAt b 0 = 0 ∨ bAt b 0 = 1 ∨ bAt b 0 = 2 ∨ bAt b 0 = 3 ∨ bAt b 0 = 4 ∨ bAt b 0 = 5 ∨
      bAt b 0 = 8)) : nextRaw b = (some (.error (.unknown (bAt b 0))), b) := by
  simp only [not_or] at h
  simp [nextRaw, h]

/-- every `Ok` arm of `nextRaw` cuts a non-empty prefix off the slice. -/
theorem nextRaw_ok_shrinks (b : Bytes) (e : Elem) (s : Bytes)
    (h : nextRaw b = (some (.ok e), s)) (hb : 0 < b.length) : s.length < b.length := by
  suffices ∃ n, 0 < n ∧ s = b.drop n by
    obtain ⟨n, hn, rfl⟩ := this
    rw [List.length_drop]; omega
  have fixed {k n x} (hk : bAt b 0 = k) (hf : fixedKind b k = some (n, x)) :
      ∃ n, 0 < n ∧ s = b.drop n := by
    rw [(nextRaw_fixed hk hf).1, fixedArm_eq] at h
    split at h
    · cases h
    split at h <;> cases h
    exact ⟨n, (nextRaw_fixed hk hf).2, rfl⟩
  by_cases hk : bAt b 0 = 0 ∨ bAt b 0 = 1 ∨ bAt b 0 = 2 ∨ bAt b 0 = 3 ∨ bAt b 0 = 4 ∨ bAt b 0 = 5 ∨
      bAt b 0 = 8
  · rcases hk with hk | hk | hk | hk | hk | hk | hk
    · rw [nextRaw_end hk] at h; cases h
    · rw [nextRaw_noop hk] at h; cases h; exact ⟨1, by omega, rfl⟩
    · exact fixed hk rfl
    · exact fixed hk rfl
    · exact fixed hk rfl
    · rw [nextRaw_sack hk] at h
      split at h
      · cases h
      split at h
      · cases h
      split at h <;> cases h
      exact ⟨bAt b 1, by omega, rfl⟩
    · exact fixed hk rfl
  · rw [nextRaw_unknown hk] at h; cases h

/-- every `Some` step strictly shrinks the remaining slice (the measure of the driving loop). -/
theorem next_shrinks (b : Bytes) (r : Item) (s : Bytes) (h : next b = (some r, s)) :
    s.length < b.length := by
  unfold next at h
  split at h
  · cases h
  · split at h
    · cases h
    · cases h; simp only [List.length_nil]; omega
    · rename_i hr; cases h; exact nextRaw_ok_shrinks b _ _ hr (by omega)

/-- drive the iterator until the first `None`: the items together with the iterator state after
    each of them, and the state after the final `None`. -/
def run (b : Bytes) : List (Item × Bytes) × Bytes :=
  match _h : next b with
  | (none, s) => ([], s)
  | (some r, s) => ((r, s) :: (run s).1, (run s).2)
termination_by b.length
decreasing_by all_goals exact next_shrinks b r s _h

/-- the items a `for x in iterator` loop sees. -/
def iterate (b : Bytes) : List Item := (run b).1.map Prod.fst

/-- iterator state after the loop. -/
def endState (b : Bytes) : Bytes := (run b).2

end EpModel.TcpOptions
