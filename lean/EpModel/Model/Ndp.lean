import EpModel.Model.Icmp
/-
  Model of the ICMPv6 payload views and the NDP option iterator, following the Rust code:
    transport/icmpv6/icmpv6_payload_slice/*.rs   Icmpv6PayloadSlice::{from_slice, from_type_u8}, the
                                                 per-type `from_slice` + accessors
    transport/icmpv6/ndp_option/*.rs             NdpOptionHeader::from_slice, the six option slices
    transport/icmpv6/ndp_options_iterator.rs     NdpOptionsIterator::{parse_next_option, next}
-/
namespace EpModel.View
open EpModel

/-! ## ICMPv6 payload slices -/

/-- variant of `Icmpv6PayloadSlice` (each variant holds the whole payload slice). -/
inductive Payload6Kind
  | destinationUnreachable | packetTooBig | timeExceeded | parameterProblem | echoRequest
  | echoReply | routerSolicitation | routerAdvertisement | neighborSolicitation
  | neighborAdvertisement | redirect | raw
  deriving DecidableEq, Repr

/-- `FIXED_PART_LEN` of the per-type payload slices (0 where `from_slice` has no length check). -/
def Payload6Kind.fixedPartLen : Payload6Kind → Nat
  | .routerAdvertisement => 8       -- RouterAdvertisementPayload::LEN
  | .neighborSolicitation => 16     -- NeighborSolicitationPayload::LEN
  | .neighborAdvertisement => 16    -- NeighborAdvertisementPayload::LEN
  | .redirect => 32                 -- RedirectPayload::LEN
  | _ => 0

/-- the per-type `XxxPayloadSlice::from_slice(payload)`: a length check against FIXED_PART_LEN for
    RA / NS / NA / Redirect, no check for the others. -/
def payload6SliceFromSlice (k : Payload6Kind) (p : Bytes) : Except LenError Payload6Kind :=
  match k with
  | .routerAdvertisement | .neighborSolicitation | .neighborAdvertisement | .redirect =>
    if p.length < k.fixedPartLen then
      .error { req := k.fixedPartLen, len := p.length, src := .slice, layer := .icmpv6, off := 0 }
    else .ok k
  | _ => .ok k

/-- `Icmpv6PayloadSlice::from_slice(&Icmpv6Type, payload)`: dispatch on the decoded type. -/
def payload6FromType (ty : Icmpv6Type) (p : Bytes) : Except LenError Payload6Kind :=
  match ty with
  | .destinationUnreachable _ => payload6SliceFromSlice .destinationUnreachable p
  | .packetTooBig _ => payload6SliceFromSlice .packetTooBig p
  | .timeExceeded _ => payload6SliceFromSlice .timeExceeded p
  | .parameterProblem _ _ => payload6SliceFromSlice .parameterProblem p
  | .echoRequest _ => payload6SliceFromSlice .echoRequest p
  | .echoReply _ => payload6SliceFromSlice .echoReply p
  | .routerSolicitation => payload6SliceFromSlice .routerSolicitation p
  | .routerAdvertisement _ => payload6SliceFromSlice .routerAdvertisement p
  | .neighborSolicitation => payload6SliceFromSlice .neighborSolicitation p
  | .neighborAdvertisement _ => payload6SliceFromSlice .neighborAdvertisement p
  | .redirect => payload6SliceFromSlice .redirect p
  | .unknown _ _ _ => .ok .raw

/-- `Icmpv6PayloadSlice::from_type_u8(type_u8, code_u8, payload)` (used by
    `Icmpv6Slice::payload_slice`): a second copy of the dispatch, on the raw type and code bytes. -/
def payload6FromTypeU8 (t c : Nat) (p : Bytes) : Except LenError Payload6Kind :=
  if t = 1 ∧ (DestUnreachableCode6.fromU8 c).isSome then
    payload6SliceFromSlice .destinationUnreachable p
  else if t = 2 ∧ c = 0 then payload6SliceFromSlice .packetTooBig p
  else if t = 3 ∧ (TimeExceededCode6.fromU8 c).isSome then payload6SliceFromSlice .timeExceeded p
  else if t = 4 ∧ (ParameterProblemCode6.fromU8 c).isSome then
    payload6SliceFromSlice .parameterProblem p
  else if t = 128 ∧ c = 0 then payload6SliceFromSlice .echoRequest p
  else if t = 129 ∧ c = 0 then payload6SliceFromSlice .echoReply p
  else if t = 133 ∧ c = 0 then payload6SliceFromSlice .routerSolicitation p
  else if t = 134 ∧ c = 0 then payload6SliceFromSlice .routerAdvertisement p
  else if t = 135 ∧ c = 0 then payload6SliceFromSlice .neighborSolicitation p
  else if t = 136 ∧ c = 0 then payload6SliceFromSlice .neighborAdvertisement p
  else if t = 137 ∧ c = 0 then payload6SliceFromSlice .redirect p
  else .ok .raw

/-- `Icmpv6Slice::payload_slice`: `from_type_u8(type_u8(), code_u8(), payload())`. -/
def icmp6PayloadSlice (b : Bytes) : Except LenError Payload6Kind :=
  payload6FromTypeU8 (bAt b 0) (bAt b 1) (b.drop 8)

/-- `options()` of an accepted payload slice: `&slice[FIXED_PART_LEN..]` as a window of the
    payload (only the five NDP kinds have an option area). -/
def Payload6Kind.options (k : Payload6Kind) (payloadLen : Nat) : Option Win :=
  match k with
  | .routerSolicitation | .routerAdvertisement | .neighborSolicitation | .neighborAdvertisement
  | .redirect => some { off := k.fixedPartLen, len := payloadLen - k.fixedPartLen }
  | _ => none

/-! ## NDP options -/

/-- `NdpOptionReadError` (option ids are the raw type bytes). -/
inductive NdpErr
  | unexpectedEndOfSlice (optionId expectedSize actualSize : Nat)
  | zeroLength (optionId : Nat)
  | unexpectedSize (optionId expectedSize actualSize : Nat)
  | unexpectedHeader (expectedId actualId expectedUnits actualUnits : Nat)
  deriving DecidableEq, Repr

/-- variant of `NdpOptionSlice`. -/
inductive NdpKind
  | sourceLinkLayerAddress | targetLinkLayerAddress | prefixInformation | redirectedHeader | mtu
  | unknown
  deriving DecidableEq, Repr

/-- `NdpOptionHeader::from_slice`: the first two bytes (type, length units); with fewer than two
    bytes `UnexpectedSize` carrying the first byte (or 0). -/
def ndpHeaderFromSlice (s : Bytes) : Except NdpErr (Nat × Nat) :=
  if s.length < 2 then .error (.unexpectedSize (bAt s 0) 2 s.length)
  else .ok (bAt s 0, bAt s 1)

/-- `SourceLinkLayerAddressOptionSlice::from_slice` / `TargetLinkLayerAddressOptionSlice::from_slice`
    (two textual copies differing in the expected type `ty`). -/
def linkLayerOptFromSlice (ty : Nat) (s : Bytes) : Except NdpErr Unit :=
  match ndpHeaderFromSlice s with
  | .error e => .error e
  | .ok (t, u) =>
    if ty ≠ t then .error (.unexpectedHeader ty t u u)
    else if u = 0 then .error (.zeroLength t)
    else if u * 8 ≠ s.length then .error (.unexpectedSize t (u * 8) s.length)
    else .ok ()

/-- `PrefixInformationOptionSlice::from_slice`: exactly 32 bytes, then
    `PrefixInformation::from_bytes` checks the first two bytes to be `[3, 4]`. -/
def prefixOptFromSlice (s : Bytes) : Except NdpErr Unit :=
  if s.length ≠ 32 then .error (.unexpectedSize 3 32 s.length)
  else if ¬ (bAt s 0 = 3 ∧ bAt s 1 = 4) then .error (.unexpectedHeader 3 (bAt s 0) 4 (bAt s 1))
  else .ok ()

/-- `RedirectedHeaderOptionSlice::from_slice` -/
def redirectedOptFromSlice (s : Bytes) : Except NdpErr Unit :=
  if s.length < 8 then .error (.unexpectedSize 4 8 s.length)
  else
    match ndpHeaderFromSlice s with
    | .error e => .error e
    | .ok (t, u) =>
      if 4 ≠ t then .error (.unexpectedHeader 4 t u u)
      else if u = 0 then .error (.zeroLength t)
      else if u * 8 ≠ s.length then .error (.unexpectedSize t (u * 8) s.length)
      else .ok ()

/-- `MtuOptionSlice::from_slice`: exactly 8 bytes, header `[5, 1]`. -/
def mtuOptFromSlice (s : Bytes) : Except NdpErr Unit :=
  if s.length ≠ 8 then .error (.unexpectedSize 5 8 s.length)
  else if bAt s 0 ≠ 5 ∨ bAt s 1 ≠ 1 then .error (.unexpectedHeader 5 (bAt s 0) 1 (bAt s 1))
  else .ok ()

/-- `UnknownNdpOptionSlice::from_slice` -/
def unknownOptFromSlice (s : Bytes) : Except NdpErr Unit :=
  match ndpHeaderFromSlice s with
  | .error e => .error e
  | .ok (t, u) =>
    if u = 0 then .error (.zeroLength t)
    else if u * 8 ≠ s.length then .error (.unexpectedSize t (u * 8) s.length)
    else .ok ()

/-- the `match option_id` of `parse_next_option`: which slice type parses an option of type `t`. -/
def ndpKindOfType (t : Nat) : NdpKind :=
  if t = 1 then .sourceLinkLayerAddress
  else if t = 2 then .targetLinkLayerAddress
  else if t = 3 then .prefixInformation
  else if t = 4 then .redirectedHeader
  else if t = 5 then .mtu
  else .unknown

/-- the per-kind `from_slice` applied to the bytes of one option. -/
def ndpOptFromSlice (k : NdpKind) (s : Bytes) : Except NdpErr Unit :=
  match k with
  | .sourceLinkLayerAddress => linkLayerOptFromSlice 1 s
  | .targetLinkLayerAddress => linkLayerOptFromSlice 2 s
  | .prefixInformation => prefixOptFromSlice s
  | .redirectedHeader => redirectedOptFromSlice s
  | .mtu => mtuOptFromSlice s
  | .unknown => unknownOptFromSlice s

/-- one option handed out by the iterator: its kind and its bytes (`as_bytes()`); the window is
    kept by the iterator state. -/
structure NdpOpt where
  kind : NdpKind
  off : Nat
  bytes : Bytes
  deriving DecidableEq, Repr

/-- iterator state: the remaining option area and the offset of its first byte in the area the
    iterator was created from (`options` field of `NdpOptionsIterator`; the offset is bookkeeping for
    the printed windows, it does not influence any decision). -/
structure NdpIter where
  off : Nat
  options : Bytes
  deriving DecidableEq, Repr

/-- `NdpOptionsIterator::parse_next_option`: header, zero-length check, `split_at_checked`,
    per-type `from_slice`; on success the state advances to `rest`. -/
def ndpParseNext (it : NdpIter) : Except NdpErr (NdpOpt × NdpIter) :=
  match ndpHeaderFromSlice it.options with
  | .error e => .error e
  | .ok (t, u) =>
    if u = 0 then .error (.zeroLength t)
    else if u * 8 > it.options.length then
      .error (.unexpectedEndOfSlice t (u * 8) it.options.length)
    else
      match ndpOptFromSlice (ndpKindOfType t) (it.options.take (u * 8)) with
      | .error e => .error e
      | .ok () =>
        .ok ({ kind := ndpKindOfType t, off := it.off, bytes := it.options.take (u * 8) },
             { off := it.off + u * 8, options := it.options.drop (u * 8) })

/-- `Iterator::next`: `None` on an empty area; after an error the area is replaced by `&[]`. -/
def ndpNext (it : NdpIter) : Option (Except NdpErr NdpOpt × NdpIter) :=
  if it.options.isEmpty then none
  else
    match ndpParseNext it with
    | .error e => some (.error e, { off := it.off + it.options.length, options := [] })
    | .ok (o, it') => some (.ok o, it')

theorem ndpParseNext_ok {it it' : NdpIter} {o : NdpOpt} (h : ndpParseNext it = .ok (o, it')) :
    2 ≤ it.options.length ∧ bAt it.options 1 ≠ 0 ∧ bAt it.options 1 * 8 ≤ it.options.length ∧
      o = { kind := ndpKindOfType (bAt it.options 0), off := it.off,
            bytes := it.options.take (bAt it.options 1 * 8) } ∧
      it' = { off := it.off + bAt it.options 1 * 8,
              options := it.options.drop (bAt it.options 1 * 8) } ∧
      ndpOptFromSlice (ndpKindOfType (bAt it.options 0)) (it.options.take (bAt it.options 1 * 8))
        = .ok () := by
  unfold ndpParseNext ndpHeaderFromSlice at h
  by_cases h2 : it.options.length < 2
  · simp [h2] at h
  · simp only [h2, if_false] at h
    by_cases hu : bAt it.options 1 = 0
    · simp [hu] at h
    · simp only [hu, if_false] at h
      by_cases hl : bAt it.options 1 * 8 > it.options.length
      · simp [hl] at h
      · simp only [hl, if_false] at h
        split at h
        · contradiction
        · rename_i hs
          simp only [Except.ok.injEq, Prod.mk.injEq] at h
          exact ⟨by omega, hu, by omega, h.1.symm, h.2.symm, hs⟩

theorem ndpNext_ok {it it' : NdpIter} {o : NdpOpt} (h : ndpNext it = some (.ok o, it')) :
    ndpParseNext it = .ok (o, it') := by
  unfold ndpNext at h
  split at h
  · contradiction
  · split at h
    · simp at h
    · rename_i hp
      simp only [Option.some.injEq, Prod.mk.injEq, Except.ok.injEq] at h
      rw [hp, h.1, h.2]

/-- a successful step strictly shortens the remaining area (the length unit is non-zero). -/
theorem ndpNext_ok_lt {it it' : NdpIter} {o : NdpOpt} (h : ndpNext it = some (.ok o, it')) :
    it'.options.length < it.options.length := by
  obtain ⟨_, hu, hl, _, rfl, _⟩ := ndpParseNext_ok (ndpNext_ok h)
  simp only [List.length_drop]
  omega

/-- the caller's loop `for item in iterator { … }`: the options handed out up to the end of the
    area or the first error.  Terminates because every successful step shortens the area. -/
def ndpRun (it : NdpIter) : List NdpOpt × Option NdpErr :=
  match h : ndpNext it with  -- `h` feeds the termination proof
  | none => ([], none)
  | some (.error e, _) => ([], some e)
  | some (.ok o, it') =>
    let r := ndpRun it'
    (o :: r.1, r.2)
termination_by it.options.length
decreasing_by exact ndpNext_ok_lt h

end EpModel.View
