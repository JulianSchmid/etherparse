import EpModel.Model.Checksum
/-
  A linear-time evaluation of `Checksum.addSlice64` for the compiled driver.

  `addSlice64` is written like the Rust loop (`while 8 ≤ remaining length`), which on `List UInt8`
  recomputes the length in every step (quadratic; 0.3 s for a 64 KiB payload).  `addSlice64Fast`
  matches eight bytes at a time; `addSlice64_eq_fast` proves the two equal for every input and is
  registered with `@[csimp]`, so compiled code that mentions `addSlice64` (the C14 checksum entry
  points with payloads around 2^16 bytes) runs the fast version.  The theorems keep talking about
  `addSlice64`; nothing is assumed: the replacement is a kernel-checked equation.
-/
namespace EpModel.Checksum
open EpModel

def addSlice64Fast (s : Nat) : Bytes → Nat
  | b0 :: b1 :: b2 :: b3 :: b4 :: b5 :: b6 :: b7 :: rest =>
    addSlice64Fast (add8_64 s [b0, b1, b2, b3, b4, b5, b6, b7]) rest
  | r => tail64 s r

theorem addSlice64_eq_fast (s : Nat) (b : Bytes) : addSlice64 s b = addSlice64Fast s b := by
  fun_induction addSlice64Fast s b with
  | case1 s b0 b1 b2 b3 b4 b5 b6 b7 rest ih =>
    rw [addSlice64, if_pos (by simp)]
    exact ih
  | case2 s r hne =>
    rw [addSlice64, if_neg]
    intro h
    match r, h with
    | _ :: _ :: _ :: _ :: _ :: _ :: _ :: _ :: _, _ => exact hne _ _ _ _ _ _ _ _ _ rfl

@[csimp] theorem addSlice64_csimp : @addSlice64 = @addSlice64Fast := by
  funext s b; exact addSlice64_eq_fast s b

/-- the same for the 32 bit accumulator (four bytes per step) -/
def addSlice32Fast (s : Nat) : Bytes → Nat
  | b0 :: b1 :: b2 :: b3 :: rest => addSlice32Fast (add4_32 s [b0, b1, b2, b3]) rest
  | r => tail32 s r

theorem addSlice32_eq_fast (s : Nat) (b : Bytes) : addSlice32 s b = addSlice32Fast s b := by
  fun_induction addSlice32Fast s b with
  | case1 s b0 b1 b2 b3 rest ih =>
    rw [addSlice32, if_pos (by simp)]
    exact ih
  | case2 s r hne =>
    rw [addSlice32, if_neg]
    intro h
    match r, h with
    | _ :: _ :: _ :: _ :: _, _ => exact hne _ _ _ _ _ rfl

@[csimp] theorem addSlice32_csimp : @addSlice32 = @addSlice32Fast := by
  funext s b; exact addSlice32_eq_fast s b

end EpModel.Checksum
