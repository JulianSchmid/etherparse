import EpModel.Spec.Rfc1071
import EpModel.Model.Checksum
/-
  Helper lemmas for C09: arithmetic modulo 65535 of the accumulators in checksum.rs.
-/
namespace EpModel.Lemmas.Checksum
open EpModel EpModel.Spec EpModel.Checksum

/-- two sums are in the same class if they agree modulo 65535 and on being zero
    (this is exactly what end-around-carry folding can observe). -/
def Cls (x y : Nat) : Prop := x % 65535 = y % 65535 ∧ (x = 0 ↔ y = 0)

theorem Cls.refl (x : Nat) : Cls x x := ⟨rfl, Iff.rfl⟩
theorem Cls.symm {x y : Nat} (h : Cls x y) : Cls y x := ⟨h.1.symm, h.2.symm⟩
theorem Cls.trans {x y z : Nat} (h : Cls x y) (h' : Cls y z) : Cls x z :=
  ⟨h.1.trans h'.1, h.2.trans h'.2⟩

theorem Cls.add {a b c d : Nat} (h : Cls a b) (h' : Cls c d) : Cls (a + c) (b + d) :=
  ⟨by rw [Nat.add_mod, h.1, h'.1, ← Nat.add_mod],
    by rw [Nat.add_eq_zero_iff, Nat.add_eq_zero_iff, h.2, h'.2]⟩

theorem Cls.mul256 {a b : Nat} (h : Cls a b) : Cls (256 * a) (256 * b) :=
  ⟨by rw [Nat.mul_mod, h.1, ← Nat.mul_mod], by have := h.2; omega⟩

/-- `2^16 ≡ 1`: a carry out of 16 bits may be added back in at the bottom. -/
theorem cls_carry16 (b : Nat) : Cls (65536 * b) b := by
  unfold Cls; omega

theorem fold16_le (x : Nat) : fold16 x ≤ 65535 := by unfold fold16; split <;> omega

theorem fold16_fix (x : Nat) (h : x ≤ 65535) : fold16 x = x := by
  unfold fold16; split <;> omega

theorem fold16_cls (x : Nat) : Cls (fold16 x) x := by
  unfold Cls fold16; split <;> omega

theorem fold16_congr {x y : Nat} (h : Cls x y) : fold16 x = fold16 y := by
  by_cases hx : x = 0
  · rw [hx, h.2.mp hx]
  · have hy : y ≠ 0 := fun e => hx (h.2.mpr e)
    have := h.1
    simp only [fold16, hx, hy, if_false]
    omega

theorem cls_eq_of_le {x y : Nat} (h : Cls x y) (hx : x ≤ 65535) (hy : y ≤ 65535) : x = y := by
  have := fold16_congr h
  rwa [fold16_fix x hx, fold16_fix y hy] at this

theorem ocAdd_fold (a b : Nat) (ha : a ≤ 65535) (hb : b ≤ 65535) : ocAdd a b = fold16 (a + b) := by
  unfold ocAdd fold16; simp only; split <;> split <;> omega

theorem ocSum_eq_fold : ∀ b : Bytes, ocSum b = fold16 (beWords b)
  | [] => by simp [ocSum, beWords, fold16]
  | [a] => by
    have := a.toNat_lt
    simp only [ocSum, beWords]; rw [fold16_fix]; omega
  | a :: b :: rest => by
    have ha := a.toNat_lt
    have hb := b.toNat_lt
    have ih := ocSum_eq_fold rest
    simp only [ocSum, beWords]
    rw [ocAdd_fold _ _ (by omega) (by rw [ih]; exact fold16_le _), ih]
    apply fold16_congr
    exact Cls.add (Cls.refl _) (fold16_cls _)


/-- plain sum of the little endian 16 bit words (odd last byte padded with zero on the right). -/
def leWords : Bytes → Nat
  | [] => 0
  | [a] => a.toNat
  | a :: b :: rest => (a.toNat + 256 * b.toNat) + leWords rest

/-- the `w` bit accumulator `x` stands for the sum `y`: same class, and no carry has been lost. -/
def Acc (w x y : Nat) : Prop := Cls x y ∧ x < 2 ^ w

theorem leVal_lt : ∀ xs : Bytes, leVal xs < 256 ^ xs.length
  | [] => by simp [leVal]
  | a :: rest => by
    have := leVal_lt rest
    have := a.toNat_lt
    simp only [leVal, List.length_cons, Nat.pow_succ]
    omega

theorem leVal_cls : ∀ xs : Bytes, Cls (leVal xs) (leWords xs)
  | [] => Cls.refl 0
  | [a] => by simp only [leVal, leWords]; exact Cls.refl _
  | a :: b :: rest => by
    have e : leVal (a :: b :: rest) = (a.toNat + 256 * b.toNat) + 65536 * leVal rest := by
      simp only [leVal]; omega
    rw [e, leWords]
    exact Cls.add (Cls.refl _) ((cls_carry16 _).trans (leVal_cls rest))

theorem leWords_append_even : ∀ (xs ys : Bytes), xs.length % 2 = 0 →
    leWords (xs ++ ys) = leWords xs + leWords ys
  | [], ys, _ => by simp [leWords]
  | [a], _, h => by simp at h
  | a :: b :: rest, ys, h => by
    have ih := leWords_append_even rest ys (by simp at h; omega)
    simp only [List.cons_append, leWords, ih]; omega

section accumulator
/- an accumulator of `w` bits with `2^w ≡ 1 (mod 65535)`, e.g. any `w` with `16 ∣ w` -/
variable {w : Nat} (hw : 2 ^ w % 65535 = 1)
include hw

theorem addCarry_cls {s v : Nat} (hs : s < 2 ^ w) (hv : v < 2 ^ w) :
    Acc w (addCarry w s v) (s + v) := by
  unfold Acc addCarry Cls
  generalize 2 ^ w = m at *
  simp only
  split <;> omega

/-! The accumulators add the slice in chunks `sub r k n` at even offsets.  Invariant: after the
    chunks up to offset `k` the accumulator stands for `acc + leWords (r.take k)`. -/

theorem chunk_cls {r : Bytes} {k n s acc : Nat}
    (hkn : k + n ≤ r.length) (hk : k % 2 = 0) (hnw : 256 ^ n ≤ 2 ^ w)
    (h : Acc w s (acc + leWords (r.take k))) :
    Acc w (addCarry w s (leVal (sub r k n))) (acc + leWords (r.take (k + n))) := by
  have hv : leVal (sub r k n) < 2 ^ w := by
    have := leVal_lt (sub r k n)
    rw [sub_length r k n hkn] at this
    omega
  have ha := addCarry_cls hw h.2 hv
  refine ⟨ha.1.trans ?_, ha.2⟩
  rw [List.take_add, leWords_append_even _ _ (by rw [List.length_take]; omega), ← Nat.add_assoc]
  exact Cls.add h.1 (leVal_cls _)

theorem optChunk_cls {r : Bytes} {k n s acc : Nat} (c : Prop)
    [Decidable c] (hc : c → k + n ≤ r.length) (hk : k % 2 = 0) (hnw : 256 ^ n ≤ 2 ^ w)
    (h : Acc w s (acc + leWords (r.take k))) :
    Acc w (if c then addCarry w s (leVal (sub r k n)) else s)
      (acc + leWords (r.take (if c then k + n else k))) := by
  by_cases hcc : c
  · simp only [if_pos hcc]
    exact chunk_cls hw (hc hcc) hk hnw h
  · simp only [if_neg hcc]
    exact h

theorem lastByte_cls (h8 : 256 ≤ 2 ^ w) {r : Bytes}
    {k s acc : Nat} (hk : k % 2 = 0) (hkl : k ≤ r.length) (hlk : r.length < k + 2)
    (h : Acc w s (acc + leWords (r.take k))) :
    Acc w (if r.length % 2 ≠ 0 then addCarry w s (leVal [r.getD (r.length - 1) 0, 0]) else s)
      (acc + leWords r) := by
  by_cases ho : r.length % 2 ≠ 0
  · simp only [if_pos ho]
    have hl : r.length = k + 1 := by omega
    have hr : r = r.take k ++ [r.getD (r.length - 1) 0] := by
      conv => lhs; rw [← List.take_append_drop k r, List.drop_eq_getElem_cons (by omega),
        List.drop_of_length_le (by omega)]
      simp [hl]
    have hv : leVal [r.getD (r.length - 1) 0, 0] = (r.getD (r.length - 1) 0).toNat := by
      simp [leVal]
    have ha := addCarry_cls hw h.2 (v := leVal [r.getD (r.length - 1) 0, 0])
      (by rw [hv]; have := (r.getD (r.length - 1) 0).toNat_lt; omega)
    refine ⟨ha.1.trans ?_, ha.2⟩
    conv => rhs; rw [hr, leWords_append_even _ _ (by rw [List.length_take]; omega), ← Nat.add_assoc]
    rw [hv]
    exact Cls.add h.1 (Cls.refl _)
  · simp only [if_neg ho]
    rw [List.take_of_length_le (by omega)] at h
    exact h

theorem loop_cls {step : Nat} (hpos : 0 < step) (he : step % 2 = 0)
    (hsw : 256 ^ step ≤ 2 ^ w) (f tail : Nat → Bytes → Nat)
    (hf : ∀ s b, f s b =
      if step ≤ b.length then f (addCarry w s (leVal (b.take step))) (b.drop step) else tail s b)
    (ht : ∀ s r, s < 2 ^ w → r.length < step → Acc w (tail s r) (s + leWords r))
    (s : Nat) (b : Bytes) (hs : s < 2 ^ w) : Acc w (f s b) (s + leWords b) := by
  induction h : b.length using Nat.strongRecOn generalizing s b with
  | _ n ih =>
    rw [hf]
    split
    · have h1 := chunk_cls hw (r := b) (k := 0) (n := step) (by omega) rfl hsw ⟨Cls.refl s, hs⟩
      rw [Nat.zero_add] at h1
      have h2 := ih (b.drop step).length (by rw [List.length_drop]; omega) _ (b.drop step) h1.2 rfl
      refine ⟨h2.1.trans ?_, h2.2⟩
      conv => rhs; rw [← List.take_append_drop step b,
        leWords_append_even _ _ (by rw [List.length_take]; omega), ← Nat.add_assoc]
      exact Cls.add h1.1 (Cls.refl _)
    · exact ht s b hs (by omega)

end accumulator

theorem tail64_cls (s : Nat) (r : Bytes) (hs : s < 2^64) (hr : r.length < 8) :
    Acc 64 (tail64 s r) (s + leWords r) := by
  have hw : 2 ^ 64 % 65535 = 1 := by decide
  have h1 := optChunk_cls hw (r := r) (k := 0) (n := 4) (4 ≤ r.length) (by omega) rfl (by decide)
    ⟨Cls.refl s, hs⟩
  have h2 := optChunk_cls hw (n := 2) (2 ≤ r.length - if 4 ≤ r.length then 4 else 0)
    (by split <;> omega) (by split <;> rfl) (by decide) h1
  exact lastByte_cls hw (by decide) (hk := by split <;> split <;> omega)
    (hkl := by split <;> split <;> omega) (hlk := by split <;> split <;> omega) h2

theorem tail32_cls (s : Nat) (r : Bytes) (hs : s < 2^32) (hr : r.length < 4) :
    Acc 32 (tail32 s r) (s + leWords r) := by
  have hw : 2 ^ 32 % 65535 = 1 := by decide
  have h1 := optChunk_cls hw (r := r) (k := 0) (n := 2) (2 ≤ r.length) (by omega) rfl (by decide)
    ⟨Cls.refl s, hs⟩
  exact lastByte_cls hw (by decide) (hk := by split <;> rfl) (hkl := by split <;> omega)
    (hlk := by split <;> omega) h1

theorem addSlice64_cls (s : Nat) (b : Bytes) (hs : s < 2^64) : Acc 64 (addSlice64 s b) (s + leWords b) :=
  loop_cls (step := 8) (by decide) (by omega) rfl (by decide) addSlice64 tail64
    (fun s b => by rw [addSlice64]; rfl) tail64_cls s b hs

theorem addSlice32_cls (s : Nat) (b : Bytes) (hs : s < 2^32) : Acc 32 (addSlice32 s b) (s + leWords b) :=
  loop_cls (step := 4) (by decide) (by omega) rfl (by decide) addSlice32 tail32
    (fun s b => by rw [addSlice32]; rfl) tail32_cls s b hs

theorem addSlice64_lt8 (s : Nat) (r : Bytes) (h : r.length < 8) : addSlice64 s r = tail64 s r := by
  rw [addSlice64]
  have : ¬ 8 ≤ r.length := by omega
  simp [this]

theorem addSlice64_nil (s : Nat) : addSlice64 s [] = s := by
  unfold addSlice64; simp [tail64]

/-- one folding stage of `ones_complement`: the upper 16 bit word is added to the lower one. -/
theorem cls_foldStage (x : Nat) (hx : x < 2 ^ 32) : Cls (x / 65536 % 65536 + x % 65536) x := by
  rw [Nat.mod_eq_of_lt (show x / 65536 < 65536 by omega)]
  unfold Cls; omega

/-- the last stage (`y < 2^17`) followed by `as u16`. -/
theorem foldLast (y : Nat) (hy : y ≤ 65535 + 65535) :
    (y / 65536 % 65536 + y % 65536) % 65536 = fold16 y := by
  have hz : y / 65536 % 65536 + y % 65536 ≤ 65535 := by omega
  rw [Nat.mod_eq_of_lt (by omega), ← fold16_fix _ hz]
  exact fold16_congr (cls_foldStage y (by omega))

theorem onesComplement64_eq (s : Nat) (hs : s < 2^64) : onesComplement64 s = 65535 - fold16 s := by
  unfold onesComplement64
  simp only
  have hd : s = s % 65536 + 65536 * (s / 2^16 % 65536) + 4294967296 * (s / 2^32 % 65536)
      + 281474976710656 * (s / 2^48 % 65536) := by omega
  have h0 : s % 65536 < 65536 := by omega
  have h1 : s / 2^16 % 65536 < 65536 := by omega
  have h2 : s / 2^32 % 65536 < 65536 := by omega
  have h3 : s / 2^48 % 65536 < 65536 := by omega
  generalize s % 65536 = d0 at *
  generalize s / 2^16 % 65536 = d1 at *
  generalize s / 2^32 % 65536 = d2 at *
  generalize s / 2^48 % 65536 = d3 at *
  rw [foldLast _ (by omega)]
  refine congrArg _ (fold16_congr ((cls_foldStage _ (by omega)).trans ?_))
  subst hd
  unfold Cls
  omega

theorem onesComplement32_eq (s : Nat) (hs : s < 2^32) : onesComplement32 s = 65535 - fold16 s := by
  unfold onesComplement32
  simp only
  rw [foldLast _ (by omega)]
  exact congrArg _ (fold16_congr (cls_foldStage s hs))

theorem swap16_cls (v : Nat) (hv : v ≤ 65535) : Cls (swap16 v) (256 * v) ∧ swap16 v ≤ 65535 := by
  unfold swap16 Cls
  have e : v / 256 % 256 = v / 256 := by omega
  rw [e]; omega

theorem swap16_compl (v : Nat) (hv : v ≤ 65535) : swap16 (65535 - v) = 65535 - swap16 v := by
  unfold swap16
  have e : v / 256 % 256 = v / 256 := by omega
  have e' : (65535 - v) / 256 % 256 = (65535 - v) / 256 := by omega
  rw [e, e']; omega

theorem swap16_fold (x : Nat) : swap16 (fold16 x) = fold16 (256 * x) := by
  have h := swap16_cls (fold16 x) (fold16_le x)
  apply cls_eq_of_le _ h.2 (fold16_le _)
  exact (h.1.trans (Cls.mul256 (fold16_cls x))).trans (fold16_cls _).symm

theorem leWords_beWords : ∀ b : Bytes, Cls (256 * leWords b) (beWords b)
  | [] => by simp [leWords, beWords, Cls.refl]
  | [a] => by simp only [leWords, beWords]; unfold Cls; omega
  | a :: b :: rest => by
    have ih := leWords_beWords rest
    simp only [leWords, beWords]; unfold Cls at *; omega

theorem checksum_of_acc {x : Nat} {b : Bytes} (h : Acc 64 x (leWords b)) :
    swap16 (onesComplement64 x) = Spec.checksum b := by
  rw [onesComplement64_eq _ h.2, swap16_compl _ (fold16_le _), swap16_fold, Spec.checksum, ocSum_eq_fold]
  exact congrArg _ (fold16_congr ((Cls.mul256 h.1).trans (leWords_beWords b)))

end EpModel.Lemmas.Checksum
