import EpModel.Lemmas.Builder
import EpModel.Lemmas.SpecStep
/-
  C10, parsing half: `Spec.decode` over the bytes the PacketBuilder model emits.
  `Holds g o b`: the memory holds `b` at `o` (splits along `++`); each arm of `Spec.step` is read off a
  memory that holds the serialised header.  The IPv6 extension chain is walked header by header
  (`ChainRes`, composed by `cr_opt` over the optional headers in the order `set_next_headers` chains them).
  The stages over a configuration (`walk_tp_cfg`, `walk_net_cfg`, `walk_vlan_cfg`) end in `decode_buildOk`:
  `Spec.decode (startOf c)` of `buildOk c p` is `.ok (expPacket c p.length)` under `ParseOk`.
-/
namespace EpModel.Lemmas.BuilderParse
open EpModel EpModel.Dec EpModel.Spec EpModel.Codec EpModel.CodecNet EpModel.Builder EpModel.Lemmas.Builder
open EpModel.Lemmas.Codec
open EpModel.Lemmas.CodecNet (or_eq_add and31)

theorem g16_memOf (b : Bytes) (i : Nat) : g16 (memOf b) i = be16 b i := rfl

theorem g16_memOf_append_left (a b : Bytes) (i : Nat) (h : i + 1 < a.length) :
    g16 (memOf (a ++ b)) i = g16 (memOf a) i := by
  unfold Dec.g16
  rw [memOf, memOf, bAt_append_left a b i (by omega), bAt_append_left a b (i + 1) h]

theorem g16_memOf_append_right (a b : Bytes) (i : Nat) (h : a.length ≤ i) :
    g16 (memOf (a ++ b)) i = g16 (memOf b) (i - a.length) := by
  unfold Dec.g16
  rw [memOf, memOf, bAt_append_right a b i h, bAt_append_right a b (i + 1) (by omega)]
  have e : i + 1 - a.length = i - a.length + 1 := by omega
  rw [e]

def Holds (g : Mem) (o : Nat) (b : Bytes) : Prop := ∀ i, i < b.length → g (o + i) = bAt b i

theorem holds_memOf (b : Bytes) : Holds (memOf b) 0 b := by
  intro i _; simp [memOf]

theorem Holds.left {g : Mem} {o : Nat} {a b : Bytes} (h : Holds g o (a ++ b)) : Holds g o a := by
  intro i hi
  rw [h i (by simp; omega), bAt_append_left a b i hi]

theorem Holds.right {g : Mem} {o : Nat} {a b : Bytes} (h : Holds g o (a ++ b)) :
    Holds g (o + a.length) b := by
  intro i hi
  rw [Nat.add_assoc, h (a.length + i) (by simp; omega), bAt_append_right a b _ (by omega)]
  congr 1; omega

theorem Holds.at0 {g : Mem} {o : Nat} {b : Bytes} (h : Holds g o b) (hi : 0 < b.length) :
    g o = bAt b 0 := h 0 hi

theorem Holds.g16 {g : Mem} {o : Nat} {b : Bytes} (h : Holds g o b) (i : Nat) (hi : i + 1 < b.length) :
    g16 g (o + i) = be16 b i := by
  unfold Dec.g16 be16
  rw [h i (by omega), Nat.add_assoc, h (i + 1) hi]

theorem ipv4_fragWord (h : Ipv4Header) (hfo : h.fragmentOffset < 8192) :
    (h.fragAndFlags).1 % 256 * 256 + (h.fragAndFlags).2 % 256
      = (if h.dontFragment then 16384 else 0) + (if h.moreFragments then 8192 else 0) + h.fragmentOffset := by
  have e6 : (h.fragAndFlags).1 = (if h.dontFragment then 64 else 0)
      + (if h.moreFragments then 32 else 0) + h.fragmentOffset / 256 := by
    unfold Ipv4Header.fragAndFlags
    simp only [CodecNet.Ipv4.flagBits_eq, and31]
    rw [or_eq_add 5 (by split <;> split <;> omega) (by omega)]; omega
  have e7 : (h.fragAndFlags).2 = h.fragmentOffset % 256 := rfl
  rw [e6, e7]
  cases h.dontFragment <;> cases h.moreFragments <;> simp <;> omega

theorem ipv4_byte0 (h : Ipv4Header) (ho : h.options.length ≤ 40) :
    bAt h.toBytes 0 = 64 + (h.options.length / 4 + 5) := by
  have e0 : 64 ||| h.ihl = 64 + (h.options.length / 4 + 5) := by
    rw [CodecNet.Ipv4.ihl_eq h ho]; exact or_eq_add 4 (by decide) (by omega)
  unfold Ipv4Header.toBytes Ipv4Header.headerLen
  rw [bAt_take _ _ _ (by omega)]
  simp [e0]; omega

theorem ipv4_totalLen_field (h : Ipv4Header) (htl : h.totalLen < 65536) : be16 h.toBytes 2 = h.totalLen := by
  unfold Ipv4Header.toBytes Ipv4Header.headerLen
  rw [be16_take _ _ _ (by omega)]
  simp [be16]; omega

theorem ipv4_fragWord_field (h : Ipv4Header) (hfo : h.fragmentOffset < 8192) :
    be16 h.toBytes 6 = (if h.dontFragment then 16384 else 0) + (if h.moreFragments then 8192 else 0)
        + h.fragmentOffset := by
  unfold Ipv4Header.toBytes Ipv4Header.headerLen
  rw [be16_take _ _ _ (by omega)]
  simp [be16]
  exact ipv4_fragWord h hfo

theorem ipv4_protocol_field (h : Ipv4Header) (hp : h.protocol < 256) : bAt h.toBytes 9 = h.protocol := by
  unfold Ipv4Header.toBytes Ipv4Header.headerLen
  rw [bAt_take _ _ _ (by omega)]
  simp; omega

theorem ipv6_byte0 (h : Ipv6Header) (htc : h.trafficClass < 256) : bAt h.toBytes 0 / 16 = 6 := by
  have e0 : 96 ||| (h.trafficClass >>> 4) = 96 + h.trafficClass / 16 := by
    rw [Nat.shiftRight_eq_div_pow]; exact or_eq_add 4 (by decide) (by omega)
  unfold Ipv6Header.toBytes
  simp [e0]; omega

theorem ipv6_fields (h : Ipv6Header) (hpl : h.payloadLength < 65536) (hn : h.nextHeader < 256) :
    be16 h.toBytes 4 = h.payloadLength ∧ bAt h.toBytes 6 = h.nextHeader := by
  unfold Ipv6Header.toBytes
  refine ⟨?_, ?_⟩
  · simp [be16]; omega
  · simp; omega

theorem eth2_et (h : Eth2) (wf : h.WF) : be16 (Eth2.toBytes h) 12 = h.et := by
  obtain ⟨hd, hs, he⟩ := wf
  unfold Eth2.toBytes
  rw [be16_append_right _ _ _ (by simp [hd, hs])]
  simp only [List.length_append, hd, hs]
  have := be16_enc16 h.et [] he
  simpa using this

theorem vlan_et (v : Vlan) (he : v.et < 65536) : be16 (Vlan.toBytes v) 2 = v.et := by
  unfold Vlan.toBytes
  have := be16_enc16 v.et [] he
  simpa [be16] using this

theorem sll_fields (s : Sll) (h1 : s.ptype < 65536) (h2 : s.hrd < 65536) (h4 : s.addr.length = 8)
    (h5 : s.proto.val < 65536) :
    be16 (Sll.toBytes s) 0 = s.ptype ∧ be16 (Sll.toBytes s) 2 = s.hrd ∧ be16 (Sll.toBytes s) 14 = s.proto.val := by
  unfold Sll.toBytes
  refine ⟨?_, ?_, ?_⟩
  · simp only [List.append_assoc]; exact be16_enc16 _ _ h1
  · simp only [List.append_assoc]
    rw [be16_append_right _ _ _ (by simp)]
    exact be16_enc16 _ _ h2
  · rw [be16_append_right _ _ _ (by simp [h4])]
    simp only [List.length_append, enc16_length, h4]
    have := be16_enc16 s.proto.val [] h5
    simpa using this

theorem udp_len_field (u : Udp) (h : u.len < 65536) : be16 (Udp.toBytes u) 4 = u.len := by
  unfold Udp.toBytes
  simp only [List.append_assoc]
  rw [be16_append_right _ _ _ (by simp), be16_append_right _ _ _ (by simp)]
  exact be16_enc16 _ _ h

theorem tcp_b12_div : ∀ len, len < 41 → len % 4 = 0 → ∀ ns : Bool,
    let v := (((5 + (len >>> 2)) <<< 4) % 256) &&& 0xF0
    ((if ns then v ||| 1 else v) % 256) / 16 * 4 = 20 + len := by decide

theorem tcp_dataOffset (h : Tcp) (hl : h.opts.len ≤ 40) (h4 : h.opts.len % 4 = 0) :
    bAt (Tcp.toBytes h) 12 / 16 * 4 = 20 + h.opts.len := by
  unfold Tcp.toBytes Tcp.headerLen
  rw [bAt_take _ _ _ (by omega)]
  have := tcp_b12_div h.opts.len (by omega) h4 h.ns
  simpa [Tcp.fixed, enc16, enc32, Tcp.byte12, TcpOpts.dataOffset] using this

/-- ICMPv4 type and code byte as emitted -/
def icmp4TypeCode : Icmp4Type → Nat × Nat
  | .unknown t c _ => (t % 256, c % 256)
  | .echoReply _ _ => (0, 0)
  | .destUnreach code _ => (3, if code = 4 then 4 else code % 256)
  | .redirect code _ => (5, code % 256)
  | .echoRequest _ _ => (8, 0)
  | .timeExceeded code => (11, code % 256)
  | .paramProblem code _ => (12, if code = 0 then 0 else code % 256)
  | .tsRequest .. => (13, 0)
  | .tsReply .. => (14, 0)

theorem icmp4_fields (h : Icmp4) :
    bAt (Icmp4.toBytes h) 0 = (icmp4TypeCode h.ty).1 ∧ bAt (Icmp4.toBytes h) 1 = (icmp4TypeCode h.ty).2 := by
  obtain ⟨ty, ck⟩ := h
  cases ty <;> simp [Icmp4.toBytes, icmp4TypeCode, Icmp4.re4u8, Icmp4.re2u16, Icmp4.reZero,
    Icmp4.reTimestamp] <;> split <;> simp [*]

theorem rawExt_fields (h : Ipv6RawExtHeader) (wf : h.WF) :
    bAt h.toBytes 0 = h.nextHeader ∧ (bAt h.toBytes 1 + 1) * 8 = h.headerLen := by
  have hl := CodecNet.RawExt.headerLen_eq h wf
  rw [CodecNet.RawExt.toBytes_eq h wf, hl]
  obtain ⟨h1, h2, h3, h4⟩ := wf
  simp
  omega

theorem frag_fields (h : Ipv6FragmentHeader) (wf : h.WF) :
    bAt h.toBytes 0 = h.nextHeader ∧
    be16 h.toBytes 2 = h.fragmentOffset * 8 + (if h.moreFragments then 1 else 0) := by
  have hw := CodecNet.Ipv6Frag.foWord_eq h wf.2.1
  obtain ⟨h1, h2, h3⟩ := wf
  unfold Ipv6FragmentHeader.toBytes
  rw [hw]
  refine ⟨by simp; omega, ?_⟩
  simp [be16]
  split <;> omega

theorem auth_fields (h : IpAuthHeader) (wf : h.WF) :
    bAt h.toBytes 0 = h.nextHeader ∧ bAt h.toBytes 1 ≠ 0 ∧ (bAt h.toBytes 1 + 2) * 4 = h.headerLen := by
  have hl := CodecNet.Auth.headerLen_eq h wf
  have hr := CodecNet.Auth.rawIcvLen_eq h wf
  rw [CodecNet.Auth.toBytes_eq h wf, hl]
  obtain ⟨h1, h2, h3, h4, h5⟩ := wf
  simp [IpAuthHeader.fixedPart, hr]
  omega

theorem arp_fields (a : Arp) (wf : a.WF) :
    8 + 2 * bAt a.toBytes 4 + 2 * bAt a.toBytes 5 = a.headerLen := by
  obtain ⟨_, _, _, h4, h5, h6, h7⟩ := wf
  simp [Arp.toBytes, Arp.headerLen, Arp.hwSize, Arp.protoSize, enc16]
  omega

/-- the transport layer strict decoding finds behind a header written for `t` at `o` with `n`
    payload bytes -/
def expTp (t : Option Tp) (o n : Nat) : Option TpR :=
  match t with
  | none => none
  | some (.udp _) => some (.udp ⟨o, 8 + n⟩)
  | some (.tcp h) => some (.tcp ⟨o, h.headerLen + n⟩ h.headerLen)
  | some (.icmp4 h) => some (.icmp4 ⟨o, h.headerLen + n⟩)
  | some (.icmp6 _) => some (.icmp6 ⟨o, 8 + n⟩)

/-- RFC 792 timestamp messages are exactly 20 bytes: the one transport configuration whose
    output strict decoding refuses is a (typed or raw) timestamp header with another size. -/
def Icmp4Ok (t : Icmp4) (n : Nat) : Prop :=
  ¬ (((icmp4TypeCode t.ty).1 = 13 ∨ (icmp4TypeCode t.ty).1 = 14) ∧ (icmp4TypeCode t.ty).2 = 0 ∧
      t.headerLen + n ≠ 20)
instance (t : Icmp4) (n : Nat) : Decidable (Icmp4Ok t n) := by unfold Icmp4Ok; infer_instance

def withTp (p : Packet) (t : Option TpR) : Packet := { p with tp := t }

theorem walk_good {g : Mem} {k : Nat} {p p' : Packet} {t t' : Tag} {c c' : Ctx}
    (hs : Spec.step false g p t c = ⟨p', t', c', none⟩) (ht : t ≠ .done := by simp) :
    walkN false g (k + 1) p t c = walkN false g k p' t' c' :=
  walkN_next false g k p p' t t' c c' ht hs

theorem walk_end {g : Mem} {k : Nat} {p p' : Packet} {t : Tag} {c : Ctx}
    (hs : Spec.step false g p t c = ⟨p', .done, c, none⟩) (ht : t ≠ .done := by simp) :
    walkN false g (k + 1) p t c = (p', none) :=
  walkN_last k ht hs

section transport
variable {g : Mem} {k : Nat} {p : Packet} {o : Nat} (n : Nat) {lim : Dec.LenSource} {ne : Nat}

theorem walk_udp (u : Udp) (hlen : u.len = 8 + n) (hn : 8 + n < 65536) (hh : Holds g o (Udp.toBytes u)) :
    walkN false g (k + 1) p (.tp 17) ⟨o, o + (8 + n), lim, ne⟩ = (setTp p (.udp ⟨o, 8 + n⟩), none) := by
  have hf : g16 g (o + 4) = 8 + n := by
    rw [hh.g16 4 (by simp [udp_len]), udp_len_field u (by omega), hlen]
  have h1 : ¬ (8 + n < 8) := by omega
  exact walk_end (by simp [Spec.step, avail_mk, hf, h1])

theorem walk_tcp (h : Tcp) (wo : h.opts.WF) (hh : Holds g o (Tcp.toBytes h)) :
    walkN false g (k + 1) p (.tp 6) ⟨o, o + (h.headerLen + n), lim, ne⟩
      = (setTp p (.tcp ⟨o, h.headerLen + n⟩ h.headerLen), none) := by
  obtain ⟨ho1, ho2, ho3, _⟩ := wo
  have hl := tcp_len h ho3 ho1
  have hf : g (o + 12) / 16 * 4 = h.headerLen := by
    rw [hh 12 (by omega), tcp_dataOffset h ho1 ho2, Tcp.headerLen]
  have hl' : h.headerLen = 20 + h.opts.len := rfl
  have h1 : ¬ (h.headerLen + n < 20) := by omega
  have h2 : ¬ (g (o + 12) / 16 < 5) := by omega
  have h3 : ¬ (h.headerLen + n < h.headerLen) := by omega
  exact walk_end (by simp [Spec.step, avail_mk, hf, h1, h2, h3])

theorem walk_icmp4 (h : Icmp4) (wf : icmp4LenOk h.ty) (ok : Icmp4Ok h n) (hh : Holds g o (Icmp4.toBytes h)) :
    walkN false g (k + 1) p (.tp 1) ⟨o, o + (h.headerLen + n), lim, ne⟩
      = (setTp p (.icmp4 ⟨o, h.headerLen + n⟩), none) := by
  have hl := icmp4_len h wf
  have h8 : 8 ≤ h.headerLen := by unfold Icmp4.headerLen; split <;> omega
  have hf0 : g o = (icmp4TypeCode h.ty).1 := by rw [hh.at0 (by omega), (icmp4_fields h).1]
  have hf1 : g (o + 1) = (icmp4TypeCode h.ty).2 := by rw [hh 1 (by omega), (icmp4_fields h).2]
  have h1 : ¬ (h.headerLen + n < 8) := by omega
  unfold Icmp4Ok at ok
  refine walk_end ?_
  simp only [step_tp, icmp4Step, avail_mk, hf0, hf1, Nat.add_sub_cancel_left, h1, ok, if_false]
  simp [StepR.good]

end transport

theorem v4Fragmented_eq (g : Mem) (o : Nat) (h : Ipv4Header) (hfo : h.fragmentOffset < 8192)
    (hw : g16 g (o + 6) = (if h.dontFragment then 16384 else 0) + (if h.moreFragments then 8192 else 0)
        + h.fragmentOffset) :
    v4Fragmented g o = (h.moreFragments || decide (h.fragmentOffset ≠ 0)) := by
  have key : ((g16 g (o + 6) / 8192) % 2 = 1 ∨ g16 g (o + 6) % 8192 ≠ 0)
      ↔ (h.moreFragments = true ∨ h.fragmentOffset ≠ 0) := by
    rw [hw]; cases h.dontFragment <;> cases h.moreFragments <;> simp <;> omega
  simp only [v4Fragmented, key]
  simp

/-- the IPv4 layer of a packet whose header is `h` (at `o`), with `al` bytes of authentication
    header and `rest` bytes behind -/
def expIpv4 (o ol : Nat) (frag : Bool) (auth : Option Win) (num al rest : Nat) : IpR :=
  { v4 := true, hdr := ⟨o, 20 + ol⟩, auth := auth, exts := ⟨o, 0⟩, first := none,
    slots := ExtSlots.none,
    pl := { num := num, frag := frag, src := .ipv4HeaderTotalLen,
            w := ⟨o + (20 + ol) + al, rest⟩, inc := false } }

/-- RFC 791 fragmentation of a header value: more-fragments flag or a fragment offset -/
def v4Frag (h : Ipv4Header) : Bool := h.moreFragments || decide (h.fragmentOffset ≠ 0)

theorem bound_ok (lax : Bool) (c : Ctx) (u : Unit_) (f : Dec.LenSource) (hl total : Nat)
    (h1 : hl ≤ total) (h2 : c.off + total ≤ c.stop) :
    bound lax c u f hl total = .ok (c.off + total, f, false) := by
  unfold bound Ctx.avail
  rw [if_neg (by omega), if_neg (by omega)]

theorem inherit_ne (outer inner : Dec.LenSource) (h : inner ≠ .slice) : inherit outer inner = inner := if_neg h

theorem built_ipv4 (g : Mem) (p : Packet) (o S : Nat) (lim : Dec.LenSource) (ne : Nat) (h : Ipv4Header)
    (e : Ipv4Extensions) (num rest ol tl : Nat) (fr : Bool) (hol : h.options.length = ol) (hfr : v4Frag h = fr)
    (htl : h.totalLen = tl) (ho : ol ≤ 40) (ho4 : ol % 4 = 0)
    (hfo : h.fragmentOffset < 8192) (hs : h.source.length = 4) (hd : h.destination.length = 4)
    (we : optP IpAuthHeader.WF e.auth) (hnum : num < 256) (hn51 : num ≠ 51)
    (hp : h.protocol = (ipv4ExtsSetNextHeaders e num).2)
    (hrest : tl = 20 + ol + e.headerLen + rest) (hfit : tl < 65536)
    (hh : Holds g o (h.toBytes ++ ipv4ExtsOut e num)) (hS : o + tl ≤ S) :
    Spec.step false g p .ipv4 ⟨o, S, lim, ne⟩
      = ⟨setNet p (.ip (expIpv4 o ol fr (e.auth.map fun a => ⟨o + (20 + ol), a.headerLen⟩) num e.headerLen rest)),
         if fr then .done else .tp num,
         ⟨o + (20 + ol + e.headerLen), o + tl, .ipv4HeaderTotalLen, ne⟩,
         none⟩ := by
  subst hol hfr htl
  have hl := ipv4_len h hs hd ho
  have hlt : ∀ i, i < 20 → i < h.toBytes.length := fun i hi => by omega
  have a1 : ¬ (S - o < 20) := by omega
  have a2 : ¬ (S - o < 20 + h.options.length) := by omega
  have hh1 := hh.left
  have hh2 := hh.right
  rw [hl] at hh2
  have g2 : g16 g (o + 2) = h.totalLen := by rw [hh1.g16 2 (hlt 3 (by decide)), ipv4_totalLen_field h hfit]
  have gf := v4Fragmented_eq g o h hfo (by rw [hh1.g16 6 (hlt 7 (by decide)), ipv4_fragWord_field h hfo])
  have g9 : g (o + 9) = (ipv4ExtsSetNextHeaders e num).2 := by
    rw [hh1 9 (hlt 9 (by decide)), ipv4_protocol_field h, hp]
    rw [hp]; unfold ipv4ExtsSetNextHeaders; split <;> simp only <;> omega
  have g0 : g o = 64 + (h.options.length / 4 + 5) := by rw [hh1.at0 (hlt 0 (by decide)), ipv4_byte0 h ho]
  have g0a : ¬ (g o / 16 ≠ 4) := by omega
  have g0b : g o % 16 * 4 = 20 + h.options.length := by omega
  have g0c : ¬ (g o % 16 < 5) := by omega
  unfold Spec.step
  dsimp only
  rw [avail_mk, if_neg a1, if_neg g0a, if_neg g0c, g0b, if_neg a2, g2, bound_ok _ _ _ _ _ _ (by omega) hS]
  simp only [avail_mk, inherit_ne lim .ipv4HeaderTotalLen (by decide), gf, g9]
  rw [← Nat.add_assoc o (20 + h.options.length) e.headerLen]
  clear g0 g0a g0b g0c g2 gf g9 a1 a2 hh1 hh hlt
  rcases e with ⟨_ | a⟩
  · have e1 : o + h.totalLen - (o + (20 + h.options.length)) = rest := by
      simp only [Ipv4Extensions.headerLen] at hrest; omega
    simp only [ipv4ExtsSetNextHeaders, hn51, e1, if_false]
    rfl
  · have wa := authWithNext_wf a num we hnum
    have hal : (Ipv6Exts.authWithNext a num).toBytes.length = a.headerLen := auth_len _ wa
    change Holds g _ (Ipv6Exts.authWithNext a num).toBytes at hh2
    obtain ⟨b0, b1, b2⟩ := auth_fields _ wa
    simp only [Ipv4Extensions.headerLen] at hrest ⊢
    have h12 : 12 ≤ a.headerLen := by unfold IpAuthHeader.headerLen; omega
    have a5 : ¬ (o + h.totalLen - (o + (20 + h.options.length)) < 12) := by omega
    have a6 : ¬ (o + h.totalLen - (o + (20 + h.options.length)) < a.headerLen) := by omega
    have e1 : o + h.totalLen - (o + (20 + h.options.length) + a.headerLen) = rest := by omega
    have c0 : g (o + (20 + h.options.length)) = num := by rw [hh2.at0 (by omega), b0]; rfl
    have c1 : g (o + (20 + h.options.length) + 1) = bAt (Ipv6Exts.authWithNext a num).toBytes 1 :=
      hh2 1 (by omega)
    have b2' : (bAt (Ipv6Exts.authWithNext a num).toBytes 1 + 2) * 4 = a.headerLen := b2
    simp only [ipv4ExtsSetNextHeaders, c0, c1, b1, b2', a5, a6, e1, if_true, if_false, Option.map]
    rfl

section chain
variable {g : Mem} {lim : Dec.LenSource} {stop : Nat} {first : Bool}

theorem chain_raw {nh : Nat} (h : Ipv6RawExtHeader) (wf : h.WF) (hnh : nh = 60 ∨ nh = 43 ∨ (nh = 0 ∧ first = true))
    (frag : Bool) (o : Nat) (hh : Holds g o h.toBytes) (hfit : o + h.toBytes.length ≤ stop) :
    Spec.chain g lim first nh frag o stop
      = Spec.chain g lim false h.nextHeader frag (o + h.toBytes.length) stop := by
  have hl := rawExt_len h wf
  have hl' := CodecNet.RawExt.headerLen_eq h wf
  obtain ⟨b0, b1⟩ := rawExt_fields h wf
  have w2 := wf.2.1
  have g0 : g o = h.nextHeader := by rw [hh.at0 (by omega), b0]
  have g1 : (g (o + 1) + 1) * 8 = h.toBytes.length := by rw [hh 1 (by omega), b1, hl]
  have a1 : ¬ (stop - o < 8) := by omega
  have a2 : ¬ (stop - o < h.toBytes.length) := by omega
  rw [Spec.chain]
  obtain rfl | rfl | ⟨rfl, rfl⟩ := hnh
  all_goals simp [g0, g1, a1, a2]

theorem v6Fragmented_eq (g : Mem) (o : Nat) (h : Ipv6FragmentHeader)
    (hw : g16 g (o + 2) = h.fragmentOffset * 8 + (if h.moreFragments then 1 else 0)) :
    v6Fragmented g o = h.isFragmentingPayload := by
  have key : (g16 g (o + 2) % 2 = 1 ∨ g16 g (o + 2) / 8 ≠ 0)
      ↔ (h.moreFragments = true ∨ 0 ≠ h.fragmentOffset) := by
    rw [hw]; cases h.moreFragments <;> simp <;> omega
  simp only [v6Fragmented, key, Ipv6FragmentHeader.isFragmentingPayload]
  simp

theorem chain_frag (h : Ipv6FragmentHeader) (wf : h.WF) (frag : Bool) (o : Nat) (hh : Holds g o h.toBytes)
    (hfit : o + h.toBytes.length ≤ stop) :
    Spec.chain g lim first 44 frag o stop
      = Spec.chain g lim false h.nextHeader (frag || h.isFragmentingPayload) (o + h.toBytes.length) stop := by
  have hl := CodecNet.Ipv6Frag.toBytes_length h
  obtain ⟨b0, b2⟩ := frag_fields h wf
  have g0 : g o = h.nextHeader := by rw [hh.at0 (by omega), b0]
  have g2 := v6Fragmented_eq g o h (by rw [hh.g16 2 (by omega), b2])
  have a1 : ¬ (stop - o < 8) := by omega
  rw [Spec.chain]
  simp [g0, g2, a1, hl]

theorem chain_auth (h : IpAuthHeader) (wf : h.WF) (frag : Bool) (o : Nat) (hh : Holds g o h.toBytes)
    (hfit : o + h.toBytes.length ≤ stop) :
    Spec.chain g lim first 51 frag o stop
      = Spec.chain g lim false h.nextHeader frag (o + h.toBytes.length) stop := by
  have hl := auth_len h wf
  have hl' := CodecNet.Auth.headerLen_eq h wf
  obtain ⟨b0, b1, b2⟩ := auth_fields h wf
  have g0 : g o = h.nextHeader := by rw [hh.at0 (by omega), b0]
  have g1 : g (o + 1) ≠ 0 := by rw [hh 1 (by omega)]; exact b1
  have g2 : (g (o + 1) + 2) * 4 = h.toBytes.length := by rw [hh 1 (by omega), b2, hl]
  have a1 : ¬ (stop - o < 12) := by omega
  have a2 : ¬ (stop - o < h.toBytes.length) := by omega
  rw [Spec.chain]
  simp [g0, g1, g2, a1, a2]

/-- the chain walk over `bytes` (sitting anywhere in front of `stop`), entered with next header `nh`
    and fragmentation flag `fi`, ends behind them at the number `num` with the flag `fo` -/
def ChainRes (g : Mem) (lim : Dec.LenSource) (stop num : Nat) (first : Bool) (nh : Nat) (bytes : Bytes)
    (fi fo : Bool) : Prop :=
  ∀ o, Holds g o bytes → o + bytes.length ≤ stop →
    Spec.chain g lim first nh fi o stop = (⟨num, fo, o + bytes.length⟩, none)

variable {num nh : Nat} {rest : Bytes} {fi fo : Bool}

theorem cr_opt {α} {fm : Bool} (f : α → Bytes) (x : Option α) (tag nrest : Nat) (hn0 : nrest ≠ 0)
    (hstep : ∀ h, x = some h → ∀ o, Holds g o (f h) → o + (f h).length ≤ stop →
      Spec.chain g lim first tag fi o stop = Spec.chain g lim false nrest fm (o + (f h).length) stop)
    (hnone : x = none → fm = fi) (hr : ChainRes g lim stop num false nrest rest fm fo) :
    ChainRes g lim stop num first (optNum x.isSome tag nrest) (optB f x ++ rest) fi fo := by
  intro o hh hfit
  cases x with
  | some h =>
    simp only [optB_some, List.length_append] at hh hfit ⊢
    rw [show optNum (some h).isSome tag nrest = tag from rfl, hstep h rfl o hh.left (by omega),
      hr _ hh.right (by omega), Nat.add_assoc]
  | none =>
    rw [show optNum (none : Option α).isSome tag nrest = nrest from rfl, ← hnone rfl]
    cases first
    · exact hr o hh hfit
    · rw [chain_first_irrelevant g lim nrest fm o stop hn0]
      exact hr o hh hfit

end chain

open Ipv6Exts

def fragOf (x : Option Ipv6FragmentHeader) : Bool :=
  match x with | some f => f.isFragmentingPayload | none => false

theorem setNextHeaders_bytes (e : Ipv6Exts) (num : Nat) :
    stdBytes (e.setNextHeaders num).1
      = optB (fun h => (rawWithNext h (nDest e num)).toBytes) e.hbh
        ++ (optB (fun h => (rawWithNext h (nRoute e num)).toBytes) e.dest
        ++ (optB (fun r => (rawWithNext r.routing (nFrag e num)).toBytes) e.routing
        ++ (optB (fun h => (fragWithNext h (nAuth e num)).toBytes) e.fragment
        ++ (optB (fun h => (authWithNext h (nFd e num)).toBytes) e.auth
        ++ (optB (fun h => (rawWithNext h num).toBytes) e.finalDest ++ []))))) := by
  rw [setNextHeaders_eq, stdBytes_eq]
  obtain ⟨hbh, dest, routing, fragment, auth⟩ := e
  simp only [List.append_assoc, List.append_nil]
  congr 1
  · cases hbh <;> rfl
  congr 1
  · cases dest <;> rfl
  congr 1
  · cases routing <;> rfl
  congr 1
  · cases fragment <;> rfl
  congr 1
  · cases auth <;> rfl
  · rcases routing with _ | ⟨r, _ | fd⟩ <;> rfl

/-- the fragmentation flag the configured extension headers give the payload -/
def extsFrag (e : Ipv6Exts) : Bool := fragOf e.fragment

theorem chain_exts (g : Mem) (lim : Dec.LenSource) (stop num : Nat) (e : Ipv6Exts) (wf : e.WF)
    (hnum : num < 256) (h0 : num ≠ 0) (h60 : num ≠ 60) (h43 : num ≠ 43) (h44 : num ≠ 44) (h51 : num ≠ 51) :
    ChainRes g lim stop num true (e.setNextHeaders num).2 (stdBytes (e.setNextHeaders num).1)
      false (extsFrag e) := by
  obtain ⟨w1, w2, w3, w4, w5⟩ := wf
  obtain ⟨⟨a5, b5⟩, ⟨a4, b4⟩, ⟨a3, b3⟩, ⟨a2, b2⟩, ⟨a1, b1⟩⟩ :=
    nums_ind (fun n => n < 256 ∧ n ≠ 0) e num (by decide) (by decide) (by decide) (by decide) ⟨hnum, h0⟩
  have wfd : optP Ipv6RawExtHeader.WF e.finalDest := by
    unfold Ipv6Exts.finalDest
    rcases hr : e.routing with _ | r
    · trivial
    · rw [hr] at w3; exact w3.2
  rw [setNextHeaders_bytes, setNextHeaders_eq]
  show ChainRes g lim stop num true (optNum e.hbh.isSome 0 (nDest e num)) _ false (extsFrag e)
  have s6 : ChainRes g lim stop num false num [] (extsFrag e) (extsFrag e) := by
    intro o _ _
    rw [Spec.chain]
    simp [h0, h60, h43, h44, h51]
  have s5 := cr_opt (first := false) (fun h => (rawWithNext h num).toBytes) e.finalDest 60 num h0
    (fun h hx => chain_raw _ (rawWithNext_wf h num (optP_some wfd hx) hnum) (.inl rfl) _) (fun _ => rfl) s6
  have s4 := cr_opt (first := false) (fun h => (authWithNext h (nFd e num)).toBytes) e.auth 51 (nFd e num) b5
    (fun h hx => chain_auth _ (authWithNext_wf h _ (optP_some w5 hx) a5) _) (fun _ => rfl) s5
  have s3 := cr_opt (first := false) (fi := false) (fun h => (fragWithNext h (nAuth e num)).toBytes) e.fragment 44
    (nAuth e num) b4 (fun h hx => by
      rw [extsFrag, hx]
      exact chain_frag _ (fragWithNext_wf h _ (optP_some w4 hx) a4) _)
    (fun hx => by rw [extsFrag, hx]; rfl) s4
  have s2 := cr_opt (first := false) (fun r : Ipv6Routing => (rawWithNext r.routing (nFrag e num)).toBytes) e.routing 43
    (nFrag e num) b3
    (fun r hx => chain_raw _ (rawWithNext_wf r.routing _ (optP_some w3 hx).1 a3) (.inr (.inl rfl)) _) (fun _ => rfl) s3
  have s1 := cr_opt (first := false) (fun h => (rawWithNext h (nRoute e num)).toBytes) e.dest 60 (nRoute e num) b2
    (fun h hx => chain_raw _ (rawWithNext_wf h _ (optP_some w2 hx) a2) (.inl rfl) _) (fun _ => rfl) s2
  exact cr_opt (fun h => (rawWithNext h (nDest e num)).toBytes) e.hbh 0 (nDest e num) b1
    (fun h hx => chain_raw _ (rawWithNext_wf h _ (optP_some w1 hx) a1) (.inr (.inr ⟨rfl, rfl⟩)) _) (fun _ => rfl) s1

/-- the IPv6 layer of a packet whose header is `h` (at `o`), with `el` bytes of extension headers
    and `rest` bytes behind -/
def expIpv6 (o first num el rest : Nat) (frag : Bool) : IpR :=
  { v4 := false, hdr := ⟨o, 40⟩, auth := none, exts := ⟨o + 40, el⟩,
    first := if el = 0 then none else some first, slots := ExtSlots.none,
    pl := { num := num, frag := frag, src := .ipv6HeaderPayloadLen, w := ⟨o + 40 + el, rest⟩, inc := false } }

theorem built_ipv6 (g : Mem) (p : Packet) (o S : Nat) (lim : Dec.LenSource) (ne : Nat) (h : Ipv6Header)
    (eb : Bytes) (num rest plen nh el : Nat) (fo : Bool) (hpl : h.payloadLength = plen) (hnh : h.nextHeader = nh)
    (hel : eb.length = el) (htc : h.trafficClass < 256) (hs : h.source.length = 16)
    (hd : h.destination.length = 16) (hn : nh < 256) (hrest : plen = el + rest) (hfit : plen < 65536)
    (hS : S = o + (40 + plen)) (hh : Holds g o (h.toBytes ++ eb))
    (hc : ChainRes g .ipv6HeaderPayloadLen S num true nh eb false fo) :
    Spec.step false g p .ipv6 ⟨o, S, lim, ne⟩
      = ⟨setNet p (.ip (expIpv6 o nh num el rest fo)), if fo then .done else .tp num,
         ⟨o + (40 + el), S, .ipv6HeaderPayloadLen, ne⟩, none⟩ := by
  subst hpl hnh hel hS
  have a1 : ¬ (o + (40 + h.payloadLength) - o < 40) := by omega
  have a2 : ¬ (h.payloadLength = 0 ∧ o + (40 + h.payloadLength) - o > 40) := by omega
  have e1 : o + (40 + h.payloadLength) - (o + 40 + eb.length) = rest := by omega
  have e2 : o + 40 + eb.length - (o + 40) = eb.length := by omega
  have e3 : (o + 40 + eb.length = o + 40) = (eb.length = 0) := by simp only [eq_iff_iff]; omega
  have hch := hc (o + 40) (ipv6_len h hs hd ▸ hh.right) (by omega)
  have hh1 := hh.left
  have hl : ∀ i, i < 40 → i < h.toBytes.length := fun i hi => ipv6_len h hs hd ▸ hi
  have g0 : ¬ (g o / 16 ≠ 6) := by rw [hh1.at0 (hl 0 (by decide)), ipv6_byte0 h htc]; exact fun h => h rfl
  have g4 : g16 g (o + 4) = h.payloadLength := by rw [hh1.g16 4 (hl 5 (by decide)), (ipv6_fields h hfit hn).1]
  have g6 : g (o + 6) = h.nextHeader := by rw [hh1 6 (hl 6 (by decide)), (ipv6_fields h hfit hn).2]
  rw [step_ipv6]
  dsimp only
  rw [avail_mk, if_neg a1, if_neg g0, g4, if_neg a2, bound_ok _ _ _ _ _ _ (by omega) (Nat.le_refl _)]
  simp only [StepR.withBound, ipv6Rest, inherit_ne lim .ipv6HeaderPayloadLen (by decide), g6, hch, e1, e2, e3]
  rw [← Nat.add_assoc o 40 eb.length]
  rfl

section arms
variable (g : Mem) (p : Packet) (o S : Nat) (lim : Dec.LenSource) (ne : Nat)

theorem built_eth (hS : o + 14 ≤ S) :
    Spec.step false g p .eth ⟨o, S, lim, ne⟩
      = ⟨setLink p (.eth2 ⟨o, S - o⟩), .ether (g16 g (o + 12)), ⟨o + 14, S, lim, ne⟩, none⟩ := by
  rw [step_eth, avail_mk, if_neg (by omega)]
  rfl

theorem built_sll (et : Nat) (hS : o + 16 ≤ S) (h0 : g16 g o ≤ 7) (h2 : g16 g (o + 2) = 1)
    (h14 : g16 g (o + 14) = et) (hns : sllNonStandard et = false) :
    Spec.step false g p .sll ⟨o, S, lim, ne⟩
      = ⟨setLink p (.sll ⟨o, S - o⟩), .ether et, ⟨o + 16, S, lim, ne⟩, none⟩ := by
  have a1 : ¬ (S - o < 16) := by omega
  have a2 : ¬ (g16 g o > 7) := by omega
  simp [step_sll, avail_mk, StepR.good, a1, a2, h2, h14, hns, sllSupportedHw]

theorem built_arp (a : Arp) (wf : a.WF) (hh : Holds g o a.toBytes) (hS : o + a.headerLen ≤ S) :
    Spec.step false g p (.ether 0x0806) ⟨o, S, lim, ne⟩
      = ⟨setNet p (.arp ⟨o, a.headerLen⟩), .done, ⟨o + a.headerLen, S, lim, ne⟩, none⟩ := by
  have hl := arp_len a wf
  have h8 : 8 ≤ a.headerLen := by unfold Arp.headerLen; omega
  have hf := arp_fields a wf
  rw [← hh 4 (by omega), ← hh 5 (by omega)] at hf
  have a1 : ¬ (S - o < 8) := by omega
  have a2 : ¬ (S - o < a.headerLen) := by omega
  simp [Spec.step, avail_mk, isVlanType, a1, hf, a2]

end arms

def setTpO (p : Packet) (t : Option TpR) : Packet :=
  match t with
  | none => p
  | some x => setTp p x

/-- what makes the transport part of the output decodable: a payload announced by a protocol number
    (no transport header) must not be announced as UDP / TCP / ICMP, and an ICMPv4 timestamp header
    must come with exactly 20 bytes. -/
def TpOk (c : Cfg) (n : Nat) : Prop :=
  match c.tp with
  | none => c.last ≠ 17 ∧ c.last ≠ 6 ∧ c.last ≠ 1 ∧ c.last ≠ 58
  | some (.icmp4 h) => Icmp4Ok h n
  | some _ => True
instance (c : Cfg) (n : Nat) : Decidable (TpOk c n) := by
  unfold TpOk; split <;> infer_instance

section stages
variable (c : Cfg) (pl : Bytes) {g : Mem} {k : Nat} {pk : Packet} {o S : Nat} {lim : Dec.LenSource} {ne : Nat}

theorem walk_tp_cfg (wt : optP Tp.WF c.tp) (hnet : ∀ a, c.net ≠ .arp a)
    (hfit : tpHeaderLen c.tp + pl.length ≤ 65535) (ok : TpOk c pl.length)
    (hS : S = o + (tpHeaderLen c.tp + pl.length)) (hh : Holds g o (tpBytes (outTpHeader c pl))) :
    walkN false g (k + 1) pk (.tp (endNum c)) ⟨o, S, lim, ne⟩
      = (setTpO pk (expTp c.tp o pl.length), none) := by
  subst hS
  rcases htp : c.tp with _ | t
  · simp only [TpOk, htp] at ok
    simp only [endNum, htp, expTp, setTpO]
    exact walk_end (step_tp_other false g pk _ _ ok.2.2.1 ok.1 ok.2.1 ok.2.2.2)
  · obtain ⟨ck, hck⟩ : ∃ ck, outTpHeader c pl = some (withCk (setLenT t pl.length) ck) := by
      unfold outTpHeader
      rw [htp, setUdpLen_some]
      cases hn : c.net with
      | arp a => exact absurd hn (hnet a)
      | ipv4 ip e => exact ⟨_, rfl⟩
      | ipv6 ip e => exact ⟨_, rfl⟩
    rw [hck] at hh
    rw [htp] at wt hfit
    simp only [tpHeaderLen] at hfit
    simp only [endNum, htp, tpHeaderLen]
    cases t with
    | udp u =>
      simp only [Tp.headerLen, Udp.headerLen] at hfit
      exact walk_udp pl.length { sp := u.sp, dp := u.dp, len := (8 + pl.length) % 65536, ck := ck }
        (by show (8 + pl.length) % 65536 = 8 + pl.length; omega) (by omega) hh
    | tcp h =>
      exact walk_tcp pl.length { h with ck := ck } (tcp_opts_wf (h := h) wt) hh
    | icmp4 h =>
      simp only [TpOk, htp] at ok
      exact walk_icmp4 pl.length { ty := h.ty, ck := ck } wt ok hh
    | icmp6 h =>
      simp only [Tp.headerLen, Icmp6.headerLen] at hfit
      have h1 : ¬ (8 + pl.length < 8) := by omega
      have h2 : ¬ (8 + pl.length > 4294967295) := by omega
      exact walk_end (by
        simp [Spec.step, avail_mk, Tp.ipNumber, Tp.headerLen, Icmp6.headerLen, expTp,
          setTpO, h1, h2])

def cfgFrag (c : Cfg) : Bool :=
  match c.net with
  | .ipv4 ip _ => v4Frag ip
  | .ipv6 _ e => extsFrag e
  | .arp _ => false

/-- a payload without transport header must not be announced by a number the IP layer itself
    reads as an extension header -/
def RawOk (c : Cfg) : Prop :=
  c.tp = none →
    match c.net with
    | .ipv4 _ _ => c.last ≠ 51
    | .ipv6 _ _ => c.last ≠ 0 ∧ c.last ≠ 43 ∧ c.last ≠ 44 ∧ c.last ≠ 51 ∧ c.last ≠ 60
    | .arp _ => True
instance (c : Cfg) : Decidable (RawOk c) := by
  unfold RawOk; cases c.net <;> infer_instance

/-- the net layer strict decoding finds at `o` -/
def expNetAt (c : Cfg) (o n : Nat) : NetR :=
  match c.net with
  | .arp a => .arp ⟨o, a.headerLen⟩
  | .ipv4 ip e =>
    .ip (expIpv4 o ip.options.length (v4Frag ip)
          (e.auth.map fun a => ⟨o + (20 + ip.options.length), a.headerLen⟩) (endNum c) e.headerLen
          (tpHeaderLen c.tp + n))
  | .ipv6 _ e =>
    .ip (expIpv6 o (e.setNextHeaders (endNum c)).2 (endNum c) e.headerLen (tpHeaderLen c.tp + n) (extsFrag e))

/-- the transport layer strict decoding finds at `o` (none behind ARP and in fragments) -/
def expTpAt (c : Cfg) (o n : Nat) : Option TpR :=
  match c.net with
  | .arp _ => none
  | _ => if cfgFrag c then none else expTp c.tp o n

theorem endNum_ne (c : Cfg) (x : Nat) (hx : x ∉ [17, 6, 1, 58]) (hl : c.tp = none → c.last ≠ x) :
    endNum c ≠ x := by
  unfold endNum
  rcases htp : c.tp with _ | ⟨h | h | h | h⟩
  · exact hl htp
  all_goals
    simp only [Tp.ipNumber]
    rintro rfl
    exact hx (by decide)

variable (wf : c.WF) (enc : Encodable c pl.length)
include wf enc

/-- the side conditions under which strict decoding returns the configured layers (all decidable;
    each excluded case is a configuration whose output the wire formats read differently):
    ARP needs a link layer in front (there is no ether type otherwise); a payload without transport
    header must be announced by a protocol number that neither the IP layer (extension headers) nor
    the transport decoders (UDP, TCP, ICMP) interpret; ICMPv4 timestamp messages are 20 bytes. -/
def NetOk (c : Cfg) (n : Nat) : Prop :=
  match c.net with
  | .arp _ => c.link ≠ none
  | _ => RawOk c ∧ (cfgFrag c = false → TpOk c n)
instance (c : Cfg) (n : Nat) : Decidable (NetOk c n) := by
  unfold NetOk; split <;> infer_instance

theorem walk_net_cfg (ok : NetOk c pl.length) (t : Tag)
    (ht : t = .ether c.net.etherType ∨ (t = .ipAny ∧ ∀ a, c.net ≠ .arp a))
    (hS : S = o + (netLen c + tpHeaderLen c.tp + pl.length))
    (hh : Holds g o (outNet c pl.length ++ tpBytes (outTpHeader c pl))) :
    walkN false g (k + 3) pk t ⟨o, S, lim, ne⟩
      = (setTpO (setNet pk (expNetAt c o pl.length)) (expTpAt c (o + netLen c) pl.length), none) := by
  have hnum := endNum_lt c wf
  have hT := hh.right
  rw [outNet_len c pl.length wf] at hT
  obtain ⟨_, _, wn, wt, _⟩ := wf
  have tail : ∀ (pk' : Packet) (l' : Dec.LenSource), (∀ a, c.net ≠ .arp a) →
      tpHeaderLen c.tp + pl.length ≤ 65535 →
      (cfgFrag c = false → TpOk c pl.length) →
      walkN false g (k + 1) pk' (if cfgFrag c then .done else .tp (endNum c)) ⟨o + netLen c, S, l', ne⟩
        = (setTpO pk' (if cfgFrag c then none else expTp c.tp (o + netLen c) pl.length), none) := by
    intro pk' l' hna hfit htp
    by_cases hf : cfgFrag c = true
    · simp only [hf, if_true, walkN_done, setTpO]
    · simp only [hf]
      exact walk_tp_cfg c pl wt hna hfit (htp (by simpa using hf)) (S := S) (by omega) hT
  rcases hnet : c.net with a | ⟨ip, e⟩ | ⟨ip, e⟩ <;>
    simp only [hnet, NetOk, netLen, expNetAt, expTpAt, cfgFrag, innerLen, Net.extsLen, outNet, Encodable, Net.WF, RawOk,
      Net.etherType, setTpO] at wn enc ok hh hS ht tail ⊢
  · rcases ht with rfl | ⟨_, hna⟩
    · rw [walk_good (built_arp g pk o S lim ne a wn hh.left (by omega)), walkN_done]
    · exact absurd rfl (hna a)
  · obtain ⟨⟨_, _, _, _, hfo, _, _, _, hs, hd, ho, ho4⟩, we⟩ := wn
    have hl : (ipv4Out ip e (endNum c) (e.headerLen + tpHeaderLen c.tp + pl.length)).toBytes.length
        = 20 + ip.options.length := ipv4_len _ hs hd ho
    have g0 : g o / 16 = 4 := by
      rw [hh.left.left.at0 (by omega), ipv4_byte0 (ipv4Out ip e (endNum c) _) ho]
      show (64 + (ip.options.length / 4 + 5)) / 16 = 4
      omega
    have h1 : walkN false g (k + 3) pk t ⟨o, S, lim, ne⟩ = walkN false g (k + 2) pk .ipv4 ⟨o, S, lim, ne⟩ := by
      rcases ht with rfl | ⟨rfl, _⟩
      · exact walk_good rfl
      · exact walk_good (by simp [step_ipAny, avail_mk, StepR.good, g0, show ¬ (S - o < 1) by omega])
    rw [h1, walk_good (built_ipv4 g pk o S lim ne (ipv4Out ip e (endNum c) _) e (endNum c)
      (tpHeaderLen c.tp + pl.length) ip.options.length
      (20 + ip.options.length + (e.headerLen + tpHeaderLen c.tp + pl.length))
      (v4Frag ip) rfl rfl (Nat.mod_eq_of_lt (by show 20 + ip.options.length + _ < 65536; omega)) ho ho4 hfo hs hd we
      hnum (endNum_ne c 51 (by decide) ok.1) rfl (by omega) (by omega) hh.left (by omega))]
    rw [show o + (20 + ip.options.length + (e.headerLen + tpHeaderLen c.tp + pl.length)) = S by omega]
    exact tail _ _ (by simp) (by omega) ok.2
  · obtain ⟨⟨htc, _, _, _, _, hs, hd⟩, we⟩ := wn
    obtain ⟨hraw, htp⟩ := ok
    obtain ⟨wse, hnh⟩ := setNextHeaders_wf e (endNum c) we hnum
    have hl := ipv6_len (ipv6Out ip e (endNum c) (e.headerLen + tpHeaderLen c.tp + pl.length)) hs hd
    have g0 : g o / 16 = 6 := by rw [hh.left.left.at0 (by omega), ipv6_byte0 (ipv6Out ip e (endNum c) _) htc]
    have h1 : walkN false g (k + 3) pk t ⟨o, S, lim, ne⟩ = walkN false g (k + 2) pk .ipv6 ⟨o, S, lim, ne⟩ := by
      rcases ht with rfl | ⟨rfl, _⟩
      · exact walk_good rfl
      · exact walk_good (by simp [step_ipAny, avail_mk, StepR.good, g0, show ¬ (S - o < 1) by omega])
    have hn : ∀ x, x ∉ [17, 6, 1, 58] → (c.tp = none → c.last ≠ x) → endNum c ≠ x := endNum_ne c
    rw [h1, walk_good (built_ipv6 g pk o S lim ne (ipv6Out ip e (endNum c) _) (ipv6ExtsOut e (endNum c)) (endNum c)
      (tpHeaderLen c.tp + pl.length) _ (e.setNextHeaders (endNum c)).2 e.headerLen (extsFrag e)
      (Nat.mod_eq_of_lt (by omega)) rfl (by rw [ipv6ExtsOut, stdBytes_length _ wse, setNextHeaders_headerLen])
      htc hs hd hnh (by omega) (by omega) (by omega) hh.left
      (chain_exts g _ S (endNum c) e we hnum (hn 0 (by decide) fun h => (hraw h).1)
        (hn 60 (by decide) fun h => (hraw h).2.2.2.2) (hn 43 (by decide) fun h => (hraw h).2.1)
        (hn 44 (by decide) fun h => (hraw h).2.2.1) (hn 51 (by decide) fun h => (hraw h).2.2.2.1)))]
    exact tail _ _ (by simp) (by omega) htp

end stages

/-- VLAN tags found at `o` when `r` bytes follow them -/
def expExtsAt (c : Cfg) (o r : Nat) : List ExtR :=
  match c.vlan with
  | none => []
  | some (.single _) => [.vlan ⟨o, 4 + r⟩]
  | some (.double _ _) => [.vlan ⟨o, 8 + r⟩, .vlan ⟨o + 4, 4 + r⟩]

def addExts (p : Packet) (xs : List ExtR) : Packet := { p with exts := p.exts ++ xs }

theorem walk_vlan {g : Mem} {k : Nat} {pk : Packet} {o S : Nat} {lim : Dec.LenSource} {ne : Nat} (v : Vlan)
    (et next : Nat) (hv : isVlanType et = true) (hne : ne ≠ 3) (hn : next < 65536)
    (hh : Holds g o (withEt v next).toBytes) (hS : o + 4 ≤ S) :
    walkN false g (k + 1) pk (.ether et) ⟨o, S, lim, ne⟩
      = walkN false g k (addExt pk (.vlan ⟨o, S - o⟩)) (.ether next) ⟨o + 4, S, lim, ne + 1⟩ := by
  have a1 : ¬ (S - o < 4) := by omega
  have g2 : g16 g (o + 2) = next := by rw [hh.g16 2 (by rw [vlan_len]; decide), vlan_et _ hn]; rfl
  exact walk_good (by simp [Spec.step, avail_mk, hv, hne, a1, g2])

theorem walk_vlan_cfg (c : Cfg) (pl : Bytes) (wf : c.WF) (enc : Encodable c pl.length) (ok : NetOk c pl.length)
    {g : Mem} {k : Nat} {pk : Packet} {o : Nat} {lim : Dec.LenSource}
    (hh : Holds g o (outVlan c ++ (outNet c pl.length ++ tpBytes (outTpHeader c pl)))) :
    walkN false g (k + 5) pk (.ether (firstEt c.vlan c.net.etherType))
        ⟨o, o + (vlanLen c + (netLen c + tpHeaderLen c.tp + pl.length)), lim, 0⟩
      = (setTpO (setNet (addExts pk (expExtsAt c o (netLen c + tpHeaderLen c.tp + pl.length)))
                  (expNetAt c (o + vlanLen c) pl.length))
          (expTpAt c (o + vlanLen c + netLen c) pl.length), none) := by
  have het := netEt_lt c
  rcases hv : c.vlan with _ | ⟨v | ⟨vo, vi⟩⟩
  · simp only [hv, outVlan, vlanBytes] at hh
    simpa [firstEt, vlanLen, hv, expExtsAt, addExts] using
      walk_net_cfg c pl wf enc (k := k + 2) (pk := pk) (lim := lim) (ne := 0) ok _ (.inl rfl) rfl hh.right
  · simp only [hv, outVlan, vlanBytes] at hh
    simp only [hv, firstEt, vlanLen, expExtsAt]
    have hr := hh.right
    rw [vlan_len] at hr
    rw [walk_vlan v _ _ (by decide) (by decide) het hh.left (by omega), Nat.add_sub_cancel_left]
    refine walk_net_cfg c pl wf enc ok _ (.inl rfl) ?_ hr
    omega
  · simp only [hv, outVlan, vlanBytes] at hh
    simp only [hv, firstEt, vlanLen, expExtsAt]
    have h2 := hh.left.right
    have hr := hh.right
    simp only [List.length_append, vlan_len, Nat.reduceAdd] at h2 hr
    have e1 : ∀ r, o + (8 + r) - (o + 4) = 4 + r := fun r => by omega
    have e2 : ∀ a b, addExts pk [a, b] = addExt (addExt pk a) b := fun a b => by simp [addExts, addExt]
    rw [walk_vlan vo _ 0x8100 (by decide) (by decide) (by decide) hh.left.left (by omega), Nat.add_sub_cancel_left,
      walk_vlan vi _ _ (by decide) (by decide) het h2 (by omega), e1, Nat.add_assoc o 4 4, e2]
    simp only [Nat.reduceAdd]
    refine walk_net_cfg c pl wf enc ok _ (.inl rfl) ?_ hr
    omega

/-- `NetOk`, and VLAN tags only behind an Ethernet II header (the typed builder steps offer
    `vlan` only there; the model's `Cfg` is wider: behind an SLL header the builder would announce
    the net layer and emit the tags nevertheless) -/
def ParseOk (c : Cfg) (n : Nat) : Prop :=
  (match c.link with
   | some (.eth2 _) => True
   | _ => c.vlan = none) ∧ NetOk c n
instance (c : Cfg) (n : Nat) : Decidable (ParseOk c n) := by
  unfold ParseOk
  rcases c.link with _ | ⟨h | s⟩ <;> infer_instance

/-- the entry point that fits the configuration: `from_ethernet`, `from_linux_sll`, `from_ip` -/
def startOf (c : Cfg) : Start :=
  match c.link with
  | some (.eth2 _) => .eth
  | some (.sll _) => .sll
  | none => .ip

/-- the layers strict decoding returns for the output of configuration `c` with `n` payload bytes -/
def expPacket (c : Cfg) (n : Nat) : Packet :=
  { link := (match c.link with
      | some (.eth2 _) => some (.eth2 ⟨0, size c n⟩)
      | some (.sll _) => some (.sll ⟨0, size c n⟩)
      | none => none),
    exts := expExtsAt c (linkLen c) (netLen c + tpHeaderLen c.tp + n),
    net := some (expNetAt c (linkLen c + vlanLen c) n),
    tp := expTpAt c (linkLen c + vlanLen c + netLen c) n,
    stop := none }

theorem size_eq (c : Cfg) (n : Nat) :
    size c n = linkLen c + (vlanLen c + (netLen c + tpHeaderLen c.tp + n)) := by
  rw [tpHeaderLen_eq]
  unfold size
  rw [Nat.add_assoc, Nat.add_assoc, Nat.add_assoc, Nat.add_assoc (netLen c)]
  -- `linkLen`, `vlanLen` and `netLen` unfold to the first three summands of `size`
  rfl

theorem verdict_setTpO (l : Option LinkR) (xs : List ExtR) (n : NetR) (t : Option TpR) :
    verdict (setTpO (setNet (addExts { link := l, exts := [], net := none, tp := none, stop := none } xs) n) t, none)
      = .ok { link := l, exts := xs, net := some n, tp := t, stop := none } := by
  cases t <;> simp [verdict, setTpO, setNet, addExts, setTp]

theorem sll_not_nonstd (c : Cfg) : sllNonStandard c.net.etherType = false := by
  cases c.net <;> simp [Net.etherType, sllNonStandard]

theorem decode_buildOk (c : Cfg) (pl : Bytes) (wf : c.WF) (enc : Encodable c pl.length)
    (ok : ParseOk c pl.length) :
    Spec.decode (startOf c) (memOf (buildOk c pl)) (buildOk c pl).length = .ok (expPacket c pl.length) := by
  have hll := outLink_len c wf.1
  have hh0 := holds_memOf (buildOk c pl)
  generalize memOf (buildOk c pl) = g at hh0 ⊢
  have hb : buildOk c pl = outLink c ++ ((outVlan c ++ (outNet c pl.length ++ tpBytes (outTpHeader c pl))) ++ pl) := by
    simp [buildOk, List.append_assoc]
  rw [hb] at hh0
  have hL := hh0.left
  have hR := hh0.right.left
  rw [Nat.zero_add] at hR
  rw [buildOk_length c pl wf, size_eq]
  unfold Spec.decode expPacket
  rw [size_eq, show maxSteps = 12 from rfl]
  rcases hl : c.link with _ | ⟨h | s⟩
  · -- no link layer: `from_ip`
    have hv : c.vlan = none := by have := ok.1; rw [hl] at this; exact this
    have hll0 : (outLink c).length = 0 := by rw [hll, linkLen, hl]
    rw [hll0] at hR
    simp only [outVlan, vlanBytes, hv] at hR
    simp only [startOf, hl, startTag, startPacket, ite_self, linkLen, vlanLen, expExtsAt, hv, Nat.zero_add]
    rw [walk_net_cfg c pl wf enc ok.2 _ (.inr ⟨rfl, fun a hnet => by have := ok.2; simp [NetOk, hnet, hl] at this⟩)
      (Nat.zero_add _).symm hR.right]
    simp only [Nat.zero_add]
    exact verdict_setTpO none [] _ _
  · -- Ethernet II: `from_ethernet`
    have wl : h.WF := by have := wf.1; rw [hl] at this; exact this
    have hll14 : (outLink c).length = 14 := by rw [hll, linkLen, hl]
    rw [hll14] at hR
    have g12 : g16 g (0 + 12) = firstEt c.vlan c.net.etherType := by
      rw [hL.g16 12 (by omega)]
      simp only [outLink, outLinkOf, hl]
      exact eth2_et _ ⟨wl.1, wl.2.1, firstEt_lt c⟩
    simp only [startOf, hl, startTag, startPacket, linkLen]
    rw [walk_good (built_eth g _ 0 _ .slice 0 (by omega)), g12]
    simp only [Nat.zero_add, Nat.sub_zero]
    rw [walk_vlan_cfg c pl wf enc ok.2 hR]
    exact verdict_setTpO _ _ _ _
  · -- Linux cooked capture: `from_linux_sll`
    have wl : s.WF ∧ s.hrd = 1 := by have := wf.1; rw [hl] at this; exact this
    have hv : c.vlan = none := by have := ok.1; rw [hl] at this; exact this
    have hll16 : (outLink c).length = 16 := by rw [hll, linkLen, hl]
    rw [hll16] at hR
    have hns : isNonstdEtherType c.net.etherType = false := by cases c.net <;> simp [Net.etherType, isNonstdEtherType]
    have hpc : (sllChangeValue s.proto c.net.etherType).val = c.net.etherType := by
      cases s.proto <;> simp [sllChangeValue, hns, SllProto.val]
    obtain ⟨f0, f2, f14⟩ := sll_fields (Sll.mk s.ptype s.hrd s.alen s.addr (sllChangeValue s.proto c.net.etherType))
      (Nat.lt_of_le_of_lt wl.1.1 (by decide)) wl.1.2.1 wl.1.2.2.2.1
      (hpc.symm ▸ netEt_lt c : (sllChangeValue s.proto c.net.etherType).val < 65536)
    simp only [outLink, outLinkOf, hl] at hL hll16
    have g0 : g16 g (0 + 0) ≤ 7 := by rw [hL.g16 0 (by omega), f0]; exact wl.1.1
    have g2 : g16 g (0 + 2) = 1 := by rw [hL.g16 2 (by omega), f2]; exact wl.2
    have g14 : g16 g (0 + 14) = c.net.etherType := by rw [hL.g16 14 (by omega), f14, hpc]
    simp only [startOf, hl, startTag, startPacket, linkLen]
    rw [walk_good (built_sll g _ 0 _ .slice 0 c.net.etherType (by omega) g0 g2 g14 (sll_not_nonstd c))]
    simp only [Nat.zero_add, Nat.sub_zero]
    rw [show c.net.etherType = firstEt c.vlan c.net.etherType by rw [hv]; rfl, walk_vlan_cfg c pl wf enc ok.2 hR]
    exact verdict_setTpO _ _ _ _

end EpModel.Lemmas.BuilderParse
