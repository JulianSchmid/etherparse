import EpModel.Lemmas.SpecStep
/- Every fault the wire-format walk reports is a genuine shortage or excess (used by C07). -/
namespace EpModel.Spec
open EpModel EpModel.Dec

/-- a non-content fault is a genuine shortage (or, for `tooLong`, a genuine excess) -/
def FaultSane (f : Fault) : Prop :=
  (f.cls = .tooLong → f.need < f.avail) ∧
  ((f.cls = .cutShort ∨ f.cls = .claimsMore ∨ f.cls = .claimsLess) → f.avail < f.need)

theorem chainHead_sane (g : Mem) (c : Ctx) (first : Bool) (nh : Nat) (f : Fault)
    (h : chainHead g c first nh = .error (some f)) : FaultSane f := by
  revert f
  simp [chainHead, extHead, forall_ite_eq]
  simp +contextual [FaultSane, mkFault]

theorem chain_sane (g : Mem) (lim : LenSource) (first : Bool) (nh : Nat) (frag : Bool) (o stop : Nat) (f : Fault)
    (h : (chain g lim first nh frag o stop).2 = some f) : FaultSane f := by
  induction first, nh, frag, o using chain_induct g lim stop with
  | h first nh frag o ih =>
    rw [chain_eq] at h
    cases hh : chainHead g ⟨o, stop, lim, 0⟩ first nh with
    | error fo =>
      rw [hh] at h
      exact chainHead_sane _ _ _ _ f (hh.trans (congrArg Except.error h))
    | ok x =>
      rw [hh] at h
      exact ih x.1 x.2 hh h

def StepR.Sane (r : StepR) : Prop := ∀ f, r.fault = some f → FaultSane f

theorem sane_good (p : Packet) (t : Tag) (c : Ctx) : (StepR.good p t c).Sane := fun _ h => nomatch h

theorem sane_bad (p : Packet) (c : Ctx) (f : Fault) : (StepR.bad p c f).Sane ↔ FaultSane f :=
  ⟨fun h => h f rfl, fun h _ e => Option.some.inj e ▸ h⟩

section
variable (lax : Bool) (g : Mem) (p : Packet) (c : Ctx)

theorem icmp4Step_sane : (icmp4Step g p c).Sane := by
  by_cases h : c.avail < 20 <;> simp [icmp4Step, h, apply_ite_iff StepR.Sane, sane_good, sane_bad, FaultSane, mkFault] <;> omega

theorem ipv6Rest_sane (s : Nat) (l : LenSource) (i : Bool) : (ipv6Rest g p c s l i).Sane := by
  simp only [ipv6Rest]
  split
  · rename_i f h
    exact (sane_bad _ _ f).2 (chain_sane _ _ _ _ _ _ _ f h)
  · exact sane_good _ _ _

/- each fault is justified by the condition that guards it -/
theorem step_sane (t : Tag) : (step lax g p t c).Sane := by
  cases t <;>
    simp [step_done, step_eth, step_sll, step_ether, step_ipAny, step_ipv4, step_ipv6, step_tp, macsecStep, macsecTag,
      ipv4Rest, bound, icmp4Step_sane, ipv6Rest_sane, apply_ite_iff StepR.Sane,
      StepR.withBound_ite, StepR.withBound_ok, StepR.withBound_error, sane_good, sane_bad,
      FaultSane, mkFault] <;>
    omega

end

theorem walkN_sane (lax : Bool) (g : Mem) (k : Nat) (p : Packet) (t : Tag) (c : Ctx) (f : Fault)
    (h : (walkN lax g k p t c).2 = some f) : FaultSane f := by
  induction k generalizing p t c with
  | zero =>
    simp only [walkN] at h
    split at h
    · simp at h
    · simp at h; subst h; simp [FaultSane, mkFault]
  | succ k ih =>
    simp only [walkN] at h
    split at h
    · simp at h
    · split at h
      · rename_i f' hf'
        simp at h; subst h
        exact step_sane _ _ _ _ _ _ hf'
      · exact ih _ _ _ h

theorem verdict_error {r : Packet × Option Fault} {f : Fault} (h : verdict r = .error f) : r.2 = some f := by
  rcases r with ⟨p, _ | f'⟩ <;> simp_all [verdict]

theorem decode_sane (st : Start) (g : Mem) (n : Nat) (f : Fault) (h : decode st g n = .error f) :
    FaultSane f := by
  exact walkN_sane _ _ _ _ _ _ f (verdict_error h)

end EpModel.Spec
