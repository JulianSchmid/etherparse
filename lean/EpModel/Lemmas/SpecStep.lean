import EpModel.Spec.Decode
/-
  `Spec.step`, one equation per tag.  The outcomes are `StepR.good` / `StepR.bad`; a length rule
  enters through `StepR.withBound`; the larger units have functions of their own.  Then what a step is
  for a class of tags, how `walkN` goes on from a step, and `Spec.chain` one header at a time
  (`chainHead`, `chainBehind`, `chain_induct`).
-/
namespace EpModel.Spec
open EpModel EpModel.Dec

def StepR.good (p : Packet) (t : Tag) (c : Ctx) : StepR := ⟨p, t, c, none⟩

def StepR.bad (p : Packet) (c : Ctx) (f : Fault) : StepR := ⟨p, .done, c, some f⟩

theorem apply_ite_iff {α : Type} (P : α → Prop) (a : Prop) [Decidable a] (x y : α) :
    P (if a then x else y) ↔ (a → P x) ∧ (¬ a → P y) := by
  split <;> simp [*]

section StepEq
variable (lax : Bool) (g : Mem) (p : Packet) (c : Ctx)

/-- go on with the end of the data, the limiter and the incompleteness flag that a length rule
    yields; its fault ends the step -/
def StepR.withBound (p : Packet) (c : Ctx) (r : Except Fault (Nat × LenSource × Bool))
    (k : Nat → LenSource → Bool → StepR) : StepR :=
  match r with
  | .error f => .bad p c f
  | .ok (s, l, i) => k s l i

section
variable (k : Nat → LenSource → Bool → StepR)

theorem StepR.withBound_ite (a : Prop) [Decidable a] (r s : Except Fault (Nat × LenSource × Bool)) :
    StepR.withBound p c (if a then r else s) k = if a then .withBound p c r k else .withBound p c s k :=
  apply_ite (StepR.withBound p c · k) a r s

theorem StepR.withBound_ok (s : Nat) (l : LenSource) (i : Bool) : StepR.withBound p c (.ok (s, l, i)) k = k s l i := rfl

theorem StepR.withBound_error (f : Fault) : StepR.withBound p c (.error f) k = .bad p c f := rfl

end

/-- the MACsec step for a SecTAG with (`sc`) or without SCI, of an unmodified frame (`unmod`) or not,
    short length `sl` -/
def macsecTag (lax : Bool) (g : Mem) (p : Packet) (c : Ctx) (sc unmod : Prop) [Decidable sc] [Decidable unmod]
    (sl : Nat) : StepR :=
  let hl := secTagLen sc unmod
  let plen := if unmod then sl - 2 else sl
  if unmod ∧ sl = 1 then .bad p c (mkFault c .content .macsecHeader 0 1)
  else if c.avail < hl then .bad p c (mkFault c .cutShort .macsecHeader hl)
  else
    .withBound p c
      (if sl = 0 then .ok (c.stop, .slice, false)
       else if c.avail < hl + plen then
         if lax then .ok (c.stop, .slice, true) else .error (mkFault c .claimsMore .macsecPacket (hl + plen))
       else .ok (c.off + hl + plen, .macsecShortLength, false))
      fun stop' lim' inc =>
        let p' := addExt p (.macsec ⟨c.off, hl⟩ ⟨c.off + hl, stop' - (c.off + hl)⟩ lim' inc)
        let c' : Ctx := { off := c.off + hl, stop := stop', lim := inherit c.lim lim', nExt := c.nExt + 1 }
        if unmod then .good p' (.ether (g16 g (c.off + hl - 2))) c' else .good p' .done c'

def macsecStep (lax : Bool) (g : Mem) (p : Packet) (c : Ctx) : StepR :=
  if c.nExt = 3 then .good p .done c
  else if c.avail < 6 then .bad p c (mkFault c .cutShort .macsecHeader 6)
  else if g c.off / 128 = 1 then .bad p c (mkFault c .content .macsecHeader 0 1)
  else
    macsecTag lax g p c (g c.off / 32 % 2 = 1) (g c.off / 8 % 2 = 0 ∧ g c.off / 4 % 2 = 0) (g (c.off + 1) % 64)

/-- the IPv4 step behind the header of `hl` octets and the total-length rule: the authentication
    header, if the protocol number announces one -/
def ipv4Rest (g : Mem) (p : Packet) (c : Ctx) (hl stop' : Nat) (lim' : LenSource) (inc : Bool) : StepR :=
  let c' : Ctx := { off := c.off + hl, stop := stop', lim := inherit c.lim lim', nExt := c.nExt }
  let layer (auth : Option Win) (num po : Nat) : Packet :=
    setNet p (.ip
      { v4 := true, hdr := ⟨c.off, hl⟩, auth := auth, exts := ⟨c.off, 0⟩, first := none, slots := ExtSlots.none,
        pl := { num := num, frag := v4Fragmented g c.off, src := lim', w := ⟨po, stop' - po⟩, inc := inc } })
  let next (num : Nat) : Tag := if v4Fragmented g c.off then .done else .tp num
  let al := (g (c'.off + 1) + 2) * 4
  if g (c.off + 9) = 51 then
    if c'.avail < 12 then .bad (layer none 51 c'.off) c' (mkFault c' .cutShort .auth 12)
    else if g (c'.off + 1) = 0 then .bad (layer none 51 c'.off) c' (mkFault c' .content .auth 0 0)
    else if c'.avail < al then .bad (layer none 51 c'.off) c' (mkFault c' .cutShort .auth al)
    else .good (layer (some ⟨c'.off, al⟩) (g c'.off) (c'.off + al)) (next (g c'.off)) { c' with off := c'.off + al }
  else .good (layer none (g (c.off + 9)) c'.off) (next (g (c.off + 9))) c'

/-- the IPv6 step behind the header and the payload-length rule: the extension chain -/
def ipv6Rest (g : Mem) (p : Packet) (c : Ctx) (stop' : Nat) (lim' : LenSource) (inc : Bool) : StepR :=
  let r := chain g (inherit c.lim lim') true (g (c.off + 6)) false (c.off + 40) stop'
  let p' : Packet :=
    setNet p (.ip
      { v4 := false, hdr := ⟨c.off, 40⟩, auth := none, exts := ⟨c.off + 40, r.1.off - (c.off + 40)⟩,
        first := if r.1.off = c.off + 40 then none else some (g (c.off + 6)), slots := ExtSlots.none,
        pl := { num := r.1.next, frag := r.1.frag, src := lim', w := ⟨r.1.off, stop' - r.1.off⟩,
                inc := inc } })
  let c' : Ctx := { off := r.1.off, stop := stop', lim := inherit c.lim lim', nExt := c.nExt }
  match r.2 with
  | some f => .bad p' c' f
  | none => .good p' (if r.1.frag then .done else .tp r.1.next) c'

def icmp4Step (g : Mem) (p : Packet) (c : Ctx) : StepR :=
  if c.avail < 8 then .bad p c (mkFault c .cutShort .icmp4 8)
  else if (g c.off = 13 ∨ g c.off = 14) ∧ g (c.off + 1) = 0 ∧ c.avail ≠ 20 then
    .bad p c (mkFault c (if c.avail < 20 then .cutShort else .tooLong) .icmp4 20)
  else .good (setTp p (.icmp4 ⟨c.off, c.avail⟩)) .done c

theorem step_done : step lax g p .done c = .good p .done c := rfl

theorem step_eth : step lax g p .eth c =
    if c.avail < 14 then .bad p c (mkFault c .cutShort .eth 14)
    else .good (setLink p (.eth2 ⟨c.off, c.avail⟩)) (.ether (g16 g (c.off + 12))) { c with off := c.off + 14 } := rfl

theorem step_sll : step lax g p .sll c =
    if c.avail < 16 then .bad p c (mkFault c .cutShort .sll 16)
    else if g16 g c.off > 7 then .bad p c (mkFault c .content .sll 0 (g16 g c.off))
    else if ¬ sllSupportedHw (g16 g (c.off + 2)) then .bad p c (mkFault c .content .sll 0 (g16 g (c.off + 2)))
    else
      .good (setLink p (.sll ⟨c.off, c.avail⟩))
        (if g16 g (c.off + 2) = 1 ∧ ¬ sllNonStandard (g16 g (c.off + 14)) then .ether (g16 g (c.off + 14)) else .done)
        { c with off := c.off + 16 } := rfl

theorem step_ether (et : Nat) : step lax g p (.ether et) c =
    if isVlanType et then
      if c.nExt = 3 then .good p .done c
      else if c.avail < 4 then .bad p c (mkFault c .cutShort .vlan 4)
      else
        .good (addExt p (.vlan ⟨c.off, c.avail⟩)) (.ether (g16 g (c.off + 2)))
          { c with off := c.off + 4, nExt := c.nExt + 1 }
    else if et = 0x88e5 then macsecStep lax g p c
    else if et = 0x0806 then
      let total := 8 + 2 * g (c.off + 4) + 2 * g (c.off + 5)
      if c.avail < 8 then .bad p c (mkFault c .cutShort .arp 8)
      else if c.avail < total then .bad p c (mkFault c .cutShort .arp total)
      else .good (setNet p (.arp ⟨c.off, total⟩)) .done { c with off := c.off + total }
    else if et = 0x0800 then .good p (if lax then .ipAny else .ipv4) c
    else if et = 0x86dd then .good p (if lax then .ipAny else .ipv6) c
    else .good p .done c := rfl

theorem step_ipAny : step lax g p .ipAny c =
    if c.avail < 1 then .bad p c (mkFault c .cutShort .ipAny 1)
    else if g c.off / 16 = 4 then .good p .ipv4 c
    else if g c.off / 16 = 6 then .good p .ipv6 c
    else .bad p c (mkFault c .content .ipAny 0 (g c.off / 16)) := rfl

theorem step_ipv4 : step lax g p .ipv4 c =
    if c.avail < 20 then .bad p c (mkFault c .cutShort .ipv4Header 20)
    else if g c.off / 16 ≠ 4 then .bad p c (mkFault c .content .ipv4Header 0 (g c.off / 16))
    else if g c.off % 16 < 5 then .bad p c (mkFault c .content .ipv4Header 0 (g c.off % 16))
    else if c.avail < g c.off % 16 * 4 then .bad p c (mkFault c .cutShort .ipv4Header (g c.off % 16 * 4))
    else
      .withBound p c (bound lax c .ipv4Packet .ipv4HeaderTotalLen (g c.off % 16 * 4) (g16 g (c.off + 2)))
        (ipv4Rest g p c (g c.off % 16 * 4)) := rfl

theorem step_ipv6 : step lax g p .ipv6 c =
    if c.avail < 40 then .bad p c (mkFault c .cutShort .ipv6Header 40)
    else if g c.off / 16 ≠ 6 then .bad p c (mkFault c .content .ipv6Header 0 (g c.off / 16))
    else
      .withBound p c
        (if g16 g (c.off + 4) = 0 ∧ c.avail > 40 then .ok (c.stop, .slice, false)
         else bound lax c .ipv6Packet .ipv6HeaderPayloadLen 40 (40 + g16 g (c.off + 4)))
        (ipv6Rest g p c) := rfl

theorem step_tp (num : Nat) : step lax g p (.tp num) c =
    if num = 17 then
      let len := g16 g (c.off + 4)
      let upTo (l : Nat) : StepR := .good (setTp p (.udp ⟨c.off, l⟩)) .done c
      if c.avail < 8 then .bad p c (mkFault c .cutShort .udpHeader 8)
      else if len = 0 then upTo c.avail
      else if c.avail < len then
        if lax then upTo c.avail else .bad p c (mkFault c .claimsMore .udpPayload len)
      else if len < 8 then
        if lax then upTo c.avail
        else .bad p c { cls := .claimsLess, unit := .udpHeader, off := c.off, avail := len, need := 8,
                        lim := .udpHeaderLen, value := 0 }
      else upTo len
    else if num = 6 then
      let dataOff := g (c.off + 12) / 16
      if c.avail < 20 then .bad p c (mkFault c .cutShort .tcp 20)
      else if dataOff < 5 then .bad p c (mkFault c .content .tcp 0 dataOff)
      else if c.avail < dataOff * 4 then .bad p c (mkFault c .cutShort .tcp (dataOff * 4))
      else .good (setTp p (.tcp ⟨c.off, c.avail⟩ (dataOff * 4))) .done c
    else if num = 1 then icmp4Step g p c
    else if num = 58 then
      if c.avail < 8 then .bad p c (mkFault c .cutShort .icmp6 8)
      else if c.avail > 4294967295 then .bad p c (mkFault c .tooLong .icmp6 4294967295)
      else .good (setTp p (.icmp6 ⟨c.off, c.avail⟩)) .done c
    else .good p .done c := rfl


end StepEq

theorem walkN_done (lax : Bool) (g : Mem) (k : Nat) (p : Packet) (c : Ctx) : walkN lax g k p .done c = (p, none) := by
  cases k <;> simp [walkN]

theorem step_vlan (lax : Bool) (g : Mem) (p : Packet) (et : Nat) (c : Ctx) (h : et = 0x8100 ∨ et = 0x88a8 ∨ et = 0x9100) :
    step lax g p (.ether et) c =
      if c.nExt = 3 then .good p .done c
      else if c.avail < 4 then .bad p c (mkFault c .cutShort .vlan 4)
      else
        .good (addExt p (.vlan ⟨c.off, c.avail⟩)) (.ether (g16 g (c.off + 2)))
          { c with off := c.off + 4, nExt := c.nExt + 1 } := by
  rw [step_ether, if_pos (show isVlanType et = true from decide_eq_true h)]

theorem step_ether_other (lax : Bool) (g : Mem) (p : Packet) (et : Nat) (c : Ctx)
    (h1 : ¬ (et = 0x8100 ∨ et = 0x88a8 ∨ et = 0x9100)) (h2 : et ≠ 0x88e5) (h3 : et ≠ 0x0806) (h4 : et ≠ 0x0800)
    (h5 : et ≠ 0x86dd) : step lax g p (.ether et) c = .good p .done c := by
  rw [step_ether, if_neg (fun h : isVlanType et = true => h1 (of_decide_eq_true h)), if_neg h2, if_neg h3, if_neg h4, if_neg h5]

theorem step_tp_other (lax : Bool) (g : Mem) (p : Packet) (num : Nat) (c : Ctx) (h1 : num ≠ 1) (h17 : num ≠ 17)
    (h6 : num ≠ 6) (h58 : num ≠ 58) : step lax g p (.tp num) c = .good p .done c := by
  rw [step_tp, if_neg h17, if_neg h6, if_neg h1, if_neg h58]

theorem walkN_next (lax : Bool) (g : Mem) (k : Nat) (p p' : Packet) (t t' : Tag) (c c' : Ctx) (ht : t ≠ .done)
    (h : step lax g p t c = ⟨p', t', c', none⟩) : walkN lax g (k + 1) p t c = walkN lax g k p' t' c' := by
  simp [walkN, ht, h]

theorem walkN_fault (lax : Bool) (g : Mem) (k : Nat) (p p' : Packet) (t t' : Tag) (c c' : Ctx) (f : Fault)
    (ht : t ≠ .done) (h : step lax g p t c = ⟨p', t', c', some f⟩) :
    walkN lax g (k + 1) p t c = (p', some f) := by
  simp [walkN, ht, h]

theorem walkN_last {lax : Bool} {g : Mem} (k : Nat) {p p' : Packet} {t : Tag} {c c' : Ctx} (ht : t ≠ .done)
    (h : step lax g p t c = ⟨p', .done, c', none⟩) : walkN lax g (k + 1) p t c = (p', none) := by
  rw [walkN_next lax g k _ _ _ _ _ _ ht h, walkN_done]

theorem avail_mk (a b : Nat) (l : LenSource) (n : Nat) : (Ctx.mk a b l n).avail = b - a := rfl

/-- an extension header with a length octet counting 8-octet units behind the first -/
def extHead (g : Mem) (c : Ctx) (u : Unit_) : Except (Option Fault) (Nat × Bool) :=
  if c.avail < 8 then .error (some (mkFault c .cutShort u 8))
  else if c.avail < (g (c.off + 1) + 1) * 8 then .error (some (mkFault c .cutShort u ((g (c.off + 1) + 1) * 8)))
  else .ok ((g (c.off + 1) + 1) * 8, false)

/-- what stands at the head of the chain: nothing the walk decodes (`.error none`), a faulty extension
    header, or an extension header of so many octets (and whether it is a fragment header that fragments) -/
def chainHead (g : Mem) (c : Ctx) (first : Bool) (nh : Nat) : Except (Option Fault) (Nat × Bool) :=
  if nh = 0 then if first then extHead g c .hopByHop else .error (some (mkFault c .content .hopByHop 0 0))
  else if nh = 60 then extHead g c .destOpts
  else if nh = 43 then extHead g c .route
  else if nh = 44 then
    if c.avail < 8 then .error (some (mkFault c .cutShort .fragHeader 8)) else .ok (8, v6Fragmented g c.off)
  else if nh = 51 then
    if c.avail < 12 then .error (some (mkFault c .cutShort .auth 12))
    else if g (c.off + 1) = 0 then .error (some (mkFault c .content .auth 0 0))
    else if c.avail < (g (c.off + 1) + 2) * 4 then .error (some (mkFault c .cutShort .auth ((g (c.off + 1) + 2) * 4)))
    else .ok ((g (c.off + 1) + 2) * 4, false)
  else .error none

theorem chainHead_raw (g : Mem) (c : Ctx) (nh : Nat) (h : nh = 60 ∨ nh = 43) :
    chainHead g c false nh = extHead g c (if nh = 60 then .destOpts else .route) := by
  rcases h with rfl | rfl <;> rfl

def chainBehind (g : Mem) (lim : LenSource) (nh : Nat) (frag : Bool) (o stop : Nat) :
    Except (Option Fault) (Nat × Bool) → Chain × Option Fault
  | .error fo => (⟨nh, frag, o⟩, fo)
  | .ok (len, fr) => chain g lim false (g o) (frag || fr) (o + len) stop

theorem chain_eq (g : Mem) (lim : LenSource) (first : Bool) (nh : Nat) (frag : Bool) (o stop : Nat) :
    chain g lim first nh frag o stop = chainBehind g lim nh frag o stop (chainHead g ⟨o, stop, lim, 0⟩ first nh) := by
  rw [chain]
  simp only [chainHead, extHead, apply_ite (chainBehind g lim nh frag o stop)]
  simp only [chainBehind, dite_eq_ite, Bool.or_false, avail_mk]
  rfl

theorem chain_first_irrelevant (g : Mem) (lim : LenSource) (nh : Nat) (frag : Bool) (o stop : Nat) (h : nh ≠ 0) :
    chain g lim true nh frag o stop = chain g lim false nh frag o stop := by
  rw [chain_eq, chain_eq]
  simp only [chainHead, h, if_false]

theorem forall_ite_eq {α β : Type} {P : α → Prop} (a : Prop) [Decidable a] (r s : β) (y : α → β) :
    (∀ x, (if a then r else s) = y x → P x) ↔ (a → ∀ x, r = y x → P x) ∧ (¬ a → ∀ x, s = y x → P x) :=
  apply_ite_iff (fun z => ∀ x, z = y x → P x) a r s

theorem chainHead_ok (g : Mem) (c : Ctx) (first : Bool) (nh : Nat) (x : Nat × Bool)
    (h : chainHead g c first nh = .ok x) : 0 < x.1 ∧ x.1 ≤ c.avail := by
  revert x
  simp [chainHead, extHead, forall_ite_eq]

theorem chain_induct (g : Mem) (lim : LenSource) (stop : Nat) {motive : Bool → Nat → Bool → Nat → Prop}
    (h : ∀ first nh frag o,
      (∀ len fr, chainHead g ⟨o, stop, lim, 0⟩ first nh = .ok (len, fr) → motive false (g o) (frag || fr) (o + len)) →
        motive first nh frag o)
    (first : Bool) (nh : Nat) (frag : Bool) (o : Nat) : motive first nh frag o := by
  generalize hn : stop - o = n
  induction n using Nat.strongRecOn generalizing first nh frag o with
  | _ n ih =>
    refine h first nh frag o fun len fr hh => ih (stop - (o + len)) ?_ _ _ _ _ rfl
    have := chainHead_ok _ _ _ _ _ hh
    rw [avail_mk] at this
    omega

end EpModel.Spec
