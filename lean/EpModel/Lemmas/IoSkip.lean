import EpModel.Model.IoSkip
import EpModel.Lemmas.Io
import EpModel.Lemmas.CodecLink
/- helper lemmas for C16: the Read + Seek skipping of IPv6 extension headers -/
namespace EpModel.Lemmas.IoSkip
open EpModel EpModel.Io EpModel.Io.Skip EpModel.Lemmas.Io
open EpModel.Lemmas.Codec (bAt_sub)

/-- length on the wire of the extension header an arm skips, from the length byte at `pos + 1`:
    fragment header 8, authentication header `(len + 2) * 4`, the others `(len + 1) * 8`. -/
def hdrLen (k : Kind) (d : Bytes) (pos : Nat) : Nat :=
  match k with
  | .frag => 8
  | .auth => (bAt d (pos + 1) + 2) * 4
  | .generic => (bAt d (pos + 1) + 1) * 8

theorem hdrLen_ge (k : Kind) (d : Bytes) (pos : Nat) : 8 ≤ hdrLen k d pos := by
  cases k <;> simp only [hdrLen] <;> omega

theorem reads_add_up (k : Kind) (d : Bytes) (pos : Nat) :
    k.firstRead + (k.restLength (sub d pos k.firstRead) - 1) + 1 = hdrLen k d pos := by
  cases k
  · simp [Kind.firstRead, Kind.restLength, hdrLen]
  · simp only [Kind.firstRead, Kind.restLength, hdrLen, bAt_sub d pos 2 1 (by omega)]; omega
  · simp only [Kind.firstRead, Kind.restLength, hdrLen, bAt_sub d pos 2 1 (by omega)]; omega

theorem firstRead_le_two (k : Kind) : k.firstRead ≤ 2 := by
  cases k <;> decide

theorem isSkippable_iff (nh : Nat) : isSkippable nh ↔ ∃ k, kindOf nh = some k := by
  rw [← Option.isSome_iff_exists, ← Option.ne_none_iff_isSome, Ne, kindOf_eq_none, Decidable.not_not]

theorem not_skippable (r : Reader) (nh : Nat) (h : ¬ isSkippable nh) :
    skipHeaderExtension r nh = (r, .ok nh) := by
  simp only [skipHeaderExtension, kindOf_eq_none.2 h]

theorem skip_ok (r : Reader) (nh : Nat) (kind : Kind) (hk : kindOf nh = some kind)
    (h : r.pos + hdrLen kind r.data r.pos ≤ r.limit) :
    skipHeaderExtension r nh =
      ({ data := r.data, pos := r.pos + hdrLen kind r.data r.pos, failAt := r.failAt },
       .ok (bAt r.data r.pos)) := by
  have hge := hdrLen_ge kind r.data r.pos
  have hf := kind.firstRead_ne_zero
  have hsum := reads_add_up kind r.data r.pos
  unfold skipHeaderExtension
  simp only [hk]
  rw [readExact_ok r kind.firstRead hf (by omega)]
  simp only
  generalize hn : kind.restLength (sub r.data r.pos kind.firstRead) - 1 = n at hsum
  have hl : (seekCur { data := r.data, pos := r.pos + kind.firstRead, failAt := r.failAt } n).limit
      = r.limit := rfl
  rw [readExact_ok _ 1 (by omega) (by rw [hl]; show r.pos + kind.firstRead + n + 1 ≤ r.limit; omega)]
  simp only [seekCur]
  have hb : bAt (sub r.data r.pos kind.firstRead) 0 = bAt r.data r.pos := by
    rw [bAt_sub _ _ _ _ (by omega)]; rfl
  rw [hb]
  congr 2
  omega

theorem skip_err (r : Reader) (nh : Nat) (kind : Kind) (hk : kindOf nh = some kind)
    (h : ¬ r.pos + hdrLen kind r.data r.pos ≤ r.limit) :
    (skipHeaderExtension r nh).2 = .error r.dryError ∧
    (skipHeaderExtension r nh).1.data = r.data ∧
    (skipHeaderExtension r nh).1.failAt = r.failAt ∧
    r.pos ≤ (skipHeaderExtension r nh).1.pos := by
  have hge := hdrLen_ge kind r.data r.pos
  have hf := kind.firstRead_ne_zero
  have hsum := reads_add_up kind r.data r.pos
  unfold skipHeaderExtension
  simp only [hk]
  by_cases h1 : r.pos + kind.firstRead ≤ r.limit
  · rw [readExact_ok r kind.firstRead hf h1]
    simp only
    generalize hn : kind.restLength (sub r.data r.pos kind.firstRead) - 1 = n at hsum
    have hl : (seekCur { data := r.data, pos := r.pos + kind.firstRead, failAt := r.failAt } n).limit
        = r.limit := rfl
    rw [readExact_err _ 1 (by omega)
      (by rw [hl]; show ¬ r.pos + kind.firstRead + n + 1 ≤ r.limit; omega)]
    refine ⟨rfl, rfl, rfl, ?_⟩
    show r.pos ≤ max (r.pos + kind.firstRead + n) _
    omega
  · rw [readExact_err r kind.firstRead hf h1]
    refine ⟨rfl, rfl, rfl, ?_⟩
    show r.pos ≤ max r.pos r.limit
    omega

/-- `Chain d avail nh pos f p`: starting at offset `pos` with next header `nh`, a sequence of
    skippable extension headers, each completely inside the first `avail` bytes of `d`, ends at
    offset `p` in front of the first header `f` that is not a skippable extension header. -/
inductive Chain (d : Bytes) (avail : Nat) : Nat → Nat → Nat → Nat → Prop where
  | stop {nh pos : Nat} : ¬ isSkippable nh → Chain d avail nh pos nh pos
  | step {nh pos f p : Nat} {kind : Kind} : kindOf nh = some kind →
      pos + hdrLen kind d pos ≤ avail →
      Chain d avail (bAt d pos) (pos + hdrLen kind d pos) f p → Chain d avail nh pos f p

theorem Chain.bounds {d : Bytes} {avail nh pos f p : Nat} (h : Chain d avail nh pos f p) :
    pos ≤ p ∧ (pos ≤ avail → p ≤ avail) ∧ ¬ isSkippable f := by
  induction h with
  | stop hn => exact ⟨Nat.le_refl _, id, hn⟩
  | step hk hfit _ ih => exact ⟨by omega, fun _ => ih.2.1 hfit, ih.2.2⟩

theorem skipAll_of_chain (d : Bytes) (fa : Option Nat) (nh pos f p : Nat)
    (h : Chain d (Reader.limit { data := d, pos := pos, failAt := fa }) nh pos f p) :
    skipAll { data := d, pos := pos, failAt := fa } nh = ({ data := d, pos := p, failAt := fa }, .ok f) := by
  generalize ha : Reader.limit { data := d, pos := pos, failAt := fa } = avail at h
  induction h with
  | stop hn => unfold skipAll; rw [dif_neg hn]
  | @step nh pos f p kind hk hfit _ ih =>
    have hs : isSkippable nh := (isSkippable_iff nh).2 ⟨kind, hk⟩
    have hok := skip_ok { data := d, pos := pos, failAt := fa } nh kind hk (by rw [ha]; exact hfit)
    unfold skipAll
    rw [dif_pos hs]
    split
    · rename_i r' e heq
      rw [hok] at heq; cases heq
    · rename_i r' next heq
      rw [hok] at heq
      cases heq
      exact ih ha

theorem skipAll_spec (r : Reader) (nh : Nat) :
    (∀ f, (skipAll r nh).2 = .ok f →
      Chain r.data r.limit nh r.pos f (skipAll r nh).1.pos ∧
      (skipAll r nh).1.data = r.data ∧ (skipAll r nh).1.failAt = r.failAt) ∧
    (∀ e, (skipAll r nh).2 = .error e → e = r.dryError) := by
  fun_induction skipAll r nh with
  | case1 r nh hs r' e heq =>
    obtain ⟨kind, hk⟩ := (isSkippable_iff nh).1 hs
    refine ⟨fun f hf => (by cases hf), fun e' he => ?_⟩
    by_cases hfit : r.pos + hdrLen kind r.data r.pos ≤ r.limit
    · rw [skip_ok r nh kind hk hfit] at heq; cases heq
    · have := (skip_err r nh kind hk hfit).1
      rw [heq] at this
      simp only [Except.error.injEq] at this he
      rw [← he, this]
  | case2 r nh hs r' next heq ih =>
    obtain ⟨kind, hk⟩ := (isSkippable_iff nh).1 hs
    by_cases hfit : r.pos + hdrLen kind r.data r.pos ≤ r.limit
    · rw [skip_ok r nh kind hk hfit] at heq
      cases heq
      refine ⟨fun f hf => ?_, fun e he => ?_⟩
      · obtain ⟨hc, hd, hfa⟩ := ih.1 f hf
        exact ⟨Chain.step hk hfit hc, hd, hfa⟩
      · exact ih.2 e he
    · have := (skip_err r nh kind hk hfit).1
      rw [heq] at this; cases this
  | case3 r nh hs =>
    refine ⟨fun f hf => ?_, fun e he => by cases he⟩
    cases hf
    exact ⟨Chain.stop hs, rfl, rfl⟩

end EpModel.Lemmas.IoSkip
