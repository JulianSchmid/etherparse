import EpModel.Model.Dec.Ip
/-
  The IPv6 extension walk `extsLoop`, one equation per kind of next header: what the loop does with a
  destination-options / routing header (60 / 43), a fragment header (44), an authentication header (51),
  a hop-by-hop header behind the start (0) and anything else.  Comparing two walks (struct mode against
  slice mode in Lemmas/StructSlice.lean, a walk against the walk on shifted memory in Lemmas/HeadersShift.lean)
  goes by induction on the length of the rest and these equations.
-/
namespace EpModel.Lemmas.ExtsLoop
open EpModel EpModel.Dec

theorem ite_rel {α β : Type} {R : α → β → Prop} {c : Prop} [Decidable c] {a b : α} {a' b' : β}
    (h1 : c → R a a') (h2 : ¬ c → R b b') : R (if c then a else b) (if c then a' else b') := by
  by_cases h : c
  · rw [if_pos h, if_pos h]; exact h1 h
  · rw [if_neg h, if_neg h]; exact h2 h

variable {g : Mem} {sm : Bool} {l0 : Nat} {frag : Bool} {slots : ExtSlots} {o l : Nat}

theorem extsLoop_zero :
    extsLoop g sm l0 0 frag slots o l = extsFail 0 frag slots o l .hopByHop .ipv6HopByHopHeader := by
  rw [extsLoop, if_pos rfl]

theorem extsLoop_raw {nh : Nat} (h : nh = 60 ∨ nh = 43) :
    extsLoop g sm l0 nh frag slots o l =
      if sm ∧ ¬ rawFits nh slots then extsDone nh frag slots o l
      else if l < 8 then extsFail nh frag slots o l (extLenErr 8 l0 l .ipv6ExtHeader) (rawLayer nh)
      else if l < (g (o + 1) + 1) * 8 then
        extsFail nh frag slots o l (extLenErr ((g (o + 1) + 1) * 8) l0 l .ipv6ExtHeader) (rawLayer nh)
      else extsLoop g sm l0 (g o) frag (rawStore nh slots ⟨o, (g (o + 1) + 1) * 8⟩)
        (o + (g (o + 1) + 1) * 8) (l - (g (o + 1) + 1) * 8) := by
  rw [extsLoop, if_neg (by omega), if_pos h]
  rfl

theorem extsLoop_frag :
    extsLoop g sm l0 44 frag slots o l =
      if sm ∧ slots.frag.isSome then extsDone 44 frag slots o l
      else if l < 8 then extsFail 44 frag slots o l (extLenErr 8 l0 l .ipv6FragHeader) .ipv6FragHeader
      else extsLoop g sm l0 (g o) (frag || fragIsFragmenting g o) (fragStore slots ⟨o, 8⟩) (o + 8) (l - 8) := by
  rw [extsLoop, if_neg (by omega), if_neg (by omega), if_pos rfl]
  rfl

theorem extsLoop_auth :
    extsLoop g sm l0 51 frag slots o l =
      if sm ∧ slots.auth.isSome then extsDone 51 frag slots o l
      else if l < 12 then extsFail 51 frag slots o l (extLenErr 12 l0 l .ipAuthHeader) .ipAuthHeader
      else if g (o + 1) < 1 then extsFail 51 frag slots o l .authZero .ipAuthHeader
      else if l < (g (o + 1) + 2) * 4 then
        extsFail 51 frag slots o l (extLenErr ((g (o + 1) + 2) * 4) l0 l .ipAuthHeader) .ipAuthHeader
      else extsLoop g sm l0 (g o) frag (authStore slots ⟨o, (g (o + 1) + 2) * 4⟩)
        (o + (g (o + 1) + 2) * 4) (l - (g (o + 1) + 2) * 4) := by
  rw [extsLoop, if_neg (by omega), if_neg (by omega), if_neg (by omega), if_pos rfl]
  rfl

theorem extsLoop_other {nh : Nat} (h0 : nh ≠ 0) (hraw : ¬ (nh = 60 ∨ nh = 43)) (h44 : nh ≠ 44) (h51 : nh ≠ 51) :
    extsLoop g sm l0 nh frag slots o l = extsDone nh frag slots o l := by
  rw [extsLoop, if_neg h0, if_neg hraw, if_neg h44, if_neg h51]

end EpModel.Lemmas.ExtsLoop
