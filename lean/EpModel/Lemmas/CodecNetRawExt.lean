import EpModel.Lemmas.CodecNetBits
import EpModel.Model.Codec.NetRawExt
/-
  `Ipv6RawExtHeader` / `Ipv6RawExtHeaderSlice`: the length byte and `to_bytes` in terms of the payload,
  what an accepting `from_slice` says about its input, that the `unwrap` in `to_header` cannot fail
  behind it, and the two round trips.
-/
namespace EpModel.Lemmas.CodecNet.RawExt
open EpModel EpModel.CodecNet EpModel.Lemmas.CodecNet EpModel.Lemmas.Codec

theorem headerLength_eq (h : Ipv6RawExtHeader) (wf : h.WF) :
    h.headerLength = (h.payload.length - 6) / 8 := by
  obtain ⟨_, _, h3, _⟩ := wf
  unfold Ipv6RawExtHeader.headerLength; omega

theorem headerLen_eq (h : Ipv6RawExtHeader) (wf : h.WF) : h.headerLen = 2 + h.payload.length := by
  have := headerLength_eq h wf
  obtain ⟨_, h2, _, h4⟩ := wf
  unfold Ipv6RawExtHeader.headerLen; omega

/-- `payload()` returns the payload the value was built from. -/
theorem payloadAcc_eq (h : Ipv6RawExtHeader) (wf : h.WF) : h.payloadAcc = h.payload := by
  have e := headerLength_eq h wf
  obtain ⟨_, h2, _, h4⟩ := wf
  unfold Ipv6RawExtHeader.payloadAcc Ipv6RawExtHeader.payloadBuffer
  rw [e, List.take_left']
  omega

theorem toBytes_eq (h : Ipv6RawExtHeader) (wf : h.WF) :
    h.toBytes = u8 h.nextHeader :: u8 ((h.payload.length - 6) / 8) :: h.payload := by
  unfold Ipv6RawExtHeader.toBytes
  rw [payloadAcc_eq h wf, headerLength_eq h wf]; rfl

theorem toBytes_length (h : Ipv6RawExtHeader) (wf : h.WF) :
    h.toBytes.length = 2 + h.payload.length := by
  rw [toBytes_eq h wf]; simp; omega

/-- `to_header` never hits the `unwrap` panic for a slice the constructor can produce. -/
theorem toHeader_eq (s : Ipv6RawExtHeaderSlice) (h8 : 8 ≤ s.slice.length)
    (hmax : s.slice.length ≤ 2048) (hm : s.slice.length % 8 = 0) :
    s.toHeader = some { nextHeader := bAt s.slice 0, payload := s.slice.drop 2 } := by
  have hp : s.payload = s.slice.drop 2 := by
    unfold Ipv6RawExtHeaderSlice.payload sub
    exact List.take_of_length_le (by simp)
  have c1 : ¬ ((s.slice.drop 2).length < 6) := by simp; omega
  have c2 : ¬ ((s.slice.drop 2).length > 2046) := by simp; omega
  have c3 : ¬ (0 ≠ ((s.slice.drop 2).length + 2) % 8) := by simp; omega
  simp only [Ipv6RawExtHeaderSlice.toHeader, Ipv6RawExtHeader.newRaw, hp, c1, c2, c3, if_false,
    Ipv6RawExtHeaderSlice.nextHeader]

theorem sliceFromSlice_ok (b : Bytes) (s : Ipv6RawExtHeaderSlice)
    (hs : Ipv6RawExtHeaderSlice.fromSlice b = .ok s) :
    8 ≤ b.length ∧ (bAt b 1 + 1) * 8 ≤ b.length ∧ s.slice = b.take ((bAt b 1 + 1) * 8) := by
  unfold Ipv6RawExtHeaderSlice.fromSlice at hs
  by_cases c1 : b.length < 8
  · simp [c1] at hs
  · by_cases c2 : b.length < (bAt b 1 + 1) * 8
    · simp [c1, c2] at hs
    · simp only [c1, c2, if_false, Except.ok.injEq] at hs
      subst hs
      exact ⟨by omega, by omega, rfl⟩

theorem slice_of_toBytes (h : Ipv6RawExtHeader) (tail : Bytes) (wf : h.WF) :
    Ipv6RawExtHeaderSlice.fromSlice (h.toBytes ++ tail) = .ok { slice := h.toBytes } := by
  have hl := toBytes_length h wf
  obtain ⟨_, h2, h3, h4⟩ := wf
  have hb1 : bAt (h.toBytes ++ tail) 1 = (h.payload.length - 6) / 8 := by
    rw [toBytes_eq h ⟨‹_›, h2, h3, h4⟩]
    simp only [List.cons_append, bAt_cons_succ, bAt_cons_zero, u8_toNat]
    exact Nat.mod_eq_of_lt (by omega)
  unfold Ipv6RawExtHeaderSlice.fromSlice
  simp only [hb1, List.length_append, hl]
  rw [if_neg (by omega), if_neg (by omega), List.take_left']
  omega

theorem toHeader_toBytes (h : Ipv6RawExtHeader) (wf : h.WF) :
    Ipv6RawExtHeaderSlice.toHeader { slice := h.toBytes } = some h := by
  have hl := toBytes_length h wf
  have hb := toBytes_eq h wf
  have w := wf
  obtain ⟨h1, h2, h3, h4⟩ := w
  rw [toHeader_eq _ (by simp only [hl]; omega) (by simp only [hl]; omega)
    (by simp only [hl]; omega)]
  simp only [hb]
  obtain ⟨nh, p⟩ := h
  simp at h1 ⊢
  omega

theorem fromSlice_ok (b : Bytes) (h : Ipv6RawExtHeader) (rest : Bytes)
    (hd : Ipv6RawExtHeader.fromSlice b = .ok (h, rest)) :
    8 ≤ b.length ∧ (bAt b 1 + 1) * 8 ≤ b.length ∧
      h = { nextHeader := bAt b 0, payload := (b.take ((bAt b 1 + 1) * 8)).drop 2 } ∧
      rest = b.drop ((bAt b 1 + 1) * 8) := by
  unfold Ipv6RawExtHeader.fromSlice at hd
  have hlt := bAt_lt b 1
  cases hs : Ipv6RawExtHeaderSlice.fromSlice b with
  | error e => simp [hs] at hd
  | ok s =>
    obtain ⟨h8, hfull, hsl⟩ := sliceFromSlice_ok b s hs
    have hl : s.slice.length = (bAt b 1 + 1) * 8 := by rw [hsl]; simp; omega
    simp only [hs, toHeader_eq s (by omega) (by omega) (by omega), Except.ok.injEq,
      Prod.mk.injEq] at hd
    rw [hl, hsl, bAt_take _ _ _ (by omega)] at hd
    exact ⟨h8, hfull, hd.1.symm, hd.2.symm⟩

/-- the errors of `Ipv6RawExtHeaderSlice::from_slice` are its own, not the `unwrap` of `to_header`. -/
theorem sliceFromSlice_error (b : Bytes) (e : RawExtErr)
    (hs : Ipv6RawExtHeaderSlice.fromSlice b = .error e) : e ≠ .panicUnwrap := by
  unfold Ipv6RawExtHeaderSlice.fromSlice at hs
  split at hs
  · cases hs; exact RawExtErr.noConfusion
  · simp only at hs
    split at hs
    · cases hs; exact RawExtErr.noConfusion
    · cases hs

theorem fromSlice_no_panic (b : Bytes) : Ipv6RawExtHeader.fromSlice b ≠ .error .panicUnwrap := by
  unfold Ipv6RawExtHeader.fromSlice
  have hlt := bAt_lt b 1
  cases hs : Ipv6RawExtHeaderSlice.fromSlice b with
  | error e => exact fun h => sliceFromSlice_error b e hs (Except.error.inj h)
  | ok s =>
    obtain ⟨h8, hfull, hsl⟩ := sliceFromSlice_ok b s hs
    have hl : s.slice.length = (bAt b 1 + 1) * 8 := by rw [hsl]; simp; omega
    simp [toHeader_eq s (by omega) (by omega) (by omega)]

theorem toBytes_toHeader (sl : Bytes) (hl : sl.length = (bAt sl 1 + 1) * 8) :
    Ipv6RawExtHeader.toBytes { nextHeader := bAt sl 0, payload := sl.drop 2 } = sl := by
  have hlt := bAt_lt sl 1
  have wf : Ipv6RawExtHeader.WF { nextHeader := bAt sl 0, payload := sl.drop 2 } := by
    refine ⟨bAt_lt _ _, ?_, ?_, ?_⟩ <;> simp only [List.length_drop] <;> omega
  rw [toBytes_eq _ wf]
  simp only [List.length_drop]
  rw [show (sl.length - 2 - 6) / 8 = bAt sl 1 by omega]
  match sl, hl with
  | b0 :: b1 :: r, _ =>
    simp only [bAt_cons_zero, bAt_cons_succ, u8_toNat_self, List.drop_succ_cons, List.drop_zero]
  | [], hl | [_], hl => simp only [List.length_cons, List.length_nil] at hl; omega

end EpModel.Lemmas.CodecNet.RawExt
