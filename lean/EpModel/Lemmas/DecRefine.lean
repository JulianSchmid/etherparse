import EpModel.Lemmas.DecLax
import EpModel.Lemmas.SpecStep
/-
  The slicing cursors against the wire-format walk `Spec.walkN`, layer by layer (C03, C05; the matching of
  errors and faults also serves C07).  Here: the relations (`LayerUnit`, `StopLayer`, `LenMatch`, `ErrMatch`,
  `Rel`, `Tied`, `LenRel`, `ErrRel`); one step of the walk against each single-layer decoder, for either mode
  where the decoders of the two modes agree (transport, ARP, `macsec_step_any`, `IpStep` with `ipv4_tail` and
  `ipv6_tail`, the extension chain); and the strict cursor on the transport and IP layers.
-/
namespace EpModel.Lemmas.RefineLax
open EpModel EpModel.Dec EpModel.Spec

/-- the `Layer` a lax result records next to its stop error, against the spec unit that faulted -/
def StopLayer : Layer → Unit_ → Prop
  | .vlanHeader, .vlan => True
  | .macsecHeader, .macsecHeader => True
  | .arp, .arp => True
  | .ipHeader, .ipAny => True
  | .ipHeader, .ipv4Header => True
  | .ipHeader, .ipv6Header => True
  | .ipAuthHeader, .auth => True
  | .ipv6HopByHopHeader, .hopByHop => True
  | .ipv6DestOptionsHeader, .destOpts => True
  | .ipv6RouteHeader, .route => True
  | .ipv6FragHeader, .fragHeader => True
  | .udpHeader, .udpHeader => True
  | .tcpHeader, .tcp => True
  | .icmpv4, .icmp4 => True
  | .icmpv6, .icmp6 => True
  | _, _ => False

end EpModel.Lemmas.RefineLax

namespace EpModel.Lemmas.Refine
open EpModel EpModel.Dec EpModel.Spec EpModel.Lemmas.RefineLax

/-- which crate layers may name a spec unit -/
def LayerUnit : Layer → Unit_ → Prop
  | .ethernet2Header, .eth => True
  | .linuxSllHeader, .sll => True
  | .vlanHeader, .vlan => True
  | .macsecHeader, .macsecHeader => True
  | .macsecPacket, .macsecPacket => True
  | .ipHeader, .ipAny => True
  | .ipv4Header, .ipv4Header => True
  | .ipv4Packet, .ipv4Packet => True
  | .ipv6Header, .ipv6Header => True
  | .ipv6Packet, .ipv6Packet => True
  | .ipAuthHeader, .auth => True
  | .ipv6ExtHeader, .hopByHop => True
  | .ipv6ExtHeader, .destOpts => True
  | .ipv6ExtHeader, .route => True
  | .ipv6FragHeader, .fragHeader => True
  | .arp, .arp => True
  | .udpHeader, .udpHeader => True
  | .udpPayload, .udpPayload => True
  | .tcpHeader, .tcp => True
  | .icmpv4, .icmp4 => True
  | .icmpv4Timestamp, .icmp4 => True
  | .icmpv4TimestampReply, .icmp4 => True
  | .icmpv6, .icmp6 => True
  | _, _ => False

/-- the two call sites whose `len_source` names the field that produced `required_len` instead of
    what limited `len` (known findings F9 / F12, which the crate's tests assert) -/
def KnownSrcException (e : LenError) : Prop :=
  (e.layer = .arp ∧ e.src = .arpAddrLengths) ∨ (e.layer = .macsecPacket ∧ e.src = .macsecShortLength)

/-- a length error describes the spec fault: layer, true offset, bytes available, bytes required,
    and a length source that is the slice or the field that limited the data -/
structure LenMatch (e : LenError) (f : Fault) : Prop where
  cls : f.cls ≠ .content
  layer : LayerUnit e.layer f.unit
  off : e.off = f.off
  len : e.len = f.avail
  req : e.req = f.need
  src : e.src = .slice ∨ e.src = f.lim ∨ KnownSrcException e

/-- a content error carries the offending value the spec sees in the bytes -/
def ContentMatch (e : PErr) (f : Fault) : Prop :=
  f.cls = .content ∧
  match e with
  | .sllPacketType v => f.unit = .sll ∧ f.value = v
  | .sllArpHw v => f.unit = .sll ∧ f.value = v
  | .macsecVersion => f.unit = .macsecHeader
  | .macsecShortLen => f.unit = .macsecHeader
  | .ipVersion v => f.unit = .ipAny ∧ f.value = v
  | .ipIhl v => f.unit = .ipv4Header ∧ f.value = v
  | .ipv4Version v => f.unit = .ipv4Header ∧ f.value = v
  | .ipv4Ihl v => f.unit = .ipv4Header ∧ f.value = v
  | .ipv6Version v => f.unit = .ipv6Header ∧ f.value = v
  | .ipv4ExtsZeroLen => f.unit = .auth
  | .ipv6HopByHop => f.unit = .hopByHop
  | .ipv6ExtsAuthZeroLen => f.unit = .auth
  | .tcpDataOffset v => f.unit = .tcp ∧ f.value = v
  | .len _ => False

def ErrMatch (e : PErr) (f : Fault) : Prop :=
  match e with
  | .len le => LenMatch le f
  | e => ContentMatch e f

def Rel (m : Except PErr Packet) (s : Packet × Option Fault) : Prop :=
  match m, s with
  | .ok p, (p', none) => p = p'
  | .error e, (_, some f) => ErrMatch e f
  | _, _ => False

structure Tied (c : Cur) (ctx : Ctx) (o l : Nat) : Prop where
  off : c.off = o
  coff : ctx.off = o
  stop : ctx.stop = o + l
  src : c.src = .slice ∨ c.src = ctx.lim

theorem Tied.avail {c : Cur} {ctx : Ctx} {o l : Nat} (h : Tied c ctx o l) : ctx.avail = l := by
  have := h.coff; have := h.stop; unfold Ctx.avail; omega

theorem srcIfSlice_src (e : LenError) (s : LenSource) : (e.srcIfSlice s).src = (if e.src = .slice then s else e.src) := by
  unfold LenError.srcIfSlice LenError.withSrc; split <;> simp_all

/-- a *relative* length error (as a single-layer decoder returns it for the slice at `o`) describes
    the fault `f`; `lim` is the limiter of the enclosing data -/
structure LenRel (e : LenError) (f : Fault) (o : Nat) (lim : LenSource) : Prop where
  cls : f.cls ≠ .content
  layer : LayerUnit e.layer f.unit
  off : e.off + o = f.off
  len : e.len = f.avail
  req : e.req = f.need
  src : (e.src = .slice ∧ f.lim = lim) ∨ (e.src ≠ .slice ∧ (e.src = f.lim ∨ KnownSrcException e))

theorem lenRel_fix (e : LenError) (f : Fault) (c : Cur) (ctx : Ctx) (o l : Nat) (ht : Tied c ctx o l)
    (h : LenRel e f o ctx.lim) : LenMatch ((e.addOffset c.off).srcIfSlice c.src) f := by
  obtain ⟨hoff, hcoff, hstop, hsrc⟩ := ht
  obtain ⟨h1, h2, h3, h4, h5, h6⟩ := h
  have key : (e.addOffset c.off).srcIfSlice c.src =
      { req := e.req, len := e.len, src := if e.src = .slice then c.src else e.src, layer := e.layer,
        off := e.off + c.off } := by
    unfold LenError.srcIfSlice LenError.addOffset LenError.withSrc
    simp only
    split <;> simp_all
  rw [key]
  refine ⟨h1, h2, by simp only; omega, h4, h5, ?_⟩
  simp only
  rcases h6 with ⟨hs, hl⟩ | ⟨hs, h6⟩
  · simp only [hs, if_true]
    rcases hsrc with hsrc | hsrc
    · left; exact hsrc
    · right; left; rw [hsrc, hl]
  · simp only [hs, if_false]
    rcases h6 with h6 | h6
    · right; left; exact h6
    · right; right
      unfold KnownSrcException at *
      simpa using h6

theorem lenRel_slice {ctx : Ctx} {o l : Nat} (hc : ctx.off = o) (hav : ctx.avail = l) {cls : FaultClass}
    (hcls : cls ≠ .content) {ly : Layer} {u : Unit_} (hly : LayerUnit ly u) (req : Nat) :
    LenRel { req := req, len := l, src := .slice, layer := ly, off := 0 } (mkFault ctx cls u req) o ctx.lim :=
  ⟨hcls, hly, (Nat.zero_add o).trans hc.symm, hav.symm, rfl, Or.inl ⟨rfl, rfl⟩⟩

/-- the two call sites that name the length field that produced `req` -/
theorem lenRel_known {ctx : Ctx} {o l : Nat} (hc : ctx.off = o) (hav : ctx.avail = l) {cls : FaultClass}
    (hcls : cls ≠ .content) {ly : Layer} {u : Unit_} (hly : LayerUnit ly u) (req : Nat) {s : LenSource}
    (hs : s ≠ .slice) (hk : KnownSrcException { req := req, len := l, src := s, layer := ly, off := 0 }) :
    LenRel { req := req, len := l, src := s, layer := ly, off := 0 } (mkFault ctx cls u req) o ctx.lim :=
  ⟨hcls, hly, (Nat.zero_add o).trans hc.symm, hav.symm, rfl, Or.inr ⟨hs, Or.inr hk⟩⟩

def ErrRel (e : PErr) (f : Fault) (o : Nat) (lim : LenSource) : Prop :=
  match e with
  | .len le => LenRel le f o lim
  | e => ContentMatch e f

theorem contentMatch_err {e : PErr} {f : Fault} (h : ContentMatch e f) : ErrMatch e f := by
  cases e <;> first | exact h | exact h.2.elim

theorem rel_last {g : Mem} (k : Nat) {p p' : Packet} {t : Tag} {c c' : Ctx} (ht : t ≠ .done)
    (h : Spec.step false g p t c = ⟨p', .done, c', none⟩) : Rel (.ok p') (walkN false g (k + 1) p t c) := by
  rw [walkN_last k ht h]; exact rfl

theorem rel_fault {g : Mem} (k : Nat) {p p' : Packet} {t t' : Tag} {c c' : Ctx} {f : Fault} {e : PErr} (ht : t ≠ .done)
    (h : Spec.step false g p t c = ⟨p', t', c', some f⟩) (hm : ErrMatch e f) :
    Rel (.error e) (walkN false g (k + 1) p t c) := by
  rw [walkN_fault false g k _ _ _ _ _ _ f ht h]; exact hm

theorem udp_step (g : Mem) (p : Packet) (ctx : Ctx) (o l : Nat) (hc : ctx.off = o) (hs : ctx.stop = o + l) :
    match udpFromSlice g o l with
    | .ok w => Spec.step false g p (.tp 17) ctx = ⟨setTp p (.udp w), .done, ctx, none⟩
    | .error e =>
      ∃ f, Spec.step false g p (.tp 17) ctx = ⟨p, .done, ctx, some f⟩ ∧ (f.unit = .udpHeader ∨ f.unit = .udpPayload) ∧
        LenRel e f o ctx.lim := by
  have hav : ctx.avail = l := by unfold Ctx.avail; omega
  unfold udpFromSlice
  simp only [step_tp, if_true, hav, hc, StepR.good, StepR.bad]
  by_cases h8 : l < 8
  · simp only [h8, if_true]
    exact ⟨_, rfl, Or.inl rfl, lenRel_slice hc hav (by decide) (by trivial) 8⟩
  · simp only [h8, if_false]
    by_cases hlt : l < g16 g (o + 4)
    · have hz : ¬ g16 g (o + 4) = 0 := by omega
      simp only [hlt, hz, if_true, if_false, Bool.false_eq_true]
      exact ⟨_, rfl, Or.inr rfl, lenRel_slice hc hav (by decide) (by trivial) _⟩
    · simp only [hlt, if_false]
      by_cases hz : g16 g (o + 4) = 0
      · simp only [hz, if_true]
      · simp only [hz, if_false]
        by_cases hl8 : g16 g (o + 4) < 8
        · simp only [hl8, if_true, Bool.false_eq_true, if_false]
          exact ⟨_, rfl, Or.inl rfl, fun h => FaultClass.noConfusion h, trivial, Nat.zero_add _, rfl, rfl,
            Or.inr ⟨fun h => LenSource.noConfusion h, Or.inl rfl⟩⟩
        · simp only [hl8, if_false]

theorem tcp_step (lax : Bool) (g : Mem) (p : Packet) (ctx : Ctx) (o l : Nat) (hc : ctx.off = o)
    (hs : ctx.stop = o + l) :
    match tcpFromSlice g o l with
    | .ok hl => Spec.step lax g p (.tp 6) ctx = ⟨setTp p (.tcp ⟨o, l⟩ hl), .done, ctx, none⟩
    | .error e =>
      ∃ f, Spec.step lax g p (.tp 6) ctx = ⟨p, .done, ctx, some f⟩ ∧ f.unit = .tcp ∧ ErrRel e f o ctx.lim := by
  have hav : ctx.avail = l := by unfold Ctx.avail; omega
  unfold tcpFromSlice
  simp only [step_tp, Nat.reduceEqDiff, if_true, if_false, hav, hc, StepR.good, StepR.bad]
  by_cases h20 : l < 20
  · simp only [h20, if_true]
    exact ⟨_, rfl, rfl, lenRel_slice hc hav (by decide) (by trivial) 20⟩
  · have e1 : g (o + 12) / 16 * 4 < 20 ↔ g (o + 12) / 16 < 5 := by omega
    simp only [h20, if_false, e1]
    by_cases h5 : g (o + 12) / 16 < 5
    · simp only [h5, if_true]
      exact ⟨_, rfl, rfl, rfl, rfl, by simp [mkFault]⟩
    · simp only [h5, if_false]
      by_cases hl : l < g (o + 12) / 16 * 4
      · simp only [hl, if_true]
        exact ⟨_, rfl, rfl, lenRel_slice hc hav (by decide) (by trivial) _⟩
      · simp only [hl, if_false]

theorem icmp4_step (lax : Bool) (g : Mem) (p : Packet) (ctx : Ctx) (o l : Nat) (hc : ctx.off = o)
    (hs : ctx.stop = o + l) :
    match icmp4FromSlice g o l with
    | .ok w => Spec.step lax g p (.tp 1) ctx = ⟨setTp p (.icmp4 w), .done, ctx, none⟩
    | .error e =>
      ∃ f, Spec.step lax g p (.tp 1) ctx = ⟨p, .done, ctx, some f⟩ ∧ f.unit = .icmp4 ∧ LenRel e f o ctx.lim := by
  have hav : ctx.avail = l := by unfold Ctx.avail; omega
  have hcls : (if l < 20 then FaultClass.cutShort else .tooLong) ≠ .content := by split <;> decide
  unfold icmp4FromSlice
  simp only [show Spec.step lax g p (.tp 1) ctx = icmp4Step g p ctx from rfl, icmp4Step, hav, hc, StepR.good, StepR.bad]
  by_cases h8 : l < 8
  · simp only [h8, if_true]
    exact ⟨_, rfl, rfl, lenRel_slice hc hav (by decide) (by trivial) 8⟩
  · simp only [h8, if_false]
    by_cases h13 : g o = 13 ∧ g (o + 1) = 0 ∧ l ≠ 20
    · rw [if_pos h13, if_pos ⟨Or.inl h13.1, h13.2⟩]
      exact ⟨_, rfl, rfl, lenRel_slice hc hav hcls (by trivial) 20⟩
    · rw [if_neg h13]
      by_cases h14 : g o = 14 ∧ g (o + 1) = 0 ∧ l ≠ 20
      · rw [if_pos h14, if_pos ⟨Or.inr h14.1, h14.2⟩]
        exact ⟨_, rfl, rfl, lenRel_slice hc hav hcls (by trivial) 20⟩
      · rw [if_neg h14, if_neg (fun h => h.1.elim (fun h1 => h13 ⟨h1, h.2⟩) (fun h1 => h14 ⟨h1, h.2⟩))]

theorem icmp6_step (lax : Bool) (g : Mem) (p : Packet) (ctx : Ctx) (o l : Nat) (hc : ctx.off = o)
    (hs : ctx.stop = o + l) :
    match icmp6FromSlice o l with
    | .ok w => Spec.step lax g p (.tp 58) ctx = ⟨setTp p (.icmp6 w), .done, ctx, none⟩
    | .error e =>
      ∃ f, Spec.step lax g p (.tp 58) ctx = ⟨p, .done, ctx, some f⟩ ∧ f.unit = .icmp6 ∧ LenRel e f o ctx.lim := by
  have hav : ctx.avail = l := by unfold Ctx.avail; omega
  unfold icmp6FromSlice
  simp only [step_tp, Nat.reduceEqDiff, if_true, if_false, hav, hc, StepR.good, StepR.bad]
  by_cases h8 : l < 8
  · simp only [h8, if_true]
    exact ⟨_, rfl, rfl, lenRel_slice hc hav (by decide) (by trivial) 8⟩
  · simp only [h8, if_false]
    by_cases hb : l > 4294967295
    · simp only [hb, if_true]
      exact ⟨_, rfl, rfl, lenRel_slice hc hav (by decide) (by trivial) _⟩
    · simp only [hb, if_false]

theorem setTp_eq (p : Packet) (x : TpR) : Spec.setTp p x = p.setTp x := rfl

theorem setNet_eq (p : Packet) (x : NetR) : Spec.setNet p x = p.setNet x := rfl

theorem setLink_eq (p : Packet) (x : LinkR) : Spec.setLink p x = p.setLink x := rfl

theorem addExt_eq (p : Packet) (x : ExtR) : Spec.addExt p x = p.pushExt x := rfl

theorem tp_refines (c : Cur) (g : Mem) (num o l : Nat) (ctx : Ctx) (k : Nat) (ht : Tied c ctx o l) :
    Rel (c.sliceTransport g num o l) (walkN false g (k + 1) c.r (.tp num) ctx) := by
  have hc := ht.coff
  have hs := ht.stop
  have hnd : ∀ n, Tag.tp n ≠ .done := fun _ h => Tag.noConfusion h
  unfold Cur.sliceTransport
  dsimp only
  by_cases h1 : num = 1
  · subst h1
    have := icmp4_step false g c.r ctx o l hc hs
    rw [if_pos rfl]
    cases hd : icmp4FromSlice g o l with
    | ok w => rw [hd] at this; exact rel_last k (hnd _) this
    | error e =>
      rw [hd] at this
      obtain ⟨f, hf, -, hrel⟩ := this
      exact rel_fault k (hnd _) hf (lenRel_fix e f c ctx o l ht hrel)
  · rw [if_neg h1]
    by_cases h17 : num = 17
    · subst h17
      have := udp_step g c.r ctx o l hc hs
      rw [if_pos rfl]
      cases hd : udpFromSlice g o l with
      | ok w => rw [hd] at this; exact rel_last k (hnd _) this
      | error e =>
        rw [hd] at this
        obtain ⟨f, hf, -, hrel⟩ := this
        exact rel_fault k (hnd _) hf (lenRel_fix e f c ctx o l ht hrel)
    · rw [if_neg h17]
      by_cases h6 : num = 6
      · subst h6
        have := tcp_step false g c.r ctx o l hc hs
        rw [if_pos rfl]
        cases hd : tcpFromSlice g o l with
        | ok w => rw [hd] at this; exact rel_last k (hnd _) this
        | error e =>
          rw [hd] at this
          obtain ⟨f, hf, -, hrel⟩ := this
          cases e with
          | len le => exact rel_fault k (hnd _) hf (lenRel_fix le f c ctx o l ht hrel)
          | _ => exact rel_fault k (hnd _) hf (contentMatch_err hrel)
      · rw [if_neg h6]
        by_cases h58 : num = 58
        · subst h58
          have := icmp6_step false g c.r ctx o l hc hs
          rw [if_pos rfl]
          cases hd : icmp6FromSlice o l with
          | ok w => rw [hd] at this; exact rel_last k (hnd _) this
          | error e =>
            rw [hd] at this
            obtain ⟨f, hf, -, hrel⟩ := this
            exact rel_fault k (hnd _) hf (lenRel_fix e f c ctx o l ht hrel)
        · rw [if_neg h58]
          exact rel_last k (hnd _) (step_tp_other false g c.r num ctx h1 h17 h6 h58)

def ByteMem (g : Mem) : Prop := ∀ i, g i < 256

theorem byteMem_memOf (b : Bytes) : ByteMem (memOf b) := fun i => bAt_lt b i

theorem frag4_eq (g : Mem) (hg : ByteMem g) (o : Nat) : Spec.v4Fragmented g o = ipv4IsFragmenting g o := by
  have h6 := hg (o + 6)
  have h7 := hg (o + 7)
  unfold Spec.v4Fragmented ipv4IsFragmenting g16
  simp only
  have e1 : (g (o + 6) * 256 + g (o + 6 + 1)) / 8192 % 2 = g (o + 6) / 32 % 2 := by
    have := hg (o + 6 + 1); omega
  have e2 : (g (o + 6) * 256 + g (o + 6 + 1)) % 8192 = g (o + 6) % 32 * 256 + g (o + 7) := by
    have := hg (o + 6 + 1)
    have : o + 6 + 1 = o + 7 := by omega
    rw [this]; omega
  rw [e1, e2]

theorem lenRel_src_weak {e : LenError} {f : Fault} {o : Nat} {lim : LenSource} (h : LenRel e f o lim) :
    e.src = .slice ∨ e.src = f.lim ∨ KnownSrcException e := by
  rcases h.src with ⟨h1, _⟩ | ⟨_, h2 | h2⟩
  · left; exact h1
  · right; left; exact h2
  · right; right; exact h2

theorem lenRel_addOff {e : LenError} {f : Fault} {c : Cur} {o : Nat} {lim : LenSource} (hoff : c.off = o)
    (h : LenRel e f o lim) : LenMatch (e.addOffset c.off) f := by
  have hsl := lenRel_src_weak h
  obtain ⟨h1, h2, h3, h4, h5, _⟩ := h
  refine ⟨h1, h2, by simp [LenError.addOffset]; omega, by simpa [LenError.addOffset] using h4,
    by simpa [LenError.addOffset] using h5, ?_⟩
  simpa [LenError.addOffset, KnownSrcException] using hsl

/-- an error of a unit inside an IP layer (relative to the inner slice, `k` behind the start of the
    IP slice) whose source the IP decoder replaces by that of its own boundary -/
theorem lenRel_inner {le : LenError} {f : Fault} {o k : Nat} {lim src : LenSource}
    (h : LenRel le f (o + k) (inherit lim src)) (hs : le.src = .slice) :
    LenRel ((le.withSrc src).addOffset k) f o lim := by
  obtain ⟨h1, h2, h3, h4, h5, h6⟩ := h
  have hl : f.lim = inherit lim src := by
    rcases h6 with ⟨_, hl⟩ | ⟨hne, _⟩
    · exact hl
    · exact absurd hs hne
  refine ⟨h1, h2, by show le.off + k + o = f.off; omega, h4, h5, ?_⟩
  by_cases h : src = .slice
  · exact Or.inl ⟨h, by rw [hl, inherit, if_pos h]⟩
  · exact Or.inr ⟨h, Or.inl (by rw [hl, inherit, if_neg h]; rfl)⟩

/-- what one IP step of the walk yields, against the result `(ip, stop)` of a lax IP decoder for the
    slice at `o` (a strict decoder returns the stop error instead) -/
def IpStep (lax : Bool) (g : Mem) (p : Packet) (ctx : Ctx) (o : Nat) (t : Tag) (r : IpR × Option (PErr × Layer)) :
    Prop :=
  ∃ t' c' fo,
    Spec.step lax g p t ctx = ⟨p.setNet (.ip r.1), t', c', fo⟩ ∧ o ≤ r.1.pl.w.o ∧
    match r.2, fo with
    | none, none =>
      t' = (if r.1.pl.frag then .done else .tp r.1.pl.num) ∧
      c' = { off := r.1.pl.w.o, stop := r.1.pl.w.o + r.1.pl.w.l, lim := inherit ctx.lim r.1.pl.src, nExt := ctx.nExt }
    | some (e, ly), some f => StopLayer ly f.unit ∧ ErrRel e f o ctx.lim
    | _, _ => False

theorem inherit_self (a b : LenSource) : b = .slice ∨ b = inherit a b := by
  unfold inherit; by_cases h : b = .slice <;> simp [h]

/-- what a strict IP decoder makes of `(ip, stop)` -/
def strictOf (r : IpR × Option (PErr × Layer)) : Except PErr IpR :=
  match r.2 with
  | none => .ok r.1
  | some (e, _) => .error e

def IpStepS (g : Mem) (p : Packet) (ctx : Ctx) (o : Nat) (t : Tag) (D : Except PErr IpR) : Prop :=
  match D with
  | .ok ip =>
    Spec.step false g p t ctx =
      ⟨p.setNet (.ip ip), if ip.pl.frag then .done else .tp ip.pl.num,
        { off := ip.pl.w.o, stop := ip.pl.w.o + ip.pl.w.l, lim := inherit ctx.lim ip.pl.src, nExt := ctx.nExt }, none⟩ ∧
      o ≤ ip.pl.w.o
  | .error e => ∃ p' t' c' f, Spec.step false g p t ctx = ⟨p', t', c', some f⟩ ∧ ErrRel e f o ctx.lim

theorem ipStep_strict {g : Mem} {p : Packet} {ctx : Ctx} {o : Nat} {t : Tag} {r : IpR × Option (PErr × Layer)}
    (h : IpStep false g p ctx o t r) : IpStepS g p ctx o t (strictOf r) := by
  obtain ⟨t', c', fo, hstep, hge, hm⟩ := h
  obtain ⟨ip, st⟩ := r
  cases st with
  | none =>
    cases fo with
    | some f => exact hm.elim
    | none =>
      obtain ⟨rfl, rfl⟩ := hm
      exact ⟨hstep, hge⟩
  | some x =>
    obtain ⟨e, ly⟩ := x
    cases fo with
    | none => exact hm.elim
    | some f => exact ⟨_, _, _, _, hstep, hm.2⟩

/-- the part of the IPv4 step behind the boundary, for either mode: `(S, src, inc)` is what the
    boundary yields -/
theorem ipv4_tail (lax : Bool) (g : Mem) (hg : ByteMem g) (p : Packet) (ctx : Ctx) (o l : Nat) (hc : ctx.off = o)
    (hs : ctx.stop = o + l) (h20 : 20 ≤ l) (hv : g o / 16 = 4) (hi : 5 ≤ g o % 16) (hl : g o % 16 * 4 ≤ l)
    (S : Nat) (src : LenSource) (inc : Bool) (hS : o + g o % 16 * 4 ≤ S)
    (hb : Spec.bound lax ctx .ipv4Packet .ipv4HeaderTotalLen (g o % 16 * 4) (g16 g (o + 2)) = .ok (S, src, inc))
    (hm : ipv4BoundLax o l (g o % 16 * 4) (g16 g (o + 2)) = (⟨o + g o % 16 * 4, S - (o + g o % 16 * 4)⟩, src, inc)) :
    IpStep lax g p ctx o .ipv4 (ipv4AfterHeaderLax g o l (g o % 16 * 4)) := by
  have hav : ctx.avail = l := by unfold Ctx.avail; omega
  have h20' : ¬ l < 20 := by omega
  have hi' : ¬ g o % 16 < 5 := by omega
  have hl' : ¬ l < g o % 16 * 4 := by omega
  -- the decoder's result is kept as a variable until its value is known, so that `IpStep` mentions it once
  generalize hR : ipv4AfterHeaderLax g o l (g o % 16 * 4) = r
  unfold ipv4AfterHeaderLax at hR
  simp only [hm, ahFromSlice] at hR
  unfold IpStep
  simp only [Spec.step, hav, hc, h20', hv, hi', hl', ne_eq, not_true_eq_false, if_false, hb, frag4_eq g hg o]
  simp only [Ctx.avail]
  generalize g o % 16 * 4 = H at *
  by_cases h51 : g (o + 9) = 51
  · simp only [h51, if_true] at hR ⊢
    by_cases h12 : S - (o + H) < 12
    · simp only [h12, if_true] at hR ⊢
      subst hR
      exact ⟨_, _, _, rfl, Nat.le_add_right .., trivial,
        lenRel_inner (lenRel_slice (ctx := ⟨o + H, S, inherit ctx.lim src, ctx.nExt⟩) rfl rfl (by decide)
          (by trivial) 12) rfl⟩
    · simp only [h12, if_false] at hR ⊢
      by_cases hz : g (o + H + 1) < 1
      · simp only [if_true, show g (o + H + 1) = 0 by omega] at hR ⊢
        subst hR
        exact ⟨_, _, _, rfl, Nat.le_add_right .., trivial, rfl, rfl⟩
      · simp only [hz, if_false, show ¬ g (o + H + 1) = 0 by omega] at hR ⊢
        by_cases hal : S - (o + H) < (g (o + H + 1) + 2) * 4
        · simp only [hal, if_true] at hR ⊢
          subst hR
          exact ⟨_, _, _, rfl, Nat.le_add_right .., trivial,
            lenRel_inner (lenRel_slice (ctx := ⟨o + H, S, inherit ctx.lim src, ctx.nExt⟩) rfl rfl (by decide)
              (by trivial) _) rfl⟩
        · simp only [hal, if_false] at hR ⊢
          subst hR
          generalize (g (o + H + 1) + 2) * 4 = al at *
          have e2 : S - (o + H + al) = S - (o + H) - al := by omega
          refine ⟨_, _, none, by rw [e2]; rfl, by show o ≤ o + H + al; omega, rfl, ?_⟩
          show _ = Ctx.mk _ (o + H + al + (S - (o + H) - al)) _ _
          congr 1; omega
  · simp only [h51, if_false] at hR ⊢
    subst hR
    refine ⟨_, _, none, rfl, Nat.le_add_right .., rfl, ?_⟩
    show _ = Ctx.mk _ (o + H + (S - (o + H))) _ _
    congr 1; omega

/-- behind an accepted boundary the strict decoder returns what the lax one records -/
theorem ipv4AfterStrict_eq (g : Mem) (o l hl : Nat) (h1 : ¬ g16 g (o + 2) < hl) (h2 : ¬ l < g16 g (o + 2)) :
    ipv4AfterHeaderStrict g o l hl = strictOf (ipv4AfterHeaderLax g o l hl) := by
  unfold ipv4AfterHeaderStrict ipv4AfterHeaderLax ipv4BoundStrict ipv4BoundLax strictOf
  simp only [h1, h2, if_false]
  by_cases h51 : g (o + 9) = 51
  · simp only [h51, if_true]
    cases ahFromSlice g (o + hl) (g16 g (o + 2) - hl) with
    | ok al => rfl
    | error e => cases e <;> rfl
  · simp only [h51, if_false]

/-- what the IPv4 step of the spec yields, against `Ipv4Slice::from_slice` -/
theorem ipv4_step (g : Mem) (hg : ByteMem g) (p : Packet) (ctx : Ctx) (o l : Nat) (hc : ctx.off = o)
    (hs : ctx.stop = o + l) : IpStepS g p ctx o .ipv4 (ipv4SliceFromSlice g o l) := by
  subst hc
  have hav : ctx.avail = l := by unfold Ctx.avail; omega
  have hst := step_ipv4 false g p ctx
  rw [hav] at hst
  unfold ipv4SliceFromSlice ipv4HeaderFromSlice
  by_cases h20 : l < 20
  · rw [if_pos h20] at hst ⊢
    exact ⟨_, _, _, _, hst, lenRel_slice rfl hav (by decide) (by trivial) 20⟩
  rw [if_neg h20] at hst ⊢
  by_cases hv : g ctx.off / 16 ≠ 4
  · rw [if_pos hv] at hst ⊢
    exact ⟨_, _, _, _, hst, rfl, rfl, rfl⟩
  rw [if_neg hv] at hst ⊢
  by_cases hi : g ctx.off % 16 < 5
  · rw [if_pos hi] at hst ⊢
    exact ⟨_, _, _, _, hst, rfl, rfl, rfl⟩
  rw [if_neg hi] at hst ⊢
  by_cases hl : l < g ctx.off % 16 * 4
  · rw [if_pos hl] at hst ⊢
    exact ⟨_, _, _, _, hst, lenRel_slice rfl hav (by decide) (by trivial) _⟩
  rw [if_neg hl] at hst ⊢
  simp only [Spec.bound, hav, Bool.false_eq_true, if_false] at hst
  by_cases htl : g16 g (ctx.off + 2) < g ctx.off % 16 * 4
  · rw [if_pos htl] at hst
    simp only [ipv4AfterHeaderStrict, ipv4BoundStrict, htl, if_true]
    exact ⟨_, _, _, _, hst, fun h => FaultClass.noConfusion h, by trivial, Nat.zero_add _, rfl, rfl,
      Or.inr ⟨fun h => LenSource.noConfusion h, Or.inl rfl⟩⟩
  rw [if_neg htl] at hst
  by_cases hlt : l < g16 g (ctx.off + 2)
  · rw [if_pos hlt] at hst
    simp only [ipv4AfterHeaderStrict, ipv4BoundStrict, htl, hlt, if_true, if_false]
    exact ⟨_, _, _, _, hst, lenRel_slice rfl hav (by decide) (by trivial) _⟩
  · dsimp only
    rw [ipv4AfterStrict_eq g ctx.off l _ htl hlt]
    exact ipStep_strict (ipv4_tail false g hg p ctx ctx.off l rfl hs (by omega) (Decidable.of_not_not hv)
      (by omega) (by omega) (ctx.off + g16 g (ctx.off + 2)) .ipv4HeaderTotalLen false (by omega)
      (by simp only [Spec.bound, htl, hav, hlt, if_false])
      (by simp only [ipv4BoundLax, htl, hlt, if_false, Nat.add_sub_add_left]))

theorem errRel_addOff {e : PErr} {f : Fault} {c : Cur} {o : Nat} {lim : LenSource} (hoff : c.off = o)
    (h : ErrRel e f o lim) : ErrMatch (lenAddOff c.off e) f := by
  cases e with
  | len le => exact lenRel_addOff hoff h
  | _ => exact contentMatch_err h

theorem afterIp_refines (c : Cur) (g : Mem) (o : Nat) (ip : IpR) (ctx : Ctx) (k : Nat) (hoff : c.off = o)
    (hge : o ≤ ip.pl.w.o) (lim : LenSource) (hsrc : ip.pl.src = .slice ∨ ip.pl.src = lim) :
    Rel (c.afterIp g o ip)
      (walkN false g (k + 1) (c.r.setNet (.ip ip)) (if ip.pl.frag then .done else .tp ip.pl.num)
        { off := ip.pl.w.o, stop := ip.pl.w.o + ip.pl.w.l, lim := lim, nExt := ctx.nExt }) := by
  unfold Cur.afterIp
  by_cases hf : ip.pl.frag = true
  · simp only [hf, if_true, walkN_done]
    exact rfl
  · simp only [hf]
    exact tp_refines _ g _ _ _ _ k ⟨by show c.off + (ip.pl.w.o - o) = ip.pl.w.o; omega, rfl, rfl, hsrc⟩

theorem ipS_refines (c : Cur) (g : Mem) (o l : Nat) (ctx : Ctx) (k : Nat) (t : Tag) (D : Except PErr IpR)
    (ht : Tied c ctx o l) (htd : t ≠ .done) (h : IpStepS g c.r ctx o t D) :
    Rel (match (generalizing := false) D with
        | .error e => .error (lenAddOff c.off e)
        | .ok ip => c.afterIp g o ip) (walkN false g (k + 2) c.r t ctx) := by
  cases D with
  | ok ip =>
    obtain ⟨hs, hge⟩ := h
    rw [walkN_next false g (k + 1) _ _ _ _ _ _ htd hs]
    exact afterIp_refines c g o ip ctx k ht.off hge _ (inherit_self _ _)
  | error e =>
    obtain ⟨p', t', c', f, hf, hrel⟩ := h
    exact rel_fault (k + 1) htd hf (errRel_addOff ht.off hrel)

theorem ipv4_refines (c : Cur) (g : Mem) (hg : ByteMem g) (o l : Nat) (ctx : Ctx) (k : Nat) (ht : Tied c ctx o l) :
    Rel (c.sliceIpv4 g o l) (walkN false g (k + 2) c.r .ipv4 ctx) :=
  ipS_refines c g o l ctx k .ipv4 _ ht (fun h => Tag.noConfusion h) (ipv4_step g hg c.r ctx o l ht.coff ht.stop)

theorem frag6_eq (g : Mem) (hg : ByteMem g) (o : Nat) : Spec.v6Fragmented g o = fragIsFragmenting g o := by
  have h3 := hg (o + 3)
  unfold Spec.v6Fragmented fragIsFragmenting g16
  simp only
  have e : o + 2 + 1 = o + 3 := by omega
  rw [e]
  have e1 : (g (o + 2) * 256 + g (o + 3)) % 2 = g (o + 3) % 2 := by omega
  rw [e1]

def ExtRel (e : ExtErr) (f : Fault) (o0 : Nat) (lim : LenSource) : Prop :=
  match e with
  | .len le => LenRel le f o0 lim ∧ le.src = .slice
  | .hopByHop => f.cls = .content ∧ f.unit = .hopByHop
  | .authZero => f.cls = .content ∧ f.unit = .auth

theorem extRel_len {o l o0 l0 : Nat} (hinv : o + l = o0 + l0) (ho : o0 ≤ o) (lim : LenSource) {ly : Layer} {u : Unit_}
    (hly : LayerUnit ly u) (req : Nat) :
    ExtRel (extLenErr req l0 l ly) (mkFault ⟨o, o + l, lim, 0⟩ .cutShort u req) o0 lim :=
  ⟨⟨fun h => FaultClass.noConfusion h, hly, by show l0 - l + o0 = o; omega, (Nat.add_sub_cancel_left ..).symm, rfl,
    Or.inl ⟨rfl, rfl⟩⟩, rfl⟩

/-- the slice-mode loop against the spec chain (behind the first header) -/
theorem chain_loop (g : Mem) (hg : ByteMem g) (lim : LenSource) (l0 nh : Nat) (frag : Bool) (slots : ExtSlots)
    (o l o0 : Nat) (hinv : o + l = o0 + l0) (ho : o0 ≤ o) :
    (Spec.chain g lim false nh frag o (o + l)).1 =
        ⟨(extsLoop g false l0 nh frag slots o l).next, (extsLoop g false l0 nh frag slots o l).frag,
          (extsLoop g false l0 nh frag slots o l).rest.o⟩ ∧
      match (extsLoop g false l0 nh frag slots o l).stop, (Spec.chain g lim false nh frag o (o + l)).2 with
      | none, none => True
      | some (e, ly), some f => ExtRel e f o0 lim ∧ StopLayer ly f.unit
      | _, _ => False := by
  have hsub : o + l - o = l := Nat.add_sub_cancel_left ..
  fun_induction extsLoop g false l0 nh frag slots o l
  case case1 frag slots o l =>
    rw [chain_eq]
    simp only [chainHead, if_true, Bool.false_eq_true, if_false, chainBehind]
    exact ⟨rfl, ⟨rfl, rfl⟩, trivial⟩
  case case2 h => simp at h
  case case3 nh frag slots o l h0 hor _ h8 =>
    rw [chain_eq, chainHead_raw _ _ _ hor]
    simp only [extHead, avail_mk, hsub, h8, if_true, chainBehind]
    exact ⟨rfl, extRel_len hinv ho lim (by rcases hor with rfl | rfl <;> trivial) 8,
      by rcases hor with rfl | rfl <;> trivial⟩
  case case4 nh frag slots o l h0 hor _ h8 hl =>
    rw [chain_eq, chainHead_raw _ _ _ hor]
    simp only [extHead, avail_mk, hsub, h8, hl, if_true, if_false, chainBehind]
    exact ⟨rfl, extRel_len hinv ho lim (by rcases hor with rfl | rfl <;> trivial) _,
      by rcases hor with rfl | rfl <;> trivial⟩
  case case5 nh frag slots o l h0 hor _ h8 hl ih =>
    rw [chain_eq, chainHead_raw _ _ _ hor]
    simp only [extHead, avail_mk, hsub, h8, hl, if_false, chainBehind, Bool.or_false]
    have e : o + (g (o + 1) + 1) * 8 + (l - (g (o + 1) + 1) * 8) = o + l := by omega
    have ih' := ih (by omega) (by omega) (Nat.add_sub_cancel_left ..)
    rwa [e] at ih'
  case case6 h _ _ => simp at h
  case case7 frag slots o l _ h8 _ _ =>
    rw [chain_eq]
    simp only [chainHead, avail_mk, hsub, h8, if_true, if_false, Nat.reduceEqDiff, chainBehind]
    exact ⟨rfl, extRel_len hinv ho lim (by trivial) 8, trivial⟩
  case case8 frag slots o l _ h8 _ _ ih =>
    rw [chain_eq]
    simp only [chainHead, avail_mk, hsub, h8, if_true, if_false, Nat.reduceEqDiff, chainBehind, frag6_eq g hg o]
    have e : o + 8 + (l - 8) = o + l := by omega
    have ih' := ih (by omega) (by omega) (Nat.add_sub_cancel_left ..)
    rwa [e] at ih'
  case case9 h _ _ _ => simp at h
  case case10 frag slots o l _ h12 _ _ _ =>
    rw [chain_eq]
    simp only [chainHead, avail_mk, hsub, h12, if_true, if_false, Nat.reduceEqDiff, chainBehind]
    exact ⟨rfl, extRel_len hinv ho lim (by trivial) 12, trivial⟩
  case case11 frag slots o l _ h12 hz _ _ _ =>
    rw [chain_eq]
    simp only [chainHead, avail_mk, hsub, h12, show g (o + 1) = 0 by omega, if_true, if_false, Nat.reduceEqDiff,
      chainBehind]
    exact ⟨rfl, ⟨rfl, rfl⟩, trivial⟩
  case case12 frag slots o l _ h12 hz hl _ _ _ =>
    rw [chain_eq]
    simp only [chainHead, avail_mk, hsub, h12, show ¬ g (o + 1) = 0 by omega, hl, if_true, if_false,
      Nat.reduceEqDiff, chainBehind]
    exact ⟨rfl, extRel_len hinv ho lim (by trivial) _, trivial⟩
  case case13 frag slots o l _ h12 hz hl _ _ _ ih =>
    rw [chain_eq]
    simp only [chainHead, avail_mk, hsub, h12, show ¬ g (o + 1) = 0 by omega, hl, if_true, if_false,
      Nat.reduceEqDiff, chainBehind, Bool.or_false]
    have e : o + (g (o + 1) + 2) * 4 + (l - (g (o + 1) + 2) * 4) = o + l := by omega
    have ih' := ih (by omega) (by omega) (Nat.add_sub_cancel_left ..)
    rwa [e] at ih'
  case case14 nh frag slots o l h0 h1 h2 h3 =>
    rw [chain_eq]
    simp only [chainHead, h0, show ¬ nh = 60 from fun h => h1 (Or.inl h), show ¬ nh = 43 from fun h => h1 (Or.inr h), h2,
      h3, if_false, chainBehind]
    exact ⟨rfl, trivial⟩

/-- the slice-mode walk (optional hop-by-hop header first) against the spec chain -/
theorem chain_walk (g : Mem) (hg : ByteMem g) (lim : LenSource) (nh o l : Nat) :
    (Spec.chain g lim true nh false o (o + l)).1 =
        ⟨(extsWalk g false nh o l).next, (extsWalk g false nh o l).frag, (extsWalk g false nh o l).rest.o⟩ ∧
      match (extsWalk g false nh o l).stop, (Spec.chain g lim true nh false o (o + l)).2 with
      | none, none => True
      | some (e, ly), some f => ExtRel e f o lim ∧ StopLayer ly f.unit
      | _, _ => False := by
  unfold extsWalk
  by_cases h0 : nh = 0
  · subst h0
    rw [if_pos rfl, Spec.chain]
    unfold rawExtFromSlice
    simp only [if_true, Nat.add_sub_cancel_left, dite_eq_ite]
    by_cases h8 : l < 8
    · simp only [h8, if_true]
      exact ⟨trivial, ⟨lenRel_slice rfl (Nat.add_sub_cancel_left ..) (by decide) (by trivial) 8, rfl⟩, trivial⟩
    · simp only [h8, if_false]
      by_cases hl : l < (g (o + 1) + 1) * 8
      · simp only [hl, if_true]
        exact ⟨trivial, ⟨lenRel_slice rfl (Nat.add_sub_cancel_left ..) (by decide) (by trivial) _, rfl⟩, trivial⟩
      · simp only [hl, if_false]
        have e : o + (g (o + 1) + 1) * 8 + (l - (g (o + 1) + 1) * 8) = o + l := by omega
        have := chain_loop g hg lim l (g o) false
          { hbh := some ⟨o, (g (o + 1) + 1) * 8⟩, dest := none, routing := none, finalDest := none, frag := none,
            auth := none } (o + (g (o + 1) + 1) * 8) (l - (g (o + 1) + 1) * 8) o (by omega) (by omega)
        rwa [e] at this
  · rw [if_neg h0, chain_first_irrelevant g lim nh false o (o + l) h0]
    exact chain_loop g hg lim l nh false ExtSlots.none o l o rfl (Nat.le_refl _)

/-- the stop error `ipv6AfterHeaderLax` makes of a stop of the extension walk -/
def v6Stop (src : LenSource) : Option (ExtErr × Layer) → Option (PErr × Layer)
  | none => none
  | some (.len e, ly) => some (.len ((e.withSrc src).addOffset 40), ly)
  | some (e, ly) => some (extErrToPErr e, ly)

theorem ipv6_tail (lax : Bool) (g : Mem) (hg : ByteMem g) (p : Packet) (ctx : Ctx) (l : Nat)
    (hs : ctx.stop = ctx.off + l) (h40 : 40 ≤ l) (hv : g ctx.off / 16 = 6)
    (L : Nat) (src : LenSource) (inc : Bool)
    (hr : (if g16 g (ctx.off + 4) = 0 ∧ ctx.avail > 40 then Except.ok (ctx.stop, LenSource.slice, false)
           else bound lax ctx .ipv6Packet .ipv6HeaderPayloadLen 40 (40 + g16 g (ctx.off + 4))) =
             .ok (ctx.off + 40 + L, src, inc)) :
    IpStep lax g p ctx ctx.off .ipv6
      (mkV6 false ctx.off (g (ctx.off + 6)) ⟨ctx.off + 40, L⟩ (extsWalk g false (g (ctx.off + 6)) (ctx.off + 40) L) src inc,
        v6Stop src (extsWalk g false (g (ctx.off + 6)) (ctx.off + 40) L).stop) := by
  have hav : ctx.avail = l := by unfold Ctx.avail; omega
  unfold IpStep
  rw [step_ipv6, if_neg (by omega), if_neg (fun h => h hv), hr]
  simp only [StepR.withBound, ipv6Rest]
  have hw := chain_walk g hg (inherit ctx.lim src) (g (ctx.off + 6)) (ctx.off + 40) L
  have hsuf := EpModel.Lemmas.Dec.extsWalk_suffix g false (g (ctx.off + 6)) (ctx.off + 40) L
  generalize extsWalk g false (g (ctx.off + 6)) (ctx.off + 40) L = r at *
  generalize Spec.chain g (inherit ctx.lim src) true (g (ctx.off + 6)) false (ctx.off + 40) (ctx.off + 40 + L) = chf at *
  obtain ⟨ch, fo⟩ := chf
  obtain ⟨h1, h2⟩ := hw
  simp only at h1 h2 ⊢
  subst h1
  simp only
  have e1 : r.rest.o - (ctx.off + 40) = L - r.rest.l := by omega
  have e2 : ctx.off + 40 + L - r.rest.o = r.rest.l := by omega
  have hp : setNet p (.ip
      { v4 := false, hdr := ⟨ctx.off, 40⟩, auth := none, exts := ⟨ctx.off + 40, r.rest.o - (ctx.off + 40)⟩,
        first := if r.rest.o = ctx.off + 40 then none else some (g (ctx.off + 6)), slots := ExtSlots.none,
        pl := { num := r.next, frag := r.frag, src := src, w := ⟨r.rest.o, ctx.off + 40 + L - r.rest.o⟩, inc := inc } }) =
      p.setNet (.ip (mkV6 false ctx.off (g (ctx.off + 6)) ⟨ctx.off + 40, L⟩ r src inc)) := by
    simp only [setNet_eq, mkV6, extsFirst]
    rw [e1, e2]
    have hrw : (⟨r.rest.o, r.rest.l⟩ : Win) = r.rest := rfl
    rw [hrw]
    by_cases hx : r.rest.l = L
    · have : r.rest.o = ctx.off + 40 := by omega
      simp [hx, this]
    · have : ¬ r.rest.o = ctx.off + 40 := by omega
      simp [hx, this]
  rw [hp]
  cases hst : r.stop with
  | none =>
    rw [hst] at h2
    cases fo with
    | some f => exact absurd h2 (by simp)
    | none => exact ⟨_, _, none, rfl, by simp [mkV6]; omega, rfl, by simp [mkV6]; omega⟩
  | some x =>
    obtain ⟨e, ly⟩ := x
    rw [hst] at h2
    cases fo with
    | none => exact absurd h2 (by simp)
    | some f =>
      obtain ⟨h2, hly⟩ := h2
      cases e with
      | len le => exact ⟨_, _, some f, rfl, by simp [mkV6]; omega, hly, lenRel_inner h2.1 h2.2⟩
      | _ => exact ⟨_, _, some f, rfl, by simp [mkV6]; omega, hly, h2⟩

theorem ipv6ChainStrict_eq (g : Mem) (o : Nat) (hp : Win) (src : LenSource) :
    ipv6ChainStrict g false o hp src =
      strictOf (mkV6 false o (g (o + 6)) hp (extsWalk g false (g (o + 6)) hp.o hp.l) src false,
        v6Stop src (extsWalk g false (g (o + 6)) hp.o hp.l).stop) := by
  unfold ipv6ChainStrict extsWalkStrict strictOf
  generalize extsWalk g false (g (o + 6)) hp.o hp.l = r
  obtain ⟨next, frag, rest, slots, stop⟩ := r
  cases stop with
  | none => rfl
  | some x =>
    obtain ⟨e, ly⟩ := x
    cases e <;> rfl

theorem ipv6_step (g : Mem) (hg : ByteMem g) (p : Packet) (ctx : Ctx) (o l : Nat) (hc : ctx.off = o)
    (hs : ctx.stop = o + l) : IpStepS g p ctx o .ipv6 (ipv6SliceFromSlice g o l) := by
  subst hc
  have hav : ctx.avail = l := by unfold Ctx.avail; omega
  have hst := step_ipv6 false g p ctx
  rw [hav] at hst
  unfold ipv6SliceFromSlice ipv6HeaderFromSlice
  by_cases h40 : l < 40
  · rw [if_pos h40] at hst ⊢
    exact ⟨_, _, _, _, hst, lenRel_slice rfl hav (by decide) (by trivial) 40⟩
  rw [if_neg h40] at hst ⊢
  by_cases hv : g ctx.off / 16 ≠ 6
  · rw [if_pos hv] at hst ⊢
    exact ⟨_, _, _, _, hst, rfl, rfl, rfl⟩
  rw [if_neg hv]
  have hv' : g ctx.off / 16 = 6 := Decidable.of_not_not hv
  simp only [ipv6AfterHeaderStrict, ipv6BoundStrict]
  by_cases hz : g16 g (ctx.off + 4) = 0 ∧ l > 40
  · simp only [hz, and_self, if_true, ipv6ChainStrict_eq]
    refine ipStep_strict (ipv6_tail false g hg p ctx l hs (by omega) hv' (l - 40) .slice false ?_)
    rw [if_pos (by rw [hav]; exact hz), hs, show ctx.off + 40 + (l - 40) = ctx.off + l by omega]
  · by_cases hlt : l < 40 + g16 g (ctx.off + 4)
    · simp only [hz, hlt, if_true, if_false]
      simp only [if_neg hv, hz, Spec.bound, hav, hlt, if_true, if_false, Bool.false_eq_true,
        show ¬ 40 + g16 g (ctx.off + 4) < 40 by omega] at hst
      exact ⟨_, _, _, _, hst, lenRel_slice rfl hav (by decide) (by trivial) _⟩
    · simp only [hz, hlt, if_false, ipv6ChainStrict_eq]
      refine ipStep_strict (ipv6_tail false g hg p ctx l hs (by omega) hv' (g16 g (ctx.off + 4))
        .ipv6HeaderPayloadLen false ?_)
      rw [if_neg (by rw [hav]; exact hz)]
      simp only [Spec.bound, hav, hlt, if_false, show ¬ 40 + g16 g (ctx.off + 4) < 40 by omega, Nat.add_assoc]

theorem ipv6_refines (c : Cur) (g : Mem) (hg : ByteMem g) (o l : Nat) (ctx : Ctx) (k : Nat) (ht : Tied c ctx o l) :
    Rel (c.sliceIpv6 g o l) (walkN false g (k + 2) c.r .ipv6 ctx) :=
  ipS_refines c g o l ctx k .ipv6 _ ht (fun h => Tag.noConfusion h) (ipv6_step g hg c.r ctx o l ht.coff ht.stop)

theorem arp_step (lax : Bool) (g : Mem) (p : Packet) (ctx : Ctx) (o l : Nat) (hc : ctx.off = o)
    (hs : ctx.stop = o + l) :
    match arpFromSlice g o l with
    | .ok w => ∃ c', Spec.step lax g p (.ether 0x0806) ctx = ⟨p.setNet (.arp w), .done, c', none⟩
    | .error e =>
      ∃ f, Spec.step lax g p (.ether 0x0806) ctx = ⟨p, .done, ctx, some f⟩ ∧ f.unit = .arp ∧ LenRel e f o ctx.lim := by
  have hav : ctx.avail = l := by unfold Ctx.avail; omega
  have e : 8 + g (o + 4) * 2 + g (o + 5) * 2 = 8 + 2 * g (o + 4) + 2 * g (o + 5) := by omega
  unfold arpFromSlice
  simp only [step_ether, show isVlanType 0x0806 = false from rfl, Nat.reduceEqDiff, Bool.false_eq_true, if_true, if_false,
    hav, hc, ← e, StepR.good, StepR.bad]
  by_cases h8 : l < 8
  · simp only [h8, if_true]
    exact ⟨_, rfl, rfl, lenRel_slice hc hav (by decide) (by trivial) 8⟩
  · simp only [h8, if_false]
    by_cases hl : l < 8 + g (o + 4) * 2 + g (o + 5) * 2
    · simp only [hl, if_true]
      exact ⟨_, rfl, rfl, lenRel_known hc hav (by decide) (by trivial) _ (by decide) (Or.inl ⟨rfl, rfl⟩)⟩
    · simp only [hl, if_false]
      exact ⟨_, rfl⟩

theorem macsec_unmod_eq (t : Nat) : (macsecUnmodified t = true) ↔ ((t / 8) % 2 = 0 ∧ (t / 4) % 2 = 0) := by
  unfold macsecUnmodified; simp; omega

theorem secTagLen_eq (t : Nat) :
    secTagLen (decide (t / 32 % 2 = 1)) (decide (t / 8 % 2 = 0 ∧ t / 4 % 2 = 0)) = macsecHeaderLen t := by
  have h := macsec_unmod_eq t
  unfold secTagLen macsecHeaderLen macsecSciPresent
  by_cases hU : macsecUnmodified t = true
  · simp only [hU, h.mp hU, and_self, decide_true, if_true]; omega
  · simp only [hU, mt h.mpr hU, decide_false, if_false, Bool.false_eq_true]; omega

theorem macsecExpected_eq (g : Mem) (o : Nat) (h : ¬ (macsecUnmodified (g o) = true ∧ g (o + 1) % 64 = 1)) :
    macsecExpectedPayloadLen g o =
      if g (o + 1) % 64 = 0 then none
      else some (if macsecUnmodified (g o) = true then g (o + 1) % 64 - 2 else g (o + 1) % 64) := by
  unfold macsecExpectedPayloadLen
  generalize g (o + 1) % 64 = sl at *
  by_cases h0 : sl = 0
  · simp [h0]
  · by_cases hU : macsecUnmodified (g o) = true
    · have h1 : sl ≠ 1 := fun h1 => h ⟨hU, h1⟩
      have : ¬ sl < 2 := by omega
      simp [h0, hU, this, Nat.pos_of_ne_zero h0]
    · simp [h0, hU, Nat.pos_of_ne_zero h0]

theorem macsecNext_eq (g : Mem) (o : Nat) :
    (match macsecNextEtherType g o with | some et' => Tag.ether et' | none => .done) =
      if macsecUnmodified (g o) = true then .ether (g16 g (o + macsecHeaderLen (g o) - 2)) else .done := by
  unfold macsecNextEtherType macsecHeaderLen
  by_cases hU : macsecUnmodified (g o) = true
  · by_cases hS : macsecSciPresent (g o) = true <;> simp [hU, hS]
  · simp [hU]

/-- the SecTAG step of the spec in terms of `MacsecHeaderSlice::from_slice`, `expected_payload_len` and
    `next_ether_type`; `lax` only decides what a short length that promises too much leads to -/
theorem macsec_step_any (lax : Bool) (g : Mem) (hg : ByteMem g) (p : Packet) (c : Ctx) (o l : Nat) (hc : c.off = o)
    (hs : c.stop = o + l) (hn : c.nExt ≠ 3) :
    match macsecHeaderFromSlice g o l with
    | .error e =>
      ∃ f, Spec.step lax g p (.ether 0x88e5) c = ⟨p, .done, c, some f⟩ ∧ f.unit = .macsecHeader ∧ ErrRel e f o c.lim ∧
        ∀ le, e = .len le → le.layer = .macsecHeader
    | .ok hl =>
      let out (pl : Nat) (src : LenSource) (inc : Bool) : StepR :=
        ⟨p.pushExt (.macsec ⟨o, hl⟩ ⟨o + hl, pl⟩ src inc),
          (match macsecNextEtherType g o with | some et' => .ether et' | none => .done),
          { off := o + hl, stop := o + hl + pl, lim := inherit c.lim src, nExt := c.nExt + 1 }, none⟩
      hl ≤ l ∧ (macsecExpectedPayloadLen g o = none ↔ g (o + 1) % 64 = 0) ∧
      Spec.step lax g p (.ether 0x88e5) c =
        match macsecExpectedPayloadLen g o with
        | none => out (l - hl) .slice false
        | some pl =>
          if l < hl + pl then
            if lax then out (l - hl) .slice true
            else ⟨p, .done, c, some (mkFault c .claimsMore .macsecPacket (hl + pl))⟩
          else out pl .macsecShortLength false := by
  have hav : c.avail = l := by unfold Ctx.avail; omega
  have hb := hg o
  have hver : (g o / 128 = 1) = (g o / 128 % 2 = 1) := by rw [eq_iff_iff]; omega
  simp only [Spec.step, isVlanType, macsecHeaderFromSlice, hn, secTagLen_eq, hver, macsecNext_eq, hav, hc,
    show ¬ ((0x88e5 : Nat) = 0x8100 ∨ (0x88e5 : Nat) = 0x88a8 ∨ (0x88e5 : Nat) = 0x9100) by omega,
    decide_false, Bool.false_eq_true, if_false, if_true]
  simp only [← macsec_unmod_eq]
  by_cases h6 : l < 6
  · simp only [h6, if_true]
    exact ⟨_, rfl, rfl, lenRel_slice hc hav (by decide) (by trivial) 6, fun _ h => by cases h; rfl⟩
  · by_cases hv : g o / 128 % 2 = 1
    · simp only [h6, hv, if_true, if_false]
      exact ⟨_, rfl, rfl, ⟨rfl, rfl⟩, fun _ h => PErr.noConfusion h⟩
    · by_cases h1 : macsecUnmodified (g o) = true ∧ g (o + 1) % 64 = 1
      · simp only [h6, hv, h1, and_self, if_true, if_false]
        exact ⟨_, rfl, rfl, ⟨rfl, rfl⟩, fun _ h => PErr.noConfusion h⟩
      · by_cases hlt : l < macsecHeaderLen (g o)
        · simp only [h6, hv, h1, hlt, if_true, if_false]
          exact ⟨_, rfl, rfl, lenRel_slice hc hav (by decide) (by trivial) _, fun _ h => by cases h; rfl⟩
        · simp only [h6, hv, h1, hlt, if_false, macsecExpected_eq g o h1]
          refine ⟨by omega, by by_cases h0 : g (o + 1) % 64 = 0 <;> simp [h0], ?_⟩
          have e1 : ∀ H, c.stop - (o + H) = l - H := fun H => by omega
          have e2 : o + macsecHeaderLen (g o) + (l - macsecHeaderLen (g o)) = c.stop := by omega
          generalize macsecHeaderLen (g o) = H at *
          generalize (if macsecUnmodified (g o) = true then g (o + 1) % 64 - 2 else g (o + 1) % 64) = P
          have e3 : o + H + P - (o + H) = P := Nat.add_sub_cancel_left ..
          by_cases h0 : g (o + 1) % 64 = 0
          · simp only [h0, if_true, e1, e2, addExt_eq]
            cases macsecUnmodified (g o) <;> rfl
          · by_cases hp : l < H + P
            · cases lax
              · simp only [h0, hp, if_true, if_false, Bool.false_eq_true]
              · simp only [h0, hp, if_true, if_false, e1, e2, addExt_eq]
                cases macsecUnmodified (g o) <;> rfl
            · simp only [h0, hp, if_false, e3, addExt_eq]
              cases macsecUnmodified (g o) <;> rfl

theorem macsec_step (g : Mem) (hg : ByteMem g) (p : Packet) (ctx : Ctx) (o l : Nat) (hc : ctx.off = o)
    (hs : ctx.stop = o + l) (hn : ctx.nExt ≠ 3) :
    match macsecFromSlice g o l with
    | .ok (.macsec hdr pl src inc) =>
      Spec.step false g p (.ether 0x88e5) ctx =
        ⟨p.pushExt (.macsec hdr pl src inc),
          (match macsecNextEtherType g o with | some et' => .ether et' | none => .done),
          { off := pl.o, stop := pl.o + pl.l, lim := inherit ctx.lim src, nExt := ctx.nExt + 1 }, none⟩ ∧
        pl.o = o + hdr.l ∧ o ≤ pl.o ∧ pl.o + pl.l ≤ o + l ∧
        ((0 < g (o + 1) % 64) ↔ src = .macsecShortLength) ∧ (src = .slice ∨ src = .macsecShortLength)
    | .ok _ => False
    | .error (.len e) =>
      ∃ f, Spec.step false g p (.ether 0x88e5) ctx = ⟨p, .done, ctx, some f⟩ ∧ LenRel e f o ctx.lim
    | .error e => ∃ f, Spec.step false g p (.ether 0x88e5) ctx = ⟨p, .done, ctx, some f⟩ ∧ ContentMatch e f := by
  have key := macsec_step_any false g hg p ctx o l hc hs hn
  unfold macsecFromSlice
  cases hh : macsecHeaderFromSlice g o l with
  | error e =>
    rw [hh] at key
    obtain ⟨f, hf, -, hrel, -⟩ := key
    cases e <;> exact ⟨f, hf, hrel⟩
  | ok hl =>
    rw [hh] at key
    obtain ⟨hle, hnone, hstep⟩ := key
    cases hx : macsecExpectedPayloadLen g o with
    | none =>
      rw [hx] at hstep
      dsimp only at hstep ⊢
      exact ⟨hstep, rfl, by omega, by omega, by simp [hnone.mp hx], Or.inl rfl⟩
    | some pl =>
      rw [hx] at hstep
      have hpos : 0 < g (o + 1) % 64 := Nat.pos_of_ne_zero (mt hnone.mpr (by simp [hx]))
      dsimp only at hstep ⊢
      by_cases hlt : l < hl + pl
      · rw [if_pos hlt] at hstep ⊢
        exact ⟨_, hstep, lenRel_known hc (by unfold Ctx.avail; omega) (by decide) (by trivial) _ (by decide)
          (Or.inr ⟨rfl, rfl⟩)⟩
      · rw [if_neg hlt] at hstep ⊢
        dsimp only
        exact ⟨hstep, rfl, by omega, by omega, by simp [hpos], Or.inr rfl⟩

end EpModel.Lemmas.Refine
