import EpModel.Spec.TcpOptions
import EpModel.Lemmas.CodecLink
/- For C13: `StepSpec` is the contract of one step of the option iterator (`nextRaw_spec`, `next_spec`), `RunSpec`
   that of a whole run (`run_spec`); `bufOf` is the invariant of the writer's 40 byte buffer (`encode_fits`,
   `fromSlice_fits`); `next_wire` and `iterate_wireAll` read an encoding back. -/
namespace EpModel.Lemmas.TcpOptions
open EpModel EpModel.TcpOptions EpModel.Spec.TcpOpt
open EpModel.Lemmas.Codec hiding bAt_drop

theorem bAt_drop (b : Bytes) (i j : Nat) : bAt (b.drop i) j = bAt b (i + j) := Codec.bAt_drop b i j

theorem u8_lits : u8 1 = 1 ∧ u8 2 = 2 ∧ u8 3 = 3 ∧ u8 4 = 4 ∧ u8 5 = 5 ∧ u8 8 = 8 ∧ u8 10 = 10 ∧
    u8 18 = 18 ∧ u8 26 = 26 ∧ u8 34 = 34 := by decide

/-- the `n` bytes of `b` from offset `i`, read through `bAt`. -/
def bytesFrom (b : Bytes) (i : Nat) : Nat → Bytes
  | 0 => []
  | n + 1 => u8 (bAt b i) :: bytesFrom b (i + 1) n

theorem drop_eq_bytesFrom (b : Bytes) (i n : Nat) (h : i + n ≤ b.length) :
    b.drop i = bytesFrom b i n ++ b.drop (i + n) := by
  induction n generalizing i with
  | zero => simp [bytesFrom]
  | succ n ih =>
    rw [drop_eq_cons b i (by omega), bytesFrom, ih (i + 1) (by omega)]
    have : i + 1 + n = i + (n + 1) := by omega
    rw [this]; rfl

theorem split_at (b : Bytes) (n : Nat) (h : n ≤ b.length) : b = bytesFrom b 0 n ++ b.drop n := by
  have := drop_eq_bytesFrom b 0 n (by omega)
  simpa using this

/-- what one call of the `match self.options[0]` yields, in terms of the wire formats. -/
def StepSpec (b : Bytes) : Option Item × Bytes → Prop
  | (none, _) => bAt b 0 = 0
  | (some (.ok e), rest) => b = wire e ++ rest ∧ WF e ∧ normSack e = e
  | (some (.error err), _) => ErrAt err b

theorem validLen_known {k n : Nat} (h : ValidLen k n) : Known k ∧ 2 ≤ k := by
  unfold ValidLen at h; unfold Known; omega

theorem validLen_unique {k n m : Nat} (hk : k ≠ 5) (h : ValidLen k n) (h' : ValidLen k m) :
    m = n := by
  unfold ValidLen at h h'; omega

theorem validLen_sack {n : Nat} : ValidLen 5 n ↔ n = 10 ∨ n = 18 ∨ n = 26 ∨ n = 34 := by
  unfold ValidLen; omega

theorem fixedKind_valid {b : Bytes} {k n : Nat} {x : Elem} (hf : fixedKind b k = some (n, x)) :
    ValidLen k n ∧ k ≠ 5 ∧ 2 ≤ n := by
  unfold fixedKind at hf
  split at hf <;> cases hf <;> decide

theorem fixedKind_wire {b : Bytes} {k n : Nat} {x : Elem} (hk : bAt b 0 = k)
    (hf : fixedKind b k = some (n, x)) (hl : n ≤ b.length) (h1 : bAt b 1 = n) :
    b = wire x ++ b.drop n ∧ WF x ∧ normSack x = x := by
  have hs := split_at b n hl
  unfold fixedKind at hf
  split at hf <;> cases hf <;>
    refine ⟨by simpa [bytesFrom, hk, h1, wire, enc16_be16_cons, enc32_be32_cons, u8_lits] using hs, ?_, rfl⟩
  · exact be16_lt _ _
  · exact bAt_lt _ _
  · trivial
  · exact ⟨be32_lt _ _, be32_lt _ _⟩

/-- a kind of fixed size: the three outcomes of `expect_specific_size`. -/
theorem fixed_spec {b : Bytes} {k n : Nat} {x : Elem} (hb : 0 < b.length) (hk : bAt b 0 = k)
    (hf : fixedKind b k = some (n, x)) : StepSpec b (nextRaw b) := by
  obtain ⟨hv, hk5, hn⟩ := fixedKind_valid hf
  rw [(nextRaw_fixed hk hf).1, fixedArm_eq]
  subst hk
  split
  · refine ⟨hb, rfl, rfl, by assumption, ?_⟩
    exact Or.inl ⟨hk5, hv⟩
  split
  · rename_i h1
    refine ⟨by omega, rfl, rfl, (validLen_known hv).1, (validLen_known hv).2, ?_⟩
    exact fun h' => h1 (validLen_unique hk5 hv h')
  · exact fixedKind_wire rfl hf (by omega) (by omega)

theorem sackBlock_wf (b : Bytes) (len i : Nat) : SlotWF (sackBlock b len i) := by
  simp only [sackBlock]
  split
  · exact ⟨be32_lt _ _, be32_lt _ _⟩
  · trivial

theorem sackBlock_none_succ {b : Bytes} {len i : Nat} (h : sackBlock b len i = none) :
    sackBlock b len (i + 1) = none := by
  simp only [sackBlock] at h ⊢
  split at h
  · cases h
  · rw [if_neg (by omega)]

theorem normSack_noHoles (f : Pair) (r0 r1 r2 : Option Pair) (h01 : r0 = none → r1 = none)
    (h12 : r1 = none → r2 = none) : normSack (.sack f r0 r1 r2) = .sack f r0 r1 r2 := by
  cases r0 with
  | none => rw [h12 (h01 rfl), h01 rfl]; rfl
  | some p0 =>
    cases r1 with
    | none => rw [h12 rfl]; rfl
    | some p1 => cases r2 <;> rfl

theorem sack_spec {b : Bytes} (h5 : bAt b 0 = 5) (len : Nat) (hlen : bAt b 1 = len)
    (hv : len = 10 ∨ len = 18 ∨ len = 26 ∨ len = 34) (hl : len ≤ b.length) :
    StepSpec b (some (.ok (.sack (be32 b 2, be32 b 6) (sackBlock b len 0) (sackBlock b len 1)
      (sackBlock b len 2))), b.drop len) := by
  refine ⟨?_, ⟨⟨be32_lt _ _, be32_lt _ _⟩, sackBlock_wf _ _ _, sackBlock_wf _ _ _, sackBlock_wf _ _ _⟩,
    normSack_noHoles _ _ _ _ sackBlock_none_succ sackBlock_none_succ⟩
  have hs := split_at b len hl
  rcases hv with rfl | rfl | rfl | rfl
  all_goals
    simp only [bytesFrom, h5, hlen, Nat.zero_add, Nat.reduceAdd, u8_lits] at hs
    simp only [wire, sackBlock, present, wirePair, enc32_be32_cons, Nat.reduceAdd, Nat.reduceMul,
      Nat.reduceLT, if_true, if_false, List.filterMap, id, List.map, List.flatten, List.length,
      List.append, List.cons_append, List.nil_append, u8_lits]
    exact hs

theorem nextRaw_spec (b : Bytes) (hb : 0 < b.length) : StepSpec b (nextRaw b) := by
  by_cases hk : Known (bAt b 0)
  · rcases hk with hk | hk | hk | hk | hk | hk | hk
    · rw [nextRaw_end hk]; exact hk
    · rw [nextRaw_noop hk]
      exact ⟨by simpa [bytesFrom, hk, wire, u8_lits] using split_at b 1 (by omega), trivial, rfl⟩
    · exact fixed_spec hb hk rfl
    · exact fixed_spec hb hk rfl
    · exact fixed_spec hb hk rfl
    · rw [nextRaw_sack hk]
      split
      · refine ⟨hb, hk.symm, rfl, by assumption, ?_⟩
        exact Or.inr (Or.inl ⟨rfl, by assumption, rfl⟩)
      split
      · refine ⟨by omega, hk.symm, rfl, by decide, by omega, ?_⟩
        intro h'
        rw [validLen_sack] at h'
        omega
      split
      · refine ⟨hb, hk.symm, rfl, by assumption, ?_⟩
        exact Or.inr (Or.inr ⟨rfl, by omega, rfl, validLen_sack.mpr (by omega)⟩)
      · exact sack_spec hk _ rfl (by omega) (by omega)
    · exact fixed_spec hb hk rfl
  · rw [nextRaw_unknown hk]
    exact ⟨hb, rfl, hk⟩

theorem next_spec (b : Bytes) :
    match next b with
    | (none, s) => s = [] ∧ (b = [] ∨ (0 < b.length ∧ bAt b 0 = 0))
    | (some (.ok e), rest) => b = wire e ++ rest ∧ WF e ∧ normSack e = e
    | (some (.error err), s) => s = [] ∧ ErrAt err b := by
  unfold next
  by_cases hb : b.length = 0
  · rw [if_pos hb]
    have : b = [] := List.length_eq_zero_iff.mp hb
    simp [this]
  rw [if_neg hb]
  have h := nextRaw_spec b (by omega)
  revert h
  cases nextRaw b with
  | mk r s =>
    cases r with
    | none => intro h; exact ⟨rfl, Or.inr ⟨by omega, h⟩⟩
    | some i =>
      cases i with
      | ok e => intro h; exact h
      | error e => intro h; exact ⟨rfl, h⟩

theorem next_nil : next [] = (none, []) := by simp [next]

theorem run_none (b s : Bytes) (h : next b = (none, s)) : run b = ([], s) := by
  rw [run]; split <;> simp_all

theorem run_some (b s : Bytes) (r : Item) (h : next b = (some r, s)) :
    run b = ((r, s) :: (run s).1, (run s).2) := by
  rw [run]; split <;> simp_all

theorem iterate_none (b s : Bytes) (h : next b = (none, s)) : iterate b = [] ∧ endState b = s := by
  simp [iterate, endState, run_none b s h]

theorem iterate_some (b s : Bytes) (r : Item) (h : next b = (some r, s)) :
    iterate b = r :: iterate s ∧ endState b = endState s := by
  simp [iterate, endState, run_some b s r h]

theorem iterate_nil : iterate [] = [] ∧ endState [] = [] := iterate_none [] [] next_nil

/-- the shape of a complete run over an arbitrary byte string. -/
def RunSpec (b : Bytes) : Prop :=
  ∃ (els : List Elem) (rest : Bytes),
    b = wireAll els ++ rest ∧ (∀ e ∈ els, WF e ∧ normSack e = e) ∧ endState b = [] ∧
      ((iterate b = els.map .ok ∧ (rest = [] ∨ (0 < rest.length ∧ bAt rest 0 = 0))) ∨
        (∃ err, iterate b = els.map .ok ++ [.error err] ∧ ErrAt err rest))

theorem run_spec (b : Bytes) : RunSpec b := by
  induction b using run.induct with
  | case1 b s hnx =>
    have hspec := next_spec b
    rw [hnx] at hspec
    have hi := iterate_none b s hnx
    exact ⟨[], b, by simp [wireAll], by simp, by rw [hi.2]; exact hspec.1, Or.inl ⟨by simp [hi.1], hspec.2⟩⟩
  | case2 b i s hnx ih =>
    have hspec := next_spec b
    rw [hnx] at hspec
    have hi := iterate_some b s i hnx
    cases i with
    | ok e =>
      obtain ⟨els, rest, hb, hwf, hend, hres⟩ := ih
      refine ⟨e :: els, rest, ?_, ?_, by rw [hi.2]; exact hend, ?_⟩
      · rw [hspec.1, hb]; simp [wireAll]
      · intro x hx
        rcases List.mem_cons.mp hx with rfl | hx
        · exact hspec.2
        · exact hwf x hx
      · rcases hres with ⟨h1, h2⟩ | ⟨err, h1, h2⟩
        · exact Or.inl ⟨by rw [hi.1, h1]; rfl, h2⟩
        · exact Or.inr ⟨err, by rw [hi.1, h1]; rfl, h2⟩
    | error err =>
      obtain rfl : s = [] := hspec.1
      refine ⟨[], b, by simp [wireAll], by simp, by rw [hi.2]; exact iterate_nil.2, Or.inr ⟨err, ?_, hspec.2⟩⟩
      rw [hi.1, iterate_nil.1]; rfl

theorem iterate_length (b : Bytes) : (iterate b).length ≤ b.length := by
  induction b using run.induct with
  | case1 b s hnx => simp [(iterate_none b s hnx).1]
  | case2 b i s hnx ih =>
    have hlt := next_shrinks b i s hnx
    rw [(iterate_some b s i hnx).1, List.length_cons]
    omega

theorem writeElem_eq_wire (e : Elem) : writeElem e = wire e := by
  cases e with
  | sack f r0 r1 r2 =>
    obtain ⟨a, b⟩ := f
    cases r0 <;> cases r1 <;> cases r2 <;>
      simp [writeElem, wire, writePair, sackLen, present, wirePair]
  | _ => simp [writeElem, wire]

theorem writeElem_length (e : Elem) : (writeElem e).length = elemSize e := by
  cases e with
  | sack f r0 r1 r2 =>
    obtain ⟨a, b⟩ := f
    cases r0 <;> cases r1 <;> cases r2 <;>
      simp [writeElem, writePair, sackLen, elemSize]
  | _ => simp [writeElem, elemSize]

theorem wire_normSack (e : Elem) : wire (normSack e) = wire e := by
  cases e with
  | sack f r0 r1 r2 =>
    cases r0 <;> cases r1 <;> cases r2 <;> simp [normSack, wire, present]
  | _ => simp [normSack]

theorem foldl_size (es : List Elem) (a : Nat) :
    es.foldl (fun acc x => acc + elemSize x) a = a + (wireAll es).length := by
  induction es generalizing a with
  | nil => simp [wireAll]
  | cons e es ih =>
    simp only [List.foldl_cons, ih, wireAll, List.map_cons, List.flatten_cons, List.length_append]
    rw [← writeElem_eq_wire, writeElem_length]; omega

/-- `required_len` is the length of the concatenated wire forms. -/
theorem size_eq (es : List Elem) : size es = (wireAll es).length := by
  unfold size; rw [foldl_size]; omega

/-- the 40 byte buffer after `out` has been written from its start. -/
def bufOf (out : Bytes) : Bytes := out ++ List.replicate (40 - out.length) 0

theorem bufOf_length (out : Bytes) (h : out.length ≤ 40) : (bufOf out).length = 40 := by
  simp [bufOf]; omega

theorem bufWrite_bufOf (out data : Bytes) (h : out.length + data.length ≤ 40) :
    bufWrite (bufOf out) out.length data = some (bufOf (out ++ data)) := by
  unfold bufWrite
  rw [bufOf_length out (by omega), if_pos h]
  congr 1
  unfold bufOf
  have e1 : List.take out.length (out ++ List.replicate (40 - out.length) 0) = out := by simp
  have e2 : List.drop (out.length + data.length) (out ++ List.replicate (40 - out.length) 0) =
      List.replicate (40 - (out ++ data).length) 0 := by
    rw [List.drop_append]
    simp
    rw [List.drop_of_length_le (by omega), List.nil_append]
    congr 1
    omega
  rw [e1, e2]

theorem writeLoop_bufOf (es : List Elem) (out : Bytes) (h : out.length + (wireAll es).length ≤ 40) :
    writeLoop es (bufOf out) out.length =
      some (bufOf (out ++ wireAll es), out.length + (wireAll es).length) := by
  induction es generalizing out with
  | nil => simp [writeLoop, wireAll]
  | cons e es ih =>
    have hw : wireAll (e :: es) = writeElem e ++ wireAll es := by
      simp [wireAll, writeElem_eq_wire]
    rw [hw] at h ⊢
    simp only [List.length_append] at h
    unfold writeLoop
    rw [bufWrite_bufOf out (writeElem e) (by omega)]
    simp only
    have := ih (out ++ writeElem e) (by simp only [List.length_append]; omega)
    simp only [List.length_append] at this
    rw [this]
    simp [Nat.add_assoc]

theorem padLen_spec (n : Nat) : n ≤ padLen n ∧ padLen n < n + 4 ∧ padLen n % 4 = 0 ∧
    padLen n = (n + 3) / 4 * 4 := by
  unfold padLen; split <;> omega

theorem take_bufOf (out : Bytes) (n : Nat) (h1 : out.length ≤ n) (h2 : n ≤ 40) :
    (bufOf out).take n = out ++ List.replicate (n - out.length) 0 := by
  unfold bufOf
  rw [List.take_append]
  simp
  rw [List.take_of_length_le h1, Nat.min_eq_left (by omega)]

theorem encode_fits (es : List Elem) (h : size es ≤ 40) :
    encode es = .ok (wireAll es ++ List.replicate (padLen (size es) - size es) 0) := by
  unfold encode
  simp only
  rw [if_neg (by omega)]
  rw [size_eq] at h ⊢
  have hw : writeLoop es (List.replicate 40 0) 0 = _ := writeLoop_bufOf es [] (by simpa using h)
  have hp := padLen_spec (wireAll es).length
  rw [hw]
  simp only [List.length_nil, Nat.zero_add, List.nil_append]
  rw [Nat.mod_eq_of_lt (by omega), take_bufOf _ _ hp.1 (by omega)]

theorem fromSlice_fits (s : Bytes) (h : s.length ≤ 40) :
    fromSlice s = .ok (s ++ List.replicate ((s.length + 3) / 4 * 4 - s.length) 0) := by
  unfold fromSlice
  rw [if_neg (by omega)]
  simp only
  have hw : bufWrite (List.replicate 40 0) 0 s = _ := bufWrite_bufOf [] s (by simpa using h)
  have hl : s.length / 4 * 4 + (if s.length % 4 ≠ 0 then 4 else 0) = (s.length + 3) / 4 * 4 := by
    split <;> omega
  rw [hw, Nat.mod_eq_of_lt (by omega), hl]
  simp only [List.nil_append]
  rw [take_bufOf _ _ (by omega) (by omega)]

theorem next_of_nextRaw_ok {b s : Bytes} {e : Elem} (hb : 0 < b.length)
    (h : nextRaw b = (some (.ok e), s)) : next b = (some (.ok e), s) := by
  simp only [next, h]
  rw [if_neg (by omega)]

theorem present_wf {r0 r1 r2 : Option Pair} (h0 : SlotWF r0) (h1 : SlotWF r1) (h2 : SlotWF r2) :
    ∀ q ∈ present r0 r1 r2, PairWF q := by
  intro q hq
  simp only [present, List.mem_filterMap, List.mem_cons, List.not_mem_nil, or_false, id] at hq
  obtain ⟨_, rfl | rfl | rfl, rfl⟩ := hq
  · exact h0
  · exact h1
  · exact h2

theorem nextRaw_sack_wire (f : Pair) (p : List Pair) (t : Bytes) (hp : p.length ≤ 3) (hf : PairWF f)
    (hwf : ∀ q ∈ p, PairWF q) :
    nextRaw (5 :: u8 (2 + 8 * (1 + p.length)) :: ((f :: p).map wirePair).flatten ++ t) =
      (some (.ok (.sack f p[0]? p[1]? p[2]?)), t) := by
  obtain ⟨a, b⟩ := f
  rw [nextRaw_sack rfl]
  simp only [PairWF] at hf
  match p, hp with
  | [], _ | [(a0, b0)], _ | [(a0, b0), (a1, b1)], _ | [(a0, b0), (a1, b1), (a2, b2)], _ =>
    simp [PairWF] at hwf
    simp [wirePair, sackBlock, be32_enc32, hf, hwf]
    rw [if_neg (by omega), if_neg (by omega)]
  | _ :: _ :: _ :: _ :: _, h => exact absurd h (by simp)

theorem next_wire (e : Elem) (t : Bytes) (h : WF e) :
    next (wire e ++ t) = (some (.ok (normSack e)), t) := by
  refine next_of_nextRaw_ok (by cases e <;> simp [wire]) ?_
  cases e with
  | noop => exact nextRaw_noop rfl
  | mss v =>
    show nextRaw (2 :: 4 :: (enc16 v ++ t)) = _
    rw [(nextRaw_fixed rfl rfl).1, fixedArm_eq, if_neg (by simp), if_neg (by simp [bAt])]
    simp only [be16_cons_succ, be16_enc16 v t h, normSack, List.drop_succ_cons]
    rfl
  | ws v =>
    show nextRaw (3 :: 3 :: u8 v :: t) = _
    rw [(nextRaw_fixed rfl rfl).1, fixedArm_eq, if_neg (by simp), if_neg (by simp [bAt])]
    simp only [bAt_cons_succ, bAt_cons_zero, u8_toNat, Nat.mod_eq_of_lt h, normSack,
      List.drop_succ_cons, List.drop_zero]
  | sackPerm =>
    show nextRaw (4 :: 2 :: t) = _
    rw [(nextRaw_fixed rfl rfl).1, fixedArm_eq, if_neg (by simp), if_neg (by simp [bAt])]
    rfl
  | ts a b =>
    show nextRaw (8 :: 10 :: (enc32 a ++ (enc32 b ++ t))) = _
    rw [(nextRaw_fixed rfl rfl).1, fixedArm_eq, if_neg (by simp; omega), if_neg (by simp [bAt])]
    simp only [be32_cons_succ, be32_skip_enc32 a _ 0, be32_enc32 a _ h.1, be32_enc32 b _ h.2, normSack,
      List.drop_succ_cons]
    rfl
  | sack f r0 r1 r2 =>
    exact nextRaw_sack_wire f (present r0 r1 r2) t (List.length_filterMap_le _ _) h.1
      (present_wf h.2.1 h.2.2.1 h.2.2.2)

theorem iterate_wireAll (es : List Elem) (t : Bytes) (h : ∀ e ∈ es, WF e) :
    iterate (wireAll es ++ t) = (es.map normSack).map .ok ++ iterate t := by
  induction es with
  | nil => simp [wireAll]
  | cons e es ih =>
    have hw : wireAll (e :: es) ++ t = wire e ++ (wireAll es ++ t) := by simp [wireAll]
    rw [hw, (iterate_some _ _ _ (next_wire e (wireAll es ++ t) (h e (by simp)))).1,
      ih (fun x hx => h x (by simp [hx]))]
    simp

theorem iterate_end (t : Bytes) : iterate (0 :: t) = [] := by
  have : next (0 :: t) = (none, []) := by simp [next, nextRaw, bAt]
  exact (iterate_none _ _ this).1

theorem iterate_zeros (n : Nat) : iterate (List.replicate n 0) = [] := by
  cases n with
  | zero => exact iterate_nil.1
  | succ n => rw [List.replicate_succ]; exact iterate_end _

end EpModel.Lemmas.TcpOptions
