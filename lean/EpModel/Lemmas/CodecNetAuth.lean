import EpModel.Lemmas.CodecNetBits
import EpModel.Model.Codec.NetAuth
/-
  `IpAuthHeader` / `IpAuthHeaderSlice`: `to_bytes` (whole ICV buffer, then `set_len`) is the fixed part
  followed by the ICV; what an accepting `from_slice` says about its input, that the `unwrap` in
  `to_header` cannot fail behind it, and the two round trips (re-encoding zeroes the reserved bytes).
-/
namespace EpModel.Lemmas.CodecNet.Auth
open EpModel EpModel.CodecNet EpModel.Lemmas.CodecNet EpModel.Lemmas.Codec

theorem be32_enc32 (n : Nat) (hn : n < 4294967296) (r : Bytes) : be32 (enc32 n ++ r) 0 = n :=
  Codec.be32_enc32 n r hn

theorem rawIcvLen_eq (h : IpAuthHeader) (wf : h.WF) : h.rawIcvLen = h.rawIcv.length / 4 := by
  obtain ⟨_, _, _, h4, _⟩ := wf
  unfold IpAuthHeader.rawIcvLen; omega

theorem headerLen_eq (h : IpAuthHeader) (wf : h.WF) : h.headerLen = 12 + h.rawIcv.length := by
  have := rawIcvLen_eq h wf
  obtain ⟨_, _, _, _, h5⟩ := wf
  unfold IpAuthHeader.headerLen; omega

theorem fixedPart_length (h : IpAuthHeader) : h.fixedPart.length = 12 := by
  simp [IpAuthHeader.fixedPart]

/-- `raw_icv()` returns the ICV the value was built from. -/
theorem rawIcvAcc_eq (h : IpAuthHeader) (wf : h.WF) : h.rawIcvAcc = h.rawIcv := by
  have e := rawIcvLen_eq h wf
  obtain ⟨_, _, _, _, h5⟩ := wf
  unfold IpAuthHeader.rawIcvAcc IpAuthHeader.rawIcvBuffer
  rw [e, List.take_left']
  omega

/-- `to_bytes` (buffer appended whole, then `set_len`) is the fixed part followed by the ICV. -/
theorem toBytes_eq (h : IpAuthHeader) (wf : h.WF) : h.toBytes = h.fixedPart ++ h.rawIcv := by
  unfold IpAuthHeader.toBytes IpAuthHeader.rawIcvBuffer
  rw [headerLen_eq h wf, ← List.append_assoc, List.take_left']
  simp [fixedPart_length]

theorem toBytes_length (h : IpAuthHeader) (wf : h.WF) : h.toBytes.length = 12 + h.rawIcv.length := by
  rw [toBytes_eq h wf, List.length_append, fixedPart_length]

theorem slice_of_toBytes (h : IpAuthHeader) (tail : Bytes) (wf : h.WF) :
    IpAuthHeaderSlice.fromSlice (h.toBytes ++ tail) = .ok { slice := h.toBytes } := by
  have hl := toBytes_length h wf
  have ⟨_, _, _, h4, h5⟩ := wf
  have hb1 : bAt (h.toBytes ++ tail) 1 = h.rawIcv.length / 4 + 1 := by
    rw [toBytes_eq h wf]
    simp only [IpAuthHeader.fixedPart, rawIcvLen_eq h wf, List.cons_append, bAt_cons_succ, bAt_cons_zero,
      u8_toNat]
    exact Nat.mod_eq_of_lt (by omega)
  unfold IpAuthHeaderSlice.fromSlice
  simp only [hb1, List.length_append, hl]
  rw [if_neg (by omega), if_neg (by omega), if_neg (by omega), List.take_left']
  omega

/-- `to_header` never hits the `unwrap` panic for a slice the constructor can produce. -/
theorem toHeader_eq (s : IpAuthHeaderSlice) (h12 : 12 ≤ s.slice.length)
    (hmax : s.slice.length ≤ 1028) (h4 : s.slice.length % 4 = 0) :
    s.toHeader = some { nextHeader := bAt s.slice 0, spi := be32 s.slice 4,
                        sequenceNumber := be32 s.slice 8, rawIcv := s.slice.drop 12 } := by
  have c1 : ¬ ((s.slice.drop 12).length > 1016) := by simp; omega
  have c2 : ¬ (0 ≠ (s.slice.drop 12).length % 4) := by simp; omega
  simp only [IpAuthHeaderSlice.toHeader, IpAuthHeader.new, IpAuthHeaderSlice.rawIcv, c1, c2,
    if_false, IpAuthHeaderSlice.nextHeader, IpAuthHeaderSlice.spi, IpAuthHeaderSlice.sequenceNumber]

theorem toHeader_toBytes (h : IpAuthHeader) (wf : h.WF) :
    IpAuthHeaderSlice.toHeader { slice := h.toBytes } = some h := by
  have hl := toBytes_length h wf
  obtain ⟨h1, h2, h3, h4, h5⟩ := wf
  rw [toHeader_eq _ (by rw [hl]; omega) (by rw [hl]; omega) (by rw [hl]; omega),
    toBytes_eq h ⟨h1, h2, h3, h4, h5⟩]
  simp only [IpAuthHeader.fixedPart, List.cons_append, List.nil_append, List.append_assoc,
    bAt_cons_zero, be32_cons_succ, List.drop_succ_cons, be32_skip_enc32, drop_skip_enc32,
    Codec.be32_enc32 _ _ h2, Codec.be32_enc32 _ _ h3, List.drop_zero, u8_toNat, Nat.mod_eq_of_lt h1]

/-- every slice `IpAuthHeaderSlice::from_slice` returns is the first `(payload length byte + 2) * 4`
    bytes of the input: 12..1028 bytes, a multiple of 4. -/
theorem sliceFromSlice_ok (b : Bytes) (s : IpAuthHeaderSlice)
    (hs : IpAuthHeaderSlice.fromSlice b = .ok s) :
    12 ≤ s.slice.length ∧ s.slice.length ≤ 1028 ∧ s.slice.length % 4 = 0 ∧ 1 ≤ bAt b 1 ∧
      (bAt b 1 + 2) * 4 ≤ b.length ∧ s.slice = b.take ((bAt b 1 + 2) * 4) := by
  unfold IpAuthHeaderSlice.fromSlice at hs
  have hlt := bAt_lt b 1
  split at hs
  · cases hs
  · simp only at hs
    split at hs
    · cases hs
    · split at hs
      · cases hs
      · cases hs
        rw [List.length_take_of_le (by omega)]
        exact ⟨by omega, by omega, by omega, by omega, by omega, rfl⟩

/-- the errors of `IpAuthHeaderSlice::from_slice` are its own, not the `unwrap` of `to_header`. -/
theorem sliceFromSlice_error (b : Bytes) (e : IpAuthErr) (hs : IpAuthHeaderSlice.fromSlice b = .error e) :
    e ≠ .panicUnwrap := by
  unfold IpAuthHeaderSlice.fromSlice at hs
  split at hs
  · cases hs; exact IpAuthErr.noConfusion
  · simp only at hs
    split at hs
    · cases hs; exact IpAuthErr.noConfusion
    · split at hs
      · cases hs; exact IpAuthErr.noConfusion
      · cases hs

theorem fromSlice_ok (b : Bytes) (h : IpAuthHeader) (rest : Bytes)
    (hd : IpAuthHeader.fromSlice b = .ok (h, rest)) :
    12 ≤ b.length ∧ 1 ≤ bAt b 1 ∧ (bAt b 1 + 2) * 4 ≤ b.length ∧
      h = { nextHeader := bAt b 0, spi := be32 b 4, sequenceNumber := be32 b 8,
            rawIcv := (b.take ((bAt b 1 + 2) * 4)).drop 12 } ∧
      rest = b.drop ((bAt b 1 + 2) * 4) := by
  unfold IpAuthHeader.fromSlice at hd
  cases hs : IpAuthHeaderSlice.fromSlice b with
  | error e => simp [hs] at hd
  | ok s =>
    obtain ⟨h1, h2, h3, hp, hfull, hsl⟩ := sliceFromSlice_ok b s hs
    simp only [hs, toHeader_eq s h1 h2 h3, Except.ok.injEq, Prod.mk.injEq] at hd
    rw [hsl, List.length_take_of_le hfull, bAt_take _ _ _ (by omega), be32_take _ _ _ (by omega),
      be32_take _ _ _ (by omega)] at hd
    exact ⟨by omega, hp, hfull, hd.1.symm, hd.2.symm⟩

/-- the `unwrap` in `to_header` is unreachable through `from_slice`. -/
theorem fromSlice_no_panic (b : Bytes) : IpAuthHeader.fromSlice b ≠ .error .panicUnwrap := by
  unfold IpAuthHeader.fromSlice
  cases hs : IpAuthHeaderSlice.fromSlice b with
  | error e => exact fun h => sliceFromSlice_error b e hs (Except.error.inj h)
  | ok s =>
    obtain ⟨h1, h2, h3, _⟩ := sliceFromSlice_ok b s hs
    simp [toHeader_eq s h1 h2 h3]

theorem maskReserved_eq (b0 b1 b2 b3 : UInt8) (r : Bytes) :
    maskReserved .ipAuth (b0 :: b1 :: b2 :: b3 :: r) = b0 :: b1 :: 0 :: 0 :: r := by
  simp [maskReserved, reservedTable, clearBits]
  rfl

/-- re-encoding the header decoded from a slice of `(p+2)*4` bytes (`p` = payload length byte ≥ 1)
    gives the bytes back with the two reserved bytes zeroed. -/
theorem toBytes_toHeader (sl : Bytes) (hp : 1 ≤ bAt sl 1) (hl : sl.length = (bAt sl 1 + 2) * 4) :
    IpAuthHeader.toBytes
      { nextHeader := bAt sl 0, spi := be32 sl 4, sequenceNumber := be32 sl 8, rawIcv := sl.drop 12 }
      = maskReserved .ipAuth sl := by
  have hlt := bAt_lt sl 1
  have wf : IpAuthHeader.WF
      { nextHeader := bAt sl 0, spi := be32 sl 4, sequenceNumber := be32 sl 8, rawIcv := sl.drop 12 } :=
    ⟨bAt_lt _ _, be32_lt _ _, be32_lt _ _, by show (sl.drop 12).length ≤ 1016; rw [List.length_drop]; omega,
      by show (sl.drop 12).length % 4 = 0; rw [List.length_drop]; omega⟩
  rw [toBytes_eq _ wf]
  simp only [IpAuthHeader.fixedPart, rawIcvLen_eq _ wf, List.length_drop]
  rw [Codec.enc32_be32 sl 4 (by omega), Codec.enc32_be32 sl 8 (by omega), List.append_assoc,
    List.append_assoc, sub_append_drop sl 8 4 12 rfl, sub_append_drop sl 4 4 8 rfl,
    show (sl.length - 12) / 4 + 1 = bAt sl 1 by omega]
  match sl, hl with
  | b0 :: b1 :: b2 :: b3 :: r, _ =>
    simp only [maskReserved_eq, bAt_cons_zero, bAt_cons_succ, u8_toNat_self, List.cons_append,
      List.nil_append, List.drop_succ_cons, List.drop_zero]
  | [], hl | [_], hl | [_, _], hl | [_, _, _], hl => simp only [List.length_cons, List.length_nil] at hl; omega

theorem sampleMax_wf : IpAuthHeader.WF IpAuthHeader.sampleMax := by
  have hl : IpAuthHeader.sampleMax.rawIcv.length = 1016 := List.length_replicate
  refine ⟨by decide, by decide, by decide, ?_, ?_⟩ <;> rw [hl] <;> decide

end EpModel.Lemmas.CodecNet.Auth
