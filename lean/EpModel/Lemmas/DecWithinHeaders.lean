import EpModel.Lemmas.DecWithin
/- Windows of the struct-decoding families (PacketHeaders, LaxPacketHeaders) lie inside the input (C01). -/
namespace EpModel.Lemmas.Dec
open EpModel EpModel.Dec

-- implicit in a lemma one of whose hypotheses mentions them; lemmas that other files call bind them explicitly
variable {g : Mem} {o l : Nat}

def PayIn : Pay → Nat → Nat → Prop
  | .empty, _, _ => True
  | .ether _ _ w _, o, l => WIn w o l
  | .macsecMod w _, o, l => WIn w o l
  | .ip pl, o, l => WIn pl.w o l
  | .udp w _, o, l => WIn w o l
  | .tcp w _, o, l => WIn w o l
  | .icmp4 w _, o, l => WIn w o l
  | .icmp6 w _, o, l => WIn w o l
  | .linuxSll w, o, l => WIn w o l

def HeadersIn (h : Headers) (o l : Nat) : Prop := PacketIn h.p o l ∧ PayIn h.pay o l

theorem PayIn.trans {p : Pay} {o l O L : Nat} (h : PayIn p o l) (hw : WIn ⟨o, l⟩ O L) : PayIn p O L := by
  cases p
  case empty => trivial
  all_goals exact WIn.trans h hw

theorem HeadersIn.trans {h : Headers} {o l O L : Nat} (hh : HeadersIn h o l) (hw : WIn ⟨o, l⟩ O L) :
    HeadersIn h O L :=
  ⟨hh.1.trans hw, hh.2.trans hw⟩

theorem icmp4HeaderLen_le (w : Win) (h : icmp4FromSlice g o l = .ok w) :
    icmp4HeaderLen g o ≤ l := by
  simp only [icmp4FromSlice, guard_ok] at h
  unfold icmp4HeaderLen
  split <;> omega

theorem tpIn_some {x : TpR} {o l : Nat} (h : TpIn x o l) : ∀ y, some x = some y → TpIn y o l :=
  fun _ hy => Option.some.inj hy ▸ h

theorem readTransport_in (pl : IpPl) (tp : Option TpR) (pay : Pay)
    (h : readTransport g pl = .ok (tp, pay)) :
    (∀ x, tp = some x → TpIn x pl.w.o pl.w.l) ∧ PayIn pay pl.w.o pl.w.l := by
  have hnone : Except.ok (none, Pay.ip pl) = Except.ok (ε := PErr) (tp, pay) →
      (∀ x, tp = some x → TpIn x pl.w.o pl.w.l) ∧ PayIn pay pl.w.o pl.w.l := by
    intro h; cases h; exact ⟨nofun, WIn.refl _ _⟩
  unfold readTransport at h
  by_cases hf : pl.frag = true
  · rw [if_pos hf] at h; exact hnone h
  rw [if_neg hf] at h
  revert h
  refine ite4 (P := fun r : Except PErr (Option TpR × Pay) => r = .ok (tp, pay) → _) ?_ ?_ ?_ ?_ hnone <;> intro h
  · cases hd : icmp4FromSlice g pl.w.o pl.w.l with
    | error e => rw [hd] at h; contradiction
    | ok w =>
      rw [hd] at h
      cases h
      exact ⟨tpIn_some (icmp4_tpIn hd), WIn.drop (icmp4HeaderLen_le w hd)⟩
  · cases hd : icmp6FromSlice pl.w.o pl.w.l with
    | error e => rw [hd] at h; contradiction
    | ok w =>
      rw [hd] at h
      cases h
      exact ⟨tpIn_some (icmp6_tpIn hd), WIn.drop (icmp6_ok _ _ w hd).2⟩
  · cases hd : udpFromSlice g pl.w.o pl.w.l with
    | error e => rw [hd] at h; contradiction
    | ok w =>
      rw [hd] at h
      cases h
      have hu := udp_in g _ _ w hd
      exact ⟨tpIn_some (x := .udp w) hu, (WIn.drop hu.2).trans hu.1⟩
  · cases hd : tcpFromSlice g pl.w.o pl.w.l with
    | error e => rw [hd] at h; cases e <;> contradiction
    | ok hl =>
      rw [hd] at h
      cases h
      exact ⟨tpIn_some (tcp_tpIn hd), WIn.drop (tcp_ok g _ _ hl hd).2⟩

theorem readTransport_headers_in (r : Packet) (ip : IpR) (tp : Option TpR) (pay : Pay) (O L : Nat)
    (hr : PacketIn r O L) (hip : IpIn ip O L) (hrt : readTransport g ip.pl = .ok (tp, pay)) :
    HeadersIn { p := { link := r.link, exts := r.exts, net := some (.ip ip), tp := tp, stop := none }, pay := pay }
      O L := by
  have hpl : WIn ip.pl.w O L := hip.2.2.2.2
  have := readTransport_in ip.pl tp pay hrt
  exact ⟨⟨hr.1, hr.2.1, fun x hx => Option.some.inj hx ▸ hip, fun x hx => (this.1 x hx).trans hpl⟩, this.2.trans hpl⟩

theorem phIpPart_in (o0 o l O L : Nat) (r : Packet) (ipr : Except PErr IpR) (h' : Headers)
    (hr : PacketIn r O L) (hw : WIn ⟨o, l⟩ O L) (hin : ∀ ip, ipr = .ok ip → IpIn ip o l)
    (h : phIpPart g o0 o r ipr = .ok h') : HeadersIn h' O L := by
  unfold phIpPart at h
  cases ipr with
  | error e => contradiction
  | ok ip =>
    simp only at h
    cases hrt : readTransport g ip.pl with
    | error e => rw [hrt] at h; contradiction
    | ok x =>
      rw [hrt] at h
      cases h
      exact readTransport_headers_in r ip _ _ O L hr ((hin ip rfl).trans hw) hrt

theorem phNet_in (o0 et o l O L : Nat) (r : Packet) (pay : Pay) (h' : Headers)
    (hr : PacketIn r O L) (hp : PayIn pay O L) (hw : WIn ⟨o, l⟩ O L)
    (h : phNet g o0 et o l r pay = .ok h') : HeadersIn h' O L := by
  unfold phNet at h
  by_cases h4 : et = 0x0800
  · rw [if_pos h4] at h
    exact phIpPart_in o0 o l O L r _ h' hr hw (fun ip hip => ipHeadersV4_in g o l ip hip) h
  rw [if_neg h4] at h
  by_cases h6 : et = 0x86dd
  · rw [if_pos h6] at h
    exact phIpPart_in o0 o l O L r _ h' hr hw (fun ip hip => ipHeadersV6_in g o l ip hip) h
  rw [if_neg h6] at h
  by_cases ha : et = 0x0806
  · rw [if_pos ha] at h
    cases hd : arpFromSlice g o l with
    | error e => rw [hd] at h; contradiction
    | ok w =>
      rw [hd] at h
      cases h
      exact ⟨packetIn_setNet hr (NetIn.trans (x := .arp w) (arp_in g o l w hd) hw), trivial⟩
  rw [if_neg ha] at h
  cases h
  exact ⟨hr, hp⟩

theorem phLoop_in (o0 n et o l : Nat) (src : LenSource) (r : Packet) (pay : Pay) (O L : Nat)
    (h' : Headers) (hr : PacketIn r O L) (hp : PayIn pay O L) (hw : WIn ⟨o, l⟩ O L)
    (h : phLoop g o0 n et o l src r pay = .ok h') : HeadersIn h' O L := by
  fun_induction phLoop g o0 n et o l src r pay
  case case3 et o l src r pay het n w hv et' ih =>
    obtain ⟨rfl, h4⟩ := vlan_ok o l w hv
    exact ih (packetIn_pushExt hr ⟨(WIn.take h4).trans hw, Nat.le_refl 4⟩) ((WIn.drop h4).trans hw)
      ((WIn.drop h4).trans hw) h
  case case7 o l src r pay n hdr pl msrc inc hm r' et' hn src' hne ih =>
    have hin := (macsec_in g o l _ hm).trans hw
    exact ih (packetIn_pushExt hr hin) hin.2.1 hin.2.1 h
  case case8 o l src r pay n hdr pl msrc inc hm r' hn hne =>
    have hin := (macsec_in g o l _ hm).trans hw
    cases h
    exact ⟨packetIn_pushExt hr hin, hin.2.1⟩
  case case9 => cases h; exact ⟨hr, hp⟩
  -- no room for a further link extension (case1, case4) or another ether type (case10): the net layer
  case case1 => exact phNet_in _ _ _ _ O L _ _ h' hr hp hw h
  case case4 => exact phNet_in _ _ _ _ O L _ _ h' hr hp hw h
  case case10 => exact phNet_in _ _ _ _ O L _ _ h' hr hp hw h
  all_goals contradiction

theorem phFromEtherType_in (et o l : Nat) (h' : Headers) (h : phFromEtherType g et o l = .ok h') :
    HeadersIn h' o l :=
  phLoop_in o 3 et o l .slice _ (.ether et .slice ⟨o, l⟩ false) o l h' (packetIn_empty o l) (WIn.refl o l) (WIn.refl o l) h

theorem lphTransport_in (g : Mem) (ip : IpR) (r1 : Packet) (off' O L : Nat) (hr : PacketIn r1 O L)
    (hw : WIn ip.pl.w O L) : HeadersIn (lphTransport g ip r1 off') O L := by
  unfold lphTransport
  refine ite4 (P := fun r => HeadersIn r O L) ?_ ?_ ?_ ?_ ⟨hr, hw⟩
  · cases hd : icmp4FromSlice g ip.pl.w.o ip.pl.w.l with
    | error e => exact ⟨hr, hw⟩
    | ok w =>
      exact ⟨packetIn_setTp hr ((icmp4_tpIn hd).trans hw), (WIn.drop (icmp4HeaderLen_le w hd)).trans hw⟩
  · cases hd : icmp6FromSlice ip.pl.w.o ip.pl.w.l with
    | error e => exact ⟨hr, hw⟩
    | ok w => exact ⟨packetIn_setTp hr ((icmp6_tpIn hd).trans hw), (WIn.drop (icmp6_ok _ _ w hd).2).trans hw⟩
  · cases hd : udpFromSliceLax g ip.pl.w.o ip.pl.w.l with
    | error e => exact ⟨hr, hw⟩
    | ok w =>
      have hu := udpLax_in g _ _ w hd
      exact ⟨packetIn_setTp hr (TpIn.trans (x := .udp w) hu hw), ((WIn.drop hu.2).trans hu.1).trans hw⟩
  · cases hd : tcpFromSlice g ip.pl.w.o ip.pl.w.l with
    | error e => cases e <;> exact ⟨hr, hw⟩
    | ok hl => exact ⟨packetIn_setTp hr ((tcp_tpIn hd).trans hw), (WIn.drop (tcp_ok g _ _ hl hd).2).trans hw⟩

theorem lphAddIp_in (off o l O L : Nat) (r : Packet) (h' : Headers) (hr : PacketIn r O L)
    (hw : WIn ⟨o, l⟩ O L) (h : lphAddIp g off o l r = .ok h') : HeadersIn h' O L := by
  unfold lphAddIp at h
  cases hip : ipHeadersFromSliceLax g o l with
  | error e => rw [hip] at h; contradiction
  | ok x =>
    obtain ⟨ip, stop⟩ := x
    rw [hip] at h
    have hin := (ipHeadersLax_in g o l ip stop hip).trans hw
    have hnet : PacketIn (r.setNet (.ip ip)) O L := packetIn_setNet hr hin
    have hpl : WIn ip.pl.w O L := hin.2.2.2.2
    simp only at h
    split at h
    · cases h; exact ⟨hnet, hpl⟩
    · cases h; exact ⟨hnet, hpl⟩
    · split at h
      · cases h; exact ⟨hnet, hpl⟩
      · cases h; exact lphTransport_in g ip _ _ O L hnet hpl

theorem lphNet_in (g : Mem) (off et o l O L : Nat) (r : Packet) (pay : Pay) (hr : PacketIn r O L)
    (hp : PayIn pay O L) (hw : WIn ⟨o, l⟩ O L) : HeadersIn (lphNet g off et o l r pay) O L := by
  unfold lphNet
  split
  · split
    · rename_i h' hh
      exact lphAddIp_in off o l O L r h' hr hw hh
    · exact ⟨hr, hp⟩
    · exact ⟨hr, hp⟩
  · split
    · split
      · exact ⟨hr, hp⟩
      · rename_i w hw'
        exact ⟨packetIn_setNet hr (NetIn.trans (x := .arp w) (arp_in g o l w hw') hw), trivial⟩
    · exact ⟨hr, hp⟩

theorem lphLoop_in (g : Mem) (n off et o l : Nat) (src : LenSource) (r : Packet) (pay : Pay) (O L : Nat)
    (hr : PacketIn r O L) (hp : PayIn pay O L) (hw : WIn ⟨o, l⟩ O L) :
    HeadersIn (lphLoop g n off et o l src r pay) O L := by
  fun_induction lphLoop g n off et o l src r pay
  case case3 off et o l src r pay het n w hv et' ih =>
    obtain ⟨rfl, h4⟩ := vlan_ok o l w hv
    exact ih (packetIn_pushExt hr ⟨(WIn.take h4).trans hw, Nat.le_refl 4⟩) ((WIn.drop h4).trans hw)
      ((WIn.drop h4).trans hw)
  case case7 off o l src r pay n hdr pl msrc inc hm r' et' hn src' hne ih =>
    have hin := (laxMacsec_in g o l _ hm).trans hw
    exact ih (packetIn_pushExt hr hin) hin.2.1 hin.2.1
  case case8 off o l src r pay n hdr pl msrc inc hm r' hn hne =>
    have hin := (laxMacsec_in g o l _ hm).trans hw
    exact ⟨packetIn_pushExt hr hin, hin.2.1⟩
  -- no room for a further link extension (case1, case4) or another ether type (case10): the net layer
  case case1 => exact lphNet_in g _ _ _ _ O L _ _ hr hp hw
  case case4 => exact lphNet_in g _ _ _ _ O L _ _ hr hp hw
  case case10 => exact lphNet_in g _ _ _ _ O L _ _ hr hp hw
  all_goals exact ⟨hr, hp⟩

theorem lphFromEtherType_in (g : Mem) (et o l : Nat) : HeadersIn (lphFromEtherType g et o l) o l :=
  lphLoop_in g 3 0 et o l .slice _ (.ether et .slice ⟨o, l⟩ false) o l (packetIn_empty o l) (WIn.refl o l) (WIn.refl o l)

theorem stopAddOff_in (k : Nat) (p : Packet) (o l : Nat) (h : PacketIn p o l) : PacketIn (stopAddOff k p) o l := by
  unfold stopAddOff
  split
  · exact h
  · exact h

end EpModel.Lemmas.Dec
