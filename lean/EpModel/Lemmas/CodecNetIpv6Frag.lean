import EpModel.Lemmas.CodecNetBits
import EpModel.Model.Codec.NetIpv6Frag
/-
  `Ipv6FragmentHeader` / `Ipv6FragmentHeaderSlice`: the 16 bit word holding offset and M flag as
  arithmetic, and the two round trips (re-encoding clears the reserved byte and the two reserved bits).
-/
namespace EpModel.Lemmas.CodecNet.Ipv6Frag
open EpModel EpModel.CodecNet EpModel.Lemmas.CodecNet EpModel.Lemmas.Codec

theorem toBytes_length (h : Ipv6FragmentHeader) : h.toBytes.length = 8 := rfl

/-- the 16 bit word behind the reserved byte: offset in the upper 13 bits, M flag in bit 0. -/
theorem foWord_eq (h : Ipv6FragmentHeader) (hfo : h.fragmentOffset < 8192) :
    h.foWord = h.fragmentOffset * 8 + (if h.moreFragments then 1 else 0) := by
  unfold Ipv6FragmentHeader.foWord shl16
  rw [Nat.shiftLeft_eq, or_eq_add 3 (by omega) (by split <;> omega)]
  have : h.fragmentOffset * 2 ^ 3 % 65536 = h.fragmentOffset * 8 := by omega
  rw [this]

theorem slice_of_toBytes (h : Ipv6FragmentHeader) (tail : Bytes) :
    Ipv6FragmentHeaderSlice.fromSlice (h.toBytes ++ tail) = .ok { slice := h.toBytes } := by
  unfold Ipv6FragmentHeaderSlice.fromSlice
  have : ¬ ((h.toBytes ++ tail).length < 8) := by simp [toBytes_length]
  simp only [this, if_false]
  rw [List.take_left' (toBytes_length h)]

theorem toBytes_eq (h : Ipv6FragmentHeader) :
    h.toBytes = [u8 h.nextHeader, 0] ++ enc16 h.foWord ++ enc32 h.identification := rfl

theorem toHeader_toBytes (h : Ipv6FragmentHeader) (wf : h.WF) :
    Ipv6FragmentHeaderSlice.toHeader { slice := h.toBytes } = h := by
  have hw := foWord_eq h wf.2.1
  rw [toBytes_eq, hw]
  obtain ⟨nh, fo, mf, id⟩ := h
  obtain ⟨h1, h2, h3⟩ := wf
  simp only at h1 h2 h3
  have hm : (if mf = true then 1 else 0) < 8 := by split <;> decide
  have hlt : fo * 8 + (if mf = true then 1 else 0) < 65536 := pack_lt (k := 8192) h2 hm
  have e3 : (fo * 8 + (if mf = true then 1 else 0)) % 256 % 2 = if mf = true then 1 else 0 := by
    rw [Nat.mod_mod_of_dvd _ (show 2 ∣ 256 from ⟨128, rfl⟩), Nat.mul_comm, show 8 * fo = 2 * (4 * fo) by omega,
      Nat.mul_add_mod]
    split <;> rfl
  have e4 : be32 (enc32 id) 0 = id := by
    have := be32_enc32 id [] h3; rwa [List.append_nil] at this
  simp only [Ipv6FragmentHeaderSlice.toHeader, Ipv6FragmentHeaderSlice.nextHeader,
    Ipv6FragmentHeaderSlice.fragmentOffset, Ipv6FragmentHeaderSlice.moreFragments,
    Ipv6FragmentHeaderSlice.identification, List.cons_append, List.nil_append, bAt_cons_zero,
    be16_cons_succ, be32_cons_succ, be32_skip_enc16, be16_enc16 _ _ hlt, e4,
    u8_toNat, Nat.mod_eq_of_lt h1, Nat.shiftRight_eq_div_pow, pack_div hm]
  simp only [enc16, List.cons_append, List.nil_append, bAt_cons_succ, bAt_cons_zero, u8_toNat, and1, e3]
  cases mf <;> rfl

theorem toHeader_wf (s : Ipv6FragmentHeaderSlice) : s.toHeader.WF := by
  refine ⟨bAt_lt _ _, ?_, be32_lt _ _⟩
  show be16 s.slice 2 >>> 3 < 8192
  have := be16_lt s.slice 2
  rw [Nat.shiftRight_eq_div_pow]; omega

theorem maskReserved_eq (b0 b1 b2 b3 b4 b5 b6 b7 : UInt8) :
    maskReserved .ipv6Frag [b0, b1, b2, b3, b4, b5, b6, b7]
      = [b0, 0, b2, u8 (b3.toNat &&& 249), b4, b5, b6, b7] := by
  simp [maskReserved, reservedTable, clearBits]
  rfl

/-- re-encoding the header decoded from 8 bytes gives the 8 bytes back with the reserved byte 1
    and the reserved bits 1–2 of byte 3 cleared. -/
theorem toBytes_toHeader (s : Ipv6FragmentHeaderSlice) (hs : s.slice.length = 8) :
    s.toHeader.toBytes = maskReserved .ipv6Frag s.slice := by
  obtain ⟨sl⟩ := s
  match sl, hs with
  | [b0, b1, b2, b3, b4, b5, b6, b7], _ =>
    rw [maskReserved_eq]
    have l3 := b3.toNat_lt
    have hw : Ipv6FragmentHeader.foWord
        (Ipv6FragmentHeaderSlice.toHeader { slice := [b0, b1, b2, b3, b4, b5, b6, b7] })
        = b2.toNat * 256 + (b3.toNat / 8 * 8 + b3.toNat % 2) := by
      rw [foWord_eq _ (toHeader_wf _).2.1]
      show (b2.toNat * 256 + b3.toNat) >>> 3 * 8 + (if decide (0 ≠ b3.toNat &&& 1) = true then 1 else 0) = _
      simp only [and1, decide_eq_true_eq, Nat.shiftRight_eq_div_pow]
      split <;> omega
    have hlo : b3.toNat / 8 * 8 + b3.toNat % 2 < 256 := by omega
    rw [toBytes_eq, hw]
    show [u8 b0.toNat, 0] ++ enc16 _ ++ enc32 (be32 [b0, b1, b2, b3, b4, b5, b6, b7] 4) = _
    rw [enc32_be32 [b0, b1, b2, b3, b4, b5, b6, b7] 4 (Nat.le_refl 8), u8_toNat_self]
    unfold enc16
    rw [pack_div hlo, u8_toNat_self, and249 _ l3, u8_congr _ _ (Nat.mul_add_mod_self_right ..)]
    rfl

theorem fromSlice_ok (b : Bytes) (h : Ipv6FragmentHeader) (rest : Bytes)
    (hd : Ipv6FragmentHeader.fromSlice b = .ok (h, rest)) :
    8 ≤ b.length ∧ h = Ipv6FragmentHeaderSlice.toHeader { slice := b.take 8 } ∧
      rest = b.drop 8 := by
  unfold Ipv6FragmentHeader.fromSlice Ipv6FragmentHeaderSlice.fromSlice at hd
  by_cases hlen : b.length < 8
  · simp [hlen] at hd
  · simp [hlen] at hd
    exact ⟨by omega, hd.1.symm, hd.2.symm⟩

end EpModel.Lemmas.CodecNet.Ipv6Frag
