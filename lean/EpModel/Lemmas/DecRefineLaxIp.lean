import EpModel.Lemmas.DecRefineLax
/-
  The lax cursor against the lax walk (C05): the IP layer — IPv4 with its authentication header, IPv6 with its
  extension chain, the version dispatch of `LaxIpSlice::from_slice`, and `Cur.laxSliceIp`.
-/
namespace EpModel.Lemmas.RefineLax
open EpModel EpModel.Dec EpModel.Spec EpModel.Lemmas.Refine

theorem ipv4_stepL (g : Mem) (hg : ByteMem g) (p : Packet) (ctx : Ctx) (o l : Nat) (hc : ctx.off = o)
    (hs : ctx.stop = o + l) (h20 : 20 ≤ l) (hv : g o / 16 = 4) (hi : 5 ≤ g o % 16) (hl : g o % 16 * 4 ≤ l) :
    IpStep true g p ctx o .ipv4 (ipv4AfterHeaderLax g o l (g o % 16 * 4)) := by
  have hav : ctx.avail = l := by unfold Ctx.avail; omega
  by_cases htl : g16 g (o + 2) < g o % 16 * 4
  · refine ipv4_tail true g hg p ctx o l hc hs h20 hv hi hl (o + l) .slice false (by omega) ?_ ?_
    · simp [Spec.bound, htl, hs]
    · have e : o + l - (o + g o % 16 * 4) = l - g o % 16 * 4 := by omega
      simp [ipv4BoundLax, htl, e]
  · by_cases hlt : l < g16 g (o + 2)
    · refine ipv4_tail true g hg p ctx o l hc hs h20 hv hi hl (o + l) .slice true (by omega) ?_ ?_
      · simp [Spec.bound, htl, hs, hav, hlt]
      · have e : o + l - (o + g o % 16 * 4) = l - g o % 16 * 4 := by omega
        simp [ipv4BoundLax, htl, hlt, e]
    · refine ipv4_tail true g hg p ctx o l hc hs h20 hv hi hl (o + g16 g (o + 2)) .ipv4HeaderTotalLen false (by omega)
        ?_ ?_
      · simp [Spec.bound, htl, hc, hav, hlt]
      · have e : o + g16 g (o + 2) - (o + g o % 16 * 4) = g16 g (o + 2) - g o % 16 * 4 := by omega
        simp [ipv4BoundLax, htl, hlt, e]

theorem ipv6AfterHeaderLax_eq (g : Mem) (o l : Nat) (hp : Win) (src : LenSource) (inc : Bool)
    (hm : ipv6BoundLax o l (g16 g (o + 4)) = (hp, src, inc)) :
    ipv6AfterHeaderLax g false o l =
      (mkV6 false o (g (o + 6)) hp (extsWalk g false (g (o + 6)) hp.o hp.l) src inc,
        v6Stop src (extsWalk g false (g (o + 6)) hp.o hp.l).stop) := by
  unfold ipv6AfterHeaderLax
  simp only [hm]
  generalize (extsWalk g false (g (o + 6)) hp.o hp.l).stop = st
  cases st with
  | none => rfl
  | some x =>
    obtain ⟨e, ly⟩ := x
    cases e <;> rfl

theorem ipv6_stepL (g : Mem) (hg : ByteMem g) (p : Packet) (ctx : Ctx) (o l : Nat) (hc : ctx.off = o)
    (hs : ctx.stop = o + l) (h40 : 40 ≤ l) (hv : g o / 16 = 6) :
    IpStep true g p ctx o .ipv6 (ipv6AfterHeaderLax g false o l) := by
  subst hc
  have hav : ctx.avail = l := by unfold Ctx.avail; omega
  by_cases hz : g16 g (ctx.off + 4) = 0 ∧ l > 40
  · rw [ipv6AfterHeaderLax_eq g ctx.off l ⟨ctx.off + 40, l - 40⟩ .slice false (by simp [ipv6BoundLax, hz])]
    refine ipv6_tail true g hg p ctx l hs h40 hv (l - 40) .slice false ?_
    have e : ctx.off + 40 + (l - 40) = ctx.off + l := by omega
    simp [hav, hz, hs, e]
  · by_cases hlt : l < 40 + g16 g (ctx.off + 4)
    · rw [ipv6AfterHeaderLax_eq g ctx.off l ⟨ctx.off + 40, l - 40⟩ .slice true
        (by simp only [ipv6BoundLax, hz, if_false, hlt, if_true])]
      refine ipv6_tail true g hg p ctx l hs h40 hv (l - 40) .slice true ?_
      have e : ctx.off + 40 + (l - 40) = ctx.off + l := by omega
      simp only [hav, hz, if_false, Spec.bound, hlt, if_true, hs, e]
      simp
    · rw [ipv6AfterHeaderLax_eq g ctx.off l ⟨ctx.off + 40, g16 g (ctx.off + 4)⟩ .ipv6HeaderPayloadLen false
        (by simp only [ipv6BoundLax, hz, if_false, hlt])]
      refine ipv6_tail true g hg p ctx l hs h40 hv (g16 g (ctx.off + 4)) .ipv6HeaderPayloadLen false ?_
      have e : ctx.off + 40 + g16 g (ctx.off + 4) = ctx.off + (40 + g16 g (ctx.off + 4)) := by omega
      simp only [hav, hz, if_false, Spec.bound, hlt, e]
      simp

/-- what `Cur.laxSliceIp` does with a decoded IP layer and its optional stop error -/
def laxIpCont (c : Cur) (g : Mem) (o : Nat) (r : IpR × Option (PErr × Layer)) : Packet :=
  match r.2 with
  | none =>
    Cur.laxSliceTransport
      { off := c.off + (r.1.pl.w.o - o), src := if r.1.pl.src ≠ .slice then r.1.pl.src else c.src,
        r := c.r.setNet (.ip r.1) } g r.1.pl
  | some (.len e, ly) => (c.r.setNet (.ip r.1)).setStop (.len ((e.addOffset c.off).srcIfSlice c.src)) ly
  | some (e, ly) => (c.r.setNet (.ip r.1)).setStop e ly

theorem laxSliceTransport_stopped (c : Cur) (g : Mem) (pl : IpPl) (h : c.r.stop.isSome = true) :
    c.laxSliceTransport g pl = c.r := by
  unfold Cur.laxSliceTransport
  simp [h]

theorem laxSliceIp_ok (c : Cur) (g : Mem) (o l : Nat) (r : IpR × Option (PErr × Layer))
    (h : laxIpSliceFromSlice g o l = .ok r) : c.laxSliceIp g o l = laxIpCont c g o r := by
  unfold Cur.laxSliceIp laxIpCont
  rw [h]
  obtain ⟨ip, stop⟩ := r
  cases stop with
  | none => rfl
  | some x =>
    obtain ⟨e, ly⟩ := x
    cases e <;> exact laxSliceTransport_stopped _ g ip.pl rfl

theorem laxSliceIp_errLen (c : Cur) (g : Mem) (o l : Nat) (e : LenError)
    (h : laxIpSliceFromSlice g o l = .error (.len e)) :
    c.laxSliceIp g o l = c.r.setStop (.len ((e.addOffset c.off).srcIfSlice c.src)) .ipHeader := by
  unfold Cur.laxSliceIp
  rw [h]

theorem laxSliceIp_err (c : Cur) (g : Mem) (o l : Nat) (e : PErr)
    (h : laxIpSliceFromSlice g o l = .error e) (hne : ∀ le, e ≠ .len le) :
    c.laxSliceIp g o l = c.r.setStop e .ipHeader := by
  unfold Cur.laxSliceIp
  rw [h]
  cases e <;> first | rfl | exact absurd rfl (hne _)

theorem afterIpL (c : Cur) (g : Mem) (o l : Nat) (ctx : Ctx) (k : Nat) (t : Tag) (r : IpR × Option (PErr × Layer))
    (ht : Tied c ctx o l) (hst : c.r.stop = none) (htd : t ≠ .done) (hstep : IpStep true g c.r ctx o t r) :
    RelLax (laxIpCont c g o r) (walkN true g (k + 2) c.r t ctx) := by
  obtain ⟨t', c', fo, hs1, hge, hm⟩ := hstep
  obtain ⟨ip, stop⟩ := r
  unfold laxIpCont
  simp only at hs1 hge hm ⊢
  cases stop with
  | none =>
    cases fo with
    | some f => exact absurd hm (by simp)
    | none =>
      simp only at hm ⊢
      obtain ⟨rfl, rfl⟩ := hm
      rw [walkN_next true g (k + 1) _ _ _ _ _ _ htd hs1]
      refine tp_refinesL _ g ip.pl _ k (by simp [hst]) ?_ rfl rfl (inherit_self _ _)
      have := ht.off
      simp only; omega
  | some x =>
    obtain ⟨e, ly⟩ := x
    cases fo with
    | none => exact absurd hm (by simp)
    | some f =>
      simp only at hm
      obtain ⟨hly, hrel⟩ := hm
      rw [walkN_fault true g (k + 1) _ _ _ _ _ _ f htd hs1]
      cases e with
      | len le =>
        exact relLax_stop (by simp [hst]) ⟨hly, lenRel_fix le f c ctx o l ht hrel⟩
      | _ => exact relLax_stop (by simp [hst]) ⟨hly, contentMatch_err hrel⟩

theorem laxIpSlice_v4 (g : Mem) (o l : Nat) (h4 : g o / 16 = 4) (h0 : 0 < l) :
    laxIpSliceFromSlice g o l =
      if g o % 16 < 5 then .error (.ipIhl (g o % 16))
      else if l < g o % 16 * 4 then
        .error (.len { req := g o % 16 * 4, len := l, src := .slice, layer := .ipv4Header, off := 0 })
      else .ok (ipv4AfterHeaderLax g o l (g o % 16 * 4)) := by
  unfold laxIpSliceFromSlice ipDispatchHeader
  have h0' : ¬ l = 0 := by omega
  simp only [h0', h4, if_true, if_false, Bool.false_eq_true, false_and]
  by_cases hi : g o % 16 < 5
  · simp [hi]
  · simp only [hi, if_false]
    by_cases hl : l < g o % 16 * 4 <;> simp [hl]

theorem laxIpSlice_v6 (g : Mem) (o l : Nat) (h6 : g o / 16 = 6) (h0 : 0 < l) :
    laxIpSliceFromSlice g o l =
      if l < 40 then .error (.len { req := 40, len := l, src := .slice, layer := .ipv6Header, off := 0 })
      else .ok (ipv6AfterHeaderLax g false o l) := by
  unfold laxIpSliceFromSlice ipDispatchHeader
  have h0' : ¬ l = 0 := by omega
  simp only [h0', h6, if_false, show ¬ (6 = 4) by omega, if_true]
  by_cases h40 : l < 40 <;> simp [h40]

theorem laxIpSlice_other (g : Mem) (o l : Nat) (h4 : g o / 16 ≠ 4) (h6 : g o / 16 ≠ 6) (h0 : 0 < l) :
    laxIpSliceFromSlice g o l = .error (.ipVersion (g o / 16)) := by
  unfold laxIpSliceFromSlice ipDispatchHeader
  have h0' : ¬ l = 0 := by omega
  simp [h0', h4, h6]

theorem laxIpSlice_empty (g : Mem) (o : Nat) :
    laxIpSliceFromSlice g o 0 = .error (.len { req := 1, len := 0, src := .slice, layer := .ipHeader, off := 0 }) := by
  unfold laxIpSliceFromSlice ipDispatchHeader
  simp

/-- what the lax cursor records for an IPv4 version nibble in 1..19 bytes (the short-IPv4 class; the strict
    twin is `ShortV4`): the bad IHL, or a length error that requires `ihl*4` bytes -/
def ShortV4L (g : Mem) (o l : Nat) (c : Cur) (e : PErr) : Prop :=
  (g o % 16 < 5 ∧ e = .ipIhl (g o % 16)) ∨
  (5 ≤ g o % 16 ∧
    e = .len { req := g o % 16 * 4, len := l, src := c.src, layer := .ipv4Header, off := c.off })

theorem ip_refinesL_short (c : Cur) (g : Mem) (o l : Nat) (ctx : Ctx) (k : Nat) (ht : Tied c ctx o l)
    (hw : g o / 16 = 4 ∧ 0 < l ∧ l < 20) :
    (∃ e, c.laxSliceIp g o l = c.r.setStop e .ipHeader ∧ ShortV4L g o l c e) ∧
      walkN true g (k + 3) c.r .ipAny ctx = (c.r, some (mkFault ctx .cutShort .ipv4Header 20)) := by
  obtain ⟨h4, h0, h20⟩ := hw
  have hstep := step_ipAny true g c.r ctx
  have hstep2 := step_ipv4 true g c.r ctx
  rw [ht.avail, ht.coff] at hstep hstep2
  rw [if_neg (by omega), if_pos h4] at hstep
  rw [if_pos h20] at hstep2
  rw [walkN_next true g (k + 2) _ _ _ _ _ _ (fun h => Tag.noConfusion h) hstep,
    walkN_fault true g (k + 1) _ _ _ _ _ _ _ (fun h => Tag.noConfusion h) hstep2]
  refine ⟨?_, rfl⟩
  have hm := laxIpSlice_v4 g o l h4 h0
  by_cases hi : g o % 16 < 5
  · rw [if_pos hi] at hm
    exact ⟨_, laxSliceIp_err c g o l _ hm (by simp), Or.inl ⟨hi, rfl⟩⟩
  · rw [if_neg hi, if_pos (by omega)] at hm
    refine ⟨_, laxSliceIp_errLen c g o l _ hm, Or.inr ⟨by omega, ?_⟩⟩
    simp [LenError.addOffset, LenError.srcIfSlice, LenError.withSrc]

theorem ip_refinesL_main (c : Cur) (g : Mem) (hg : ByteMem g) (o l : Nat) (ctx : Ctx) (k : Nat) (ht : Tied c ctx o l)
    (hst : c.r.stop = none) (hnw : ¬ (g o / 16 = 4 ∧ 0 < l ∧ l < 20)) :
    RelLax (c.laxSliceIp g o l) (walkN true g (k + 3) c.r .ipAny ctx) := by
  have hav := ht.avail
  have hco := ht.coff
  have hA : Tag.ipAny ≠ .done := fun h => Tag.noConfusion h
  have h4d : Tag.ipv4 ≠ .done := fun h => Tag.noConfusion h
  have h6d : Tag.ipv6 ≠ .done := fun h => Tag.noConfusion h
  have hstep := step_ipAny true g c.r ctx
  have hs4 := step_ipv4 true g c.r ctx
  have hs6 := step_ipv6 true g c.r ctx
  rw [hav, hco] at hstep hs4 hs6
  by_cases h0 : l = 0
  · subst h0
    rw [if_pos (by omega)] at hstep
    rw [laxSliceIp_errLen c g o 0 _ (laxIpSlice_empty g o)]
    exact relLax_fault (k + 2) hA hstep hst (by trivial)
      (lenRel_fix _ _ c ctx o 0 ht (lenRel_slice hco hav (by decide) (by trivial) 1))
  rw [if_neg (by omega)] at hstep
  by_cases h4 : g o / 16 = 4
  · rw [if_pos h4] at hstep
    rw [walkN_next true g (k + 2) _ _ _ _ _ _ hA hstep]
    rw [if_neg (by omega), if_neg (fun h => h h4)] at hs4
    have hm := laxIpSlice_v4 g o l h4 (by omega)
    by_cases hi : g o % 16 < 5
    · rw [if_pos hi] at hm hs4
      rw [laxSliceIp_err c g o l _ hm (by simp)]
      exact relLax_fault (k + 1) h4d hs4 hst (by trivial) ⟨rfl, rfl, rfl⟩
    rw [if_neg hi] at hm hs4
    by_cases hl : l < g o % 16 * 4
    · rw [if_pos hl] at hm hs4
      rw [laxSliceIp_errLen c g o l _ hm]
      exact relLax_fault (k + 1) h4d hs4 hst (by trivial)
        (lenRel_fix _ _ c ctx o l ht (lenRel_slice hco hav (by decide) (by trivial) _))
    · rw [if_neg hl] at hm
      rw [laxSliceIp_ok c g o l _ hm]
      exact afterIpL c g o l ctx k .ipv4 _ ht hst h4d
        (ipv4_stepL g hg c.r ctx o l hco ht.stop (by omega) h4 (by omega) (by omega))
  rw [if_neg h4] at hstep
  by_cases h6 : g o / 16 = 6
  · rw [if_pos h6] at hstep
    rw [walkN_next true g (k + 2) _ _ _ _ _ _ hA hstep]
    have hm := laxIpSlice_v6 g o l h6 (by omega)
    by_cases h40 : l < 40
    · rw [if_pos h40] at hm hs6
      rw [laxSliceIp_errLen c g o l _ hm]
      exact relLax_fault (k + 1) h6d hs6 hst (by trivial)
        (lenRel_fix _ _ c ctx o l ht (lenRel_slice hco hav (by decide) (by trivial) _))
    · rw [if_neg h40] at hm
      rw [laxSliceIp_ok c g o l _ hm]
      exact afterIpL c g o l ctx k .ipv6 _ ht hst h6d (ipv6_stepL g hg c.r ctx o l hco ht.stop (by omega) h6)
  · rw [if_neg h6] at hstep
    rw [laxSliceIp_err c g o l _ (laxIpSlice_other g o l h4 h6 (by omega)) (by simp)]
    exact relLax_fault (k + 2) hA hstep hst (by trivial) ⟨rfl, rfl, rfl⟩

theorem ip_refinesL (c : Cur) (g : Mem) (hg : ByteMem g) (o l : Nat) (ctx : Ctx) (k : Nat) (ht : Tied c ctx o l)
    (hst : c.r.stop = none) :
    RelLaxW g (c.laxSliceIp g o l) (walkN true g (k + 3) c.r .ipAny ctx) := by
  by_cases hw : g o / 16 = 4 ∧ 0 < l ∧ l < 20
  · obtain ⟨⟨e, he, hsv⟩, hwalk⟩ := ip_refinesL_short c g o l ctx k ht hw
    have hav := ht.avail
    have hco := ht.coff
    rw [he, hwalk]
    refine ⟨by simp [noStop_of_none hst], ?_⟩
    right
    refine ⟨rfl, rfl, rfl, rfl, by simp [mkFault, hav]; omega, by simp [mkFault, hav]; omega,
      by simp [mkFault, hco, hw.1], ?_⟩
    rcases hsv with ⟨hi, rfl⟩ | ⟨hi, rfl⟩
    · left
      simp [mkFault, hco, hi]
    · right
      refine ⟨by simp [mkFault, hco]; omega, c.src, by simpa [mkFault] using ht.src, ?_⟩
      simp [mkFault, hco, hav, ht.off]
  · exact relLaxW_of (ip_refinesL_main c g hg o l ctx k ht hst hw)

end EpModel.Lemmas.RefineLax
