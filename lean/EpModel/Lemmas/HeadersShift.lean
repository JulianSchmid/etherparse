import EpModel.Model.Dec.Headers
import EpModel.Lemmas.SpecShift
import EpModel.Lemmas.ExtsLoop
/-
  Placement independence of the struct decoders `PacketHeaders` / `LaxPacketHeaders` (used by C06).

  There is no wire-format refinement for the struct-decoding model (Model/Dec/Headers.lean), so the
  statement is proved directly on the model: every function the struct decoders call commutes with
  moving the memory (`shM k g`) and the start offset by `k`.  Windows in results move by `k` (`shW`,
  `shExt`, `shIp`, `shPacket` of Lemmas/SpecShift.lean, `shPay`, `shHeaders` here); errors do not change
  at all, because every error offset of these decoders is a difference of two positions inside the
  slice handed in (`o - o0`, `l0 - l`, `+ header length`).

  The model reads memory only as `g (o + i)` with `o` the offset it was given, and `shM k g (o + i)` is
  `g (k + o + i)` by computation: a function that hands out no window is literally the same on both
  sides (`rfl`); one that does is the same decision cascade with `shW k` on the windows at its leaves
  (`ite_map_congr`).

  At the end, not about shifting: the struct decoders keep the link they were given (`*_link`; C06 needs that
  the ether-type doors report link `None`).
-/
namespace EpModel.Lemmas.HeadersShift
open EpModel EpModel.Dec EpModel.Spec

def shPay (k : Nat) : Pay → Pay
  | .empty => .empty
  | .ether et src w inc => .ether et src (shW k w) inc
  | .macsecMod w inc => .macsecMod (shW k w) inc
  | .ip pl => .ip (shPl k pl)
  | .udp w inc => .udp (shW k w) inc
  | .tcp w inc => .tcp (shW k w) inc
  | .icmp4 w inc => .icmp4 (shW k w) inc
  | .icmp6 w inc => .icmp6 (shW k w) inc
  | .linuxSll w => .linuxSll (shW k w)

/-- every window of a `PacketHeaders` / `LaxPacketHeaders` result moved by `k` -/
def shHeaders (k : Nat) (h : Headers) : Headers := { p := shPacket k h.p, pay := shPay k h.pay }

def shTpPay (k : Nat) (x : Option TpR × Pay) : Option TpR × Pay := (x.1.map (shTp k), shPay k x.2)

def shExtsOut (k : Nat) (r : ExtsOut) : ExtsOut :=
  { next := r.next, frag := r.frag, rest := shW k r.rest, slots := shSlots k r.slots, stop := r.stop }

/-- `Except.map` with equations that `simp` can use -/
def exMap {ε α β : Type} (f : α → β) : Except ε α → Except ε β
  | .ok x => .ok (f x)
  | .error e => .error e

@[simp] theorem exMap_ok {ε α β : Type} (f : α → β) (x : α) : exMap f (.ok x : Except ε α) = .ok (f x) := rfl
@[simp] theorem exMap_error {ε α β : Type} (f : α → β) (e : ε) : exMap f (.error e : Except ε α) = .error e := rfl

theorem shPacket_setLink (k : Nat) (p : Packet) (x : LinkR) :
    shPacket k (p.setLink x) = (shPacket k p).setLink (shLink k x) := by
  simp [shPacket, Packet.setLink]

theorem shPacket_pushExt (k : Nat) (p : Packet) (x : ExtR) :
    shPacket k (p.pushExt x) = (shPacket k p).pushExt (shExt k x) := by
  simp [shPacket, Packet.pushExt]

theorem shPacket_stopAddOff (j k : Nat) (p : Packet) :
    shPacket k (stopAddOff j p) = stopAddOff j (shPacket k p) := by
  unfold stopAddOff
  rw [show (shPacket k p).stop = p.stop from rfl]
  split <;> rfl

@[simp] theorem shSlots_none (k : Nat) : shSlots k ExtSlots.none = ExtSlots.none := rfl

open EpModel.Lemmas.ExtsLoop in
theorem ite_map_congr {α β : Type} {f : α → β} {c : Prop} [Decidable c] {a b : β} {a' b' : α}
    (ha : c → a = f a') (hb : ¬ c → b = f b') : (if c then a else b) = f (if c then a' else b') :=
  ite_rel (R := fun x y => x = f y) ha hb

theorem ite_map {α β : Type} {f : α → β} {c : Prop} [Decidable c] {a b : β} {a' b' : α}
    (ha : a = f a') (hb : b = f b') : (if c then a else b) = f (if c then a' else b') :=
  ite_map_congr (fun _ => ha) fun _ => hb

section
variable (k : Nat) (g : Mem)

theorem macsecHeaderFromSlice_sh (o l : Nat) :
    macsecHeaderFromSlice g (k + o) l = macsecHeaderFromSlice (shM k g) o l := rfl

theorem macsecExpectedPayloadLen_sh (o : Nat) :
    macsecExpectedPayloadLen g (k + o) = macsecExpectedPayloadLen (shM k g) o := rfl

theorem macsecNextEtherType_sh (o : Nat) : macsecNextEtherType g (k + o) = macsecNextEtherType (shM k g) o := rfl

theorem ipv4HeaderFromSlice_sh (o l : Nat) :
    ipv4HeaderFromSlice g (k + o) l = ipv4HeaderFromSlice (shM k g) o l := rfl

theorem ipv6HeaderFromSlice_sh (o l : Nat) :
    ipv6HeaderFromSlice g (k + o) l = ipv6HeaderFromSlice (shM k g) o l := rfl

theorem ipv4IsFragmenting_sh (o : Nat) : ipv4IsFragmenting g (k + o) = ipv4IsFragmenting (shM k g) o := rfl

theorem rawExtFromSlice_sh (o l : Nat) : rawExtFromSlice g (k + o) l = rawExtFromSlice (shM k g) o l := rfl

theorem ipDispatchHeader_sh (m : Bool) (o l : Nat) :
    ipDispatchHeader g m (k + o) l = ipDispatchHeader (shM k g) m o l := rfl

theorem tcpFromSlice_sh (o l : Nat) : tcpFromSlice g (k + o) l = tcpFromSlice (shM k g) o l := rfl

theorem icmp4HeaderLen_sh (o : Nat) : icmp4HeaderLen g (k + o) = icmp4HeaderLen (shM k g) o := rfl

theorem vlanFromSlice_sh (o l : Nat) : vlanFromSlice (k + o) l = exMap (shW k) (vlanFromSlice o l) :=
  ite_map rfl <| rfl

theorem macsecFromSlice_sh (o l : Nat) :
    macsecFromSlice g (k + o) l = exMap (shExt k) (macsecFromSlice (shM k g) o l) := by
  unfold macsecFromSlice
  rw [macsecHeaderFromSlice_sh, macsecExpectedPayloadLen_sh]
  cases macsecHeaderFromSlice (shM k g) o l with
  | error e => rfl
  | ok hl =>
    cases macsecExpectedPayloadLen (shM k g) o <;>
      simp only [apply_ite (exMap (shExt k)), exMap_ok, exMap_error, shExt, shW, Nat.add_assoc]

theorem laxMacsecFromSlice_sh (o l : Nat) :
    laxMacsecFromSlice g (k + o) l = exMap (shExt k) (laxMacsecFromSlice (shM k g) o l) := by
  unfold laxMacsecFromSlice
  rw [macsecHeaderFromSlice_sh, macsecExpectedPayloadLen_sh]
  cases macsecHeaderFromSlice (shM k g) o l with
  | error e => rfl
  | ok hl =>
    cases macsecExpectedPayloadLen (shM k g) o <;>
      simp only [apply_ite (exMap (shExt k)), exMap_ok, shExt, shW, Nat.add_assoc]

theorem arpFromSlice_sh (o l : Nat) :
    arpFromSlice g (k + o) l = exMap (shW k) (arpFromSlice (shM k g) o l) := by
  simp only [arpFromSlice, apply_ite (exMap (shW k)), exMap_ok, exMap_error]
  rfl

theorem udpFromSlice_sh (o l : Nat) :
    udpFromSlice g (k + o) l = exMap (shW k) (udpFromSlice (shM k g) o l) := by
  simp only [udpFromSlice, apply_ite (exMap (shW k)), exMap_ok, exMap_error]
  rfl

theorem udpFromSliceLax_sh (o l : Nat) :
    udpFromSliceLax g (k + o) l = exMap (shW k) (udpFromSliceLax (shM k g) o l) := by
  simp only [udpFromSliceLax, apply_ite (exMap (shW k)), exMap_ok, exMap_error]
  rfl

theorem icmp4FromSlice_sh (o l : Nat) :
    icmp4FromSlice g (k + o) l = exMap (shW k) (icmp4FromSlice (shM k g) o l) := by
  simp only [icmp4FromSlice, apply_ite (exMap (shW k)), exMap_ok, exMap_error]
  rfl

theorem icmp6FromSlice_sh (o l : Nat) : icmp6FromSlice (k + o) l = exMap (shW k) (icmp6FromSlice o l) :=
  ite_map rfl <| ite_map rfl <| rfl

theorem ipv4BoundStrict_sh (o l hl tl : Nat) :
    ipv4BoundStrict (k + o) l hl tl = exMap (shW k) (ipv4BoundStrict o l hl tl) := by
  simp only [ipv4BoundStrict, apply_ite (exMap (shW k)), exMap_ok, exMap_error, shW, Nat.add_assoc]

theorem ipv4BoundLax_sh (o l hl tl : Nat) :
    ipv4BoundLax (k + o) l hl tl = Prod.map (shW k) id (ipv4BoundLax o l hl tl) := by
  simp only [ipv4BoundLax, apply_ite (Prod.map (shW k) id), Prod.map_apply, shW, Nat.add_assoc, id_eq]

theorem ipv6BoundStrict_sh (o l pl : Nat) :
    ipv6BoundStrict (k + o) l pl = exMap (Prod.map (shW k) id) (ipv6BoundStrict o l pl) := by
  simp only [ipv6BoundStrict, apply_ite (exMap (Prod.map (shW k) id)), exMap_ok, exMap_error, Prod.map_apply, shW,
    Nat.add_assoc, id_eq]

theorem ipv6BoundLax_sh (o l pl : Nat) :
    ipv6BoundLax (k + o) l pl = Prod.map (shW k) id (ipv6BoundLax o l pl) := by
  simp only [ipv6BoundLax, apply_ite (Prod.map (shW k) id), Prod.map_apply, shW, Nat.add_assoc, id_eq]

theorem ipv4AfterHeaderStrict_sh (o l hl : Nat) :
    ipv4AfterHeaderStrict g (k + o) l hl = exMap (shIp k) (ipv4AfterHeaderStrict (shM k g) o l hl) := by
  simp only [ipv4AfterHeaderStrict]
  rw [show g16 g (k + o + 2) = g16 (shM k g) (o + 2) from rfl, ipv4IsFragmenting_sh,
    show g (k + o + 9) = shM k g (o + 9) from rfl, ipv4BoundStrict_sh]
  cases ipv4BoundStrict o l hl (g16 (shM k g) (o + 2)) with
  | error e => rfl
  | ok hp =>
    refine ite_map ?_ <| rfl
    rw [show ahFromSlice g (shW k hp).o (shW k hp).l = ahFromSlice (shM k g) hp.o hp.l from rfl]
    cases ahFromSlice (shM k g) hp.o hp.l with
    | error e => cases e <;> rfl
    | ok al => simp only [exMap_ok, shW, Nat.add_assoc]; rfl

theorem ipv4AfterHeaderLax_sh (o l hl : Nat) :
    ipv4AfterHeaderLax g (k + o) l hl = Prod.map (shIp k) id (ipv4AfterHeaderLax (shM k g) o l hl) := by
  simp only [ipv4AfterHeaderLax]
  rw [show g16 g (k + o + 2) = g16 (shM k g) (o + 2) from rfl, ipv4IsFragmenting_sh,
    show g (k + o + 9) = shM k g (o + 9) from rfl, ipv4BoundLax_sh]
  obtain ⟨hp, src, inc⟩ := ipv4BoundLax o l hl (g16 (shM k g) (o + 2))
  dsimp only [Prod.map_apply, id_eq]
  refine ite_map ?_ <| rfl
  rw [show ahFromSlice g (shW k hp).o (shW k hp).l = ahFromSlice (shM k g) hp.o hp.l from rfl]
  cases ahFromSlice (shM k g) hp.o hp.l with
  | error e => cases e <;> rfl
  | ok al => simp only [Prod.map, shW, Nat.add_assoc, id]; rfl

theorem rawFits_sh (k nh : Nat) (s : ExtSlots) : rawFits nh (shSlots k s) = rawFits nh s := by
  simp only [rawFits, shSlots, Option.isSome_map]

theorem rawStore_sh (k nh : Nat) (s : ExtSlots) (w : Win) :
    rawStore nh (shSlots k s) (shW k w) = shSlots k (rawStore nh s w) := by
  simp only [rawStore, apply_ite (shSlots k)]
  simp only [shSlots, Option.isSome_map, Option.map_some]

open EpModel.Lemmas.ExtsLoop in
/-- the IPv6 extension walk (slice mode and struct mode) is placement independent: the same tests on
    the same bytes for each kind of header, the stored window moved by `k` -/
theorem extsLoop_sh (sm : Bool) (l0 nh : Nat) (frag : Bool) (slots : ExtSlots) (o l : Nat) :
    extsLoop g sm l0 nh frag (shSlots k slots) (k + o) l =
      shExtsOut k (extsLoop (shM k g) sm l0 nh frag slots o l) := by
  induction l using Nat.strongRecOn generalizing nh frag slots o with | _ l ih => ?_
  by_cases h0 : nh = 0
  · subst h0; rw [extsLoop_zero, extsLoop_zero]; rfl
  by_cases hraw : nh = 60 ∨ nh = 43
  · rw [extsLoop_raw hraw, extsLoop_raw hraw, rawFits_sh,
      show g (k + o + 1) = shM k g (o + 1) from rfl, show g (k + o) = shM k g o from rfl]
    refine ite_map_congr (fun _ => rfl) fun _ => ?_
    refine ite_map_congr (fun _ => rfl) fun _ => ?_
    refine ite_map_congr (fun _ => rfl) fun _ => ?_
    rw [Nat.add_assoc, show (⟨k + o, (shM k g (o + 1) + 1) * 8⟩ : Win) = shW k ⟨o, (shM k g (o + 1) + 1) * 8⟩ from rfl,
      rawStore_sh]
    exact ih _ (by omega) _ _ _ _
  by_cases h44 : nh = 44
  · subst h44
    rw [extsLoop_frag, extsLoop_frag, show (shSlots k slots).frag.isSome = slots.frag.isSome from Option.isSome_map ..]
    refine ite_map_congr (fun _ => rfl) fun _ => ?_
    refine ite_map_congr (fun _ => rfl) fun _ => ?_
    exact ih (l - 8) (by omega) _ _ (fragStore slots ⟨o, 8⟩) (o + 8)
  by_cases h51 : nh = 51
  · subst h51
    rw [extsLoop_auth, extsLoop_auth, show (shSlots k slots).auth.isSome = slots.auth.isSome from Option.isSome_map ..,
      show g (k + o + 1) = shM k g (o + 1) from rfl]
    refine ite_map_congr (fun _ => rfl) fun _ => ?_
    refine ite_map_congr (fun _ => rfl) fun _ => ?_
    refine ite_map_congr (fun _ => rfl) fun _ => ?_
    refine ite_map_congr (fun _ => rfl) fun _ => ?_
    rw [Nat.add_assoc]
    exact ih _ (by omega) _ _ (authStore slots ⟨o, (shM k g (o + 1) + 2) * 4⟩) _
  rw [extsLoop_other h0 hraw h44 h51, extsLoop_other h0 hraw h44 h51]
  rfl

theorem extsWalk_sh (sm : Bool) (nh o l : Nat) :
    extsWalk g sm nh (k + o) l = shExtsOut k (extsWalk (shM k g) sm nh o l) := by
  unfold extsWalk
  refine ite_map ?_ <| extsLoop_sh k g sm l nh false ExtSlots.none o l
  rw [rawExtFromSlice_sh]
  cases rawExtFromSlice (shM k g) o l with
  | error e => rfl
  | ok hl =>
    dsimp only
    rw [Nat.add_assoc]
    exact extsLoop_sh k g sm l _ false (ExtSlots.mk (some ⟨o, hl⟩) none none none none none) (o + hl) (l - hl)

theorem extsWalkStrict_sh (sm : Bool) (nh o l : Nat) :
    extsWalkStrict g sm nh (k + o) l = exMap (shExtsOut k) (extsWalkStrict (shM k g) sm nh o l) := by
  simp only [extsWalkStrict]
  rw [extsWalk_sh, show (shExtsOut k (extsWalk (shM k g) sm nh o l)).stop = (extsWalk (shM k g) sm nh o l).stop from rfl]
  cases (extsWalk (shM k g) sm nh o l).stop <;> rfl

theorem mkV6_sh (k : Nat) (sm : Bool) (o nh : Nat) (hp : Win) (r : ExtsOut) (src : LenSource) (inc : Bool) :
    mkV6 sm (k + o) nh (shW k hp) (shExtsOut k r) src inc = shIp k (mkV6 sm o nh hp r src inc) := by
  cases sm <;> rfl

theorem ipv6ChainStrict_sh (sm : Bool) (o : Nat) (hp : Win) (src : LenSource) :
    ipv6ChainStrict g sm (k + o) (shW k hp) src = exMap (shIp k) (ipv6ChainStrict (shM k g) sm o hp src) := by
  unfold ipv6ChainStrict
  rw [show (shW k hp).o = k + hp.o from rfl, show (shW k hp).l = hp.l from rfl,
    show g (k + o + 6) = shM k g (o + 6) from rfl, extsWalkStrict_sh]
  cases extsWalkStrict (shM k g) sm (shM k g (o + 6)) hp.o hp.l with
  | error e => cases e <;> rfl
  | ok r => exact congrArg _ (mkV6_sh k sm o _ hp r src false)

theorem ipv6AfterHeaderStrict_sh (sm : Bool) (o l : Nat) :
    ipv6AfterHeaderStrict g sm (k + o) l = exMap (shIp k) (ipv6AfterHeaderStrict (shM k g) sm o l) := by
  unfold ipv6AfterHeaderStrict
  rw [show g16 g (k + o + 4) = g16 (shM k g) (o + 4) from rfl, ipv6BoundStrict_sh]
  cases ipv6BoundStrict o l (g16 (shM k g) (o + 4)) with
  | error e => rfl
  | ok x => exact ipv6ChainStrict_sh k g sm o x.1 x.2

theorem ipv6AfterHeaderLax_sh (sm : Bool) (o l : Nat) :
    ipv6AfterHeaderLax g sm (k + o) l = Prod.map (shIp k) id (ipv6AfterHeaderLax (shM k g) sm o l) := by
  simp only [ipv6AfterHeaderLax]
  rw [show g16 g (k + o + 4) = g16 (shM k g) (o + 4) from rfl, ipv6BoundLax_sh]
  obtain ⟨hp, src, inc⟩ := ipv6BoundLax o l (g16 (shM k g) (o + 4))
  dsimp only [Prod.map_apply, id_eq]
  rw [show (shW k hp).o = k + hp.o from rfl, extsWalk_sh,
    show g (k + o + 6) = shM k g (o + 6) from rfl, mkV6_sh]
  rfl

theorem ipHeadersFromIpv4Slice_sh (o l : Nat) :
    ipHeadersFromIpv4Slice g (k + o) l = exMap (shIp k) (ipHeadersFromIpv4Slice (shM k g) o l) := by
  unfold ipHeadersFromIpv4Slice
  rw [ipv4HeaderFromSlice_sh]
  cases ipv4HeaderFromSlice (shM k g) o l with
  | error e => rfl
  | ok hl => exact ipv4AfterHeaderStrict_sh k g o l hl

theorem ipHeadersFromIpv6Slice_sh (o l : Nat) :
    ipHeadersFromIpv6Slice g (k + o) l = exMap (shIp k) (ipHeadersFromIpv6Slice (shM k g) o l) := by
  unfold ipHeadersFromIpv6Slice
  rw [ipv6HeaderFromSlice_sh]
  cases ipv6HeaderFromSlice (shM k g) o l with
  | error e => rfl
  | ok u => exact ipv6AfterHeaderStrict_sh k g true o l

theorem ipHeadersFromSliceLax_sh (o l : Nat) :
    ipHeadersFromSliceLax g (k + o) l =
      exMap (Prod.map (shIp k) id) (ipHeadersFromSliceLax (shM k g) o l) := by
  unfold ipHeadersFromSliceLax
  rw [ipDispatchHeader_sh]
  cases ipDispatchHeader (shM k g) true o l with
  | error e => rfl
  | ok x =>
    cases x with
    | inl hl => exact congrArg _ (ipv4AfterHeaderLax_sh k g o l hl)
    | inr u => exact congrArg _ (ipv6AfterHeaderLax_sh k g true o l)

theorem readTransport_sh (pl : IpPl) :
    readTransport g (shPl k pl) = exMap (shTpPay k) (readTransport (shM k g) pl) := by
  simp only [readTransport]
  refine ite_map rfl <| ite_map ?_ <| ite_map ?_ <| ite_map ?_ <| ite_map ?_ <| rfl
  all_goals rw [show (shPl k pl).w.o = k + pl.w.o from rfl, show (shPl k pl).w.l = pl.w.l from rfl]
  · rw [icmp4FromSlice_sh, icmp4HeaderLen_sh]
    cases icmp4FromSlice (shM k g) pl.w.o pl.w.l with
    | error e => rfl
    | ok w => dsimp only [exMap_ok]; rw [Nat.add_assoc]; rfl
  · rw [icmp6FromSlice_sh]
    cases icmp6FromSlice pl.w.o pl.w.l <;> rfl
  · rw [udpFromSlice_sh]
    cases udpFromSlice (shM k g) pl.w.o pl.w.l <;> rfl
  · rw [tcpFromSlice_sh]
    cases tcpFromSlice (shM k g) pl.w.o pl.w.l with
    | error e => cases e <;> rfl
    | ok hl => dsimp only; rw [Nat.add_assoc]; rfl

theorem phIpPart_sh (o0 o : Nat) (r : Packet) (ipr : Except PErr IpR) :
    phIpPart g (k + o0) (k + o) (shPacket k r) (exMap (shIp k) ipr) =
      exMap (shHeaders k) (phIpPart (shM k g) o0 o r ipr) := by
  unfold phIpPart
  cases ipr with
  | error e => dsimp only [exMap_error]; rw [Nat.add_sub_add_left]
  | ok ip =>
    dsimp only [exMap_ok]
    rw [show (shIp k ip).pl = shPl k ip.pl from rfl, readTransport_sh]
    cases readTransport (shM k g) ip.pl with
    | error e => dsimp only [exMap_error]; rw [show (shPl k ip.pl).w.o = k + ip.pl.w.o from rfl, Nat.add_sub_add_left]
    | ok x => obtain ⟨tp, pay⟩ := x; rfl

theorem phNet_sh (o0 et o l : Nat) (r : Packet) (pay : Pay) :
    phNet g (k + o0) et (k + o) l (shPacket k r) (shPay k pay) =
      exMap (shHeaders k) (phNet (shM k g) o0 et o l r pay) := by
  unfold phNet
  refine ite_map ?_ <| ite_map ?_ <| ite_map ?_ <| rfl
  · rw [ipHeadersFromIpv4Slice_sh]; exact phIpPart_sh k g o0 o r _
  · rw [ipHeadersFromIpv6Slice_sh]; exact phIpPart_sh k g o0 o r _
  · rw [arpFromSlice_sh]
    cases arpFromSlice (shM k g) o l with
    | error e => dsimp only [exMap_error]; rw [Nat.add_sub_add_left]
    | ok w => rfl

theorem phLoop_sh (o0 n et o l : Nat) (src : LenSource) (r : Packet) (pay : Pay) :
    phLoop g (k + o0) n et (k + o) l src (shPacket k r) (shPay k pay) =
      exMap (shHeaders k) (phLoop (shM k g) o0 n et o l src r pay) := by
  induction n generalizing et o l src r pay with
  | zero =>
    unfold phLoop
    exact ite_map (phNet_sh k g o0 et o l r pay) <| ite_map (phNet_sh k g o0 et o l r pay) <| phNet_sh k g o0 et o l r pay
  | succ n ih =>
    unfold phLoop
    refine ite_map ?_ <| ite_map ?_ <| phNet_sh k g o0 et o l r pay
    · rw [vlanFromSlice_sh]
      cases vlanFromSlice o l with
      | error e => dsimp only [exMap_error]; rw [Nat.add_sub_add_left]
      | ok w =>
        refine Eq.trans ?_ (ih _ (o + 4) _ src (r.pushExt (.vlan ⟨w.o, 4⟩)) (.ether _ src ⟨o + 4, l - 4⟩ false))
        rw [shPacket_pushExt]
        rfl
    · rw [macsecFromSlice_sh, macsecNextEtherType_sh]
      cases macsecFromSlice (shM k g) o l with
      | error e => cases e <;> first | rfl | (dsimp only [exMap_error]; rw [Nat.add_sub_add_left])
      | ok x =>
        cases x with
        | vlan w => rfl
        | macsec hdr pl msrc inc =>
          dsimp only [exMap_ok, shExt]
          cases macsecNextEtherType (shM k g) o with
          | none => dsimp only [exMap_ok, shHeaders]; rw [shPacket_pushExt]; rfl
          | some et' =>
            refine Eq.trans ?_ (ih et' pl.o pl.l _ (r.pushExt (.macsec hdr pl msrc inc)) (.ether et' _ pl false))
            rw [shPacket_pushExt]
            rfl

theorem lphTransport_sh (ip : IpR) (r1 : Packet) (off' : Nat) :
    lphTransport g (shIp k ip) (shPacket k r1) off' = shHeaders k (lphTransport (shM k g) ip r1 off') := by
  simp only [lphTransport]
  refine ite_map ?_ <| ite_map ?_ <| ite_map ?_ <| ite_map ?_ <| rfl
  all_goals rw [show (shIp k ip).pl.w.o = k + ip.pl.w.o from rfl, show (shIp k ip).pl.w.l = ip.pl.w.l from rfl]
  · rw [icmp4FromSlice_sh, icmp4HeaderLen_sh]
    cases icmp4FromSlice (shM k g) ip.pl.w.o ip.pl.w.l with
    | error e => rfl
    | ok w => dsimp only [exMap_ok]; rw [Nat.add_assoc]; rfl
  · rw [icmp6FromSlice_sh]
    cases icmp6FromSlice ip.pl.w.o ip.pl.w.l <;> rfl
  · rw [udpFromSliceLax_sh]
    cases udpFromSliceLax (shM k g) ip.pl.w.o ip.pl.w.l <;> rfl
  · rw [tcpFromSlice_sh]
    cases tcpFromSlice (shM k g) ip.pl.w.o ip.pl.w.l with
    | error e => cases e <;> rfl
    | ok hl => dsimp only; rw [Nat.add_assoc]; rfl

theorem lphAddIp_sh (off o l : Nat) (r : Packet) :
    lphAddIp g off (k + o) l (shPacket k r) = exMap (shHeaders k) (lphAddIp (shM k g) off o l r) := by
  unfold lphAddIp
  rw [ipHeadersFromSliceLax_sh]
  cases ipHeadersFromSliceLax (shM k g) o l with
  | error e => rfl
  | ok x =>
    obtain ⟨ip, stop⟩ := x
    cases stop with
    | some s => obtain ⟨e, ly⟩ := s; cases e <;> rfl
    | none =>
      dsimp only [exMap_ok, Prod.map_apply, id_eq]
      refine ite_map rfl <| congrArg Except.ok ?_
      rw [show (shIp k ip).pl.w.o = k + ip.pl.w.o from rfl, Nat.add_sub_add_left]
      exact lphTransport_sh k g ip (r.setNet (.ip ip)) _

theorem lphNet_sh (off et o l : Nat) (r : Packet) (pay : Pay) :
    lphNet g off et (k + o) l (shPacket k r) (shPay k pay) = shHeaders k (lphNet (shM k g) off et o l r pay) := by
  unfold lphNet
  refine ite_map ?_ <| ite_map ?_ <| rfl
  · rw [lphAddIp_sh]
    cases lphAddIp (shM k g) off o l r with
    | ok h => rfl
    | error e => cases e <;> rfl
  · rw [arpFromSlice_sh]
    cases arpFromSlice (shM k g) o l <;> rfl

theorem lphLoop_sh (n off et o l : Nat) (src : LenSource) (r : Packet) (pay : Pay) :
    lphLoop g n off et (k + o) l src (shPacket k r) (shPay k pay) =
      shHeaders k (lphLoop (shM k g) n off et o l src r pay) := by
  induction n generalizing off et o l src r pay with
  | zero =>
    unfold lphLoop
    exact ite_map (lphNet_sh k g off et o l r pay) <| ite_map (lphNet_sh k g off et o l r pay) <| lphNet_sh k g off et o l r pay
  | succ n ih =>
    unfold lphLoop
    refine ite_map ?_ <| ite_map ?_ <| lphNet_sh k g off et o l r pay
    · rw [vlanFromSlice_sh]
      cases vlanFromSlice o l with
      | error e => rfl
      | ok w =>
        refine Eq.trans ?_ (ih _ _ (o + 4) _ src (r.pushExt (.vlan ⟨w.o, 4⟩)) (.ether _ src ⟨o + 4, l - 4⟩ false))
        rw [shPacket_pushExt]
        rfl
    · rw [laxMacsecFromSlice_sh, macsecNextEtherType_sh]
      cases laxMacsecFromSlice (shM k g) o l with
      | error e => cases e <;> rfl
      | ok x =>
        cases x with
        | vlan w => rfl
        | macsec hdr pl msrc inc =>
          dsimp only [exMap_ok, shExt]
          cases macsecNextEtherType (shM k g) o with
          | none => dsimp only [shHeaders]; rw [shPacket_pushExt]; rfl
          | some et' =>
            refine Eq.trans ?_ (ih _ et' pl.o pl.l _ (r.pushExt (.macsec hdr pl msrc inc)) (.ether et' _ pl inc))
            rw [shPacket_pushExt]
            rfl

end

/-! the results, for any memory `g'` that is `g` seen from `k` -/

section
variable (k : Nat) (g g' : Mem) (hg : ∀ i, g' i = g (k + i))
include hg

omit hg in
theorem mkV4_sh (o hl : Nat) (auth : Option Win) (pl : IpPl) :
    mkV4 (k + o) hl (auth.map (shW k)) (shPl k pl) = shIp k (mkV4 o hl auth pl) := by
  simp [mkV4, shIp, shW, noExts]

omit hg in
theorem fragStore_sh (s : ExtSlots) (w : Win) :
    fragStore (shSlots k s) (shW k w) = shSlots k (fragStore s w) := rfl

omit hg in
theorem authStore_sh (s : ExtSlots) (w : Win) :
    authStore (shSlots k s) (shW k w) = shSlots k (authStore s w) := rfl

omit hg in
theorem extsDone_sh (nh : Nat) (frag : Bool) (s : ExtSlots) (o l : Nat) :
    extsDone nh frag (shSlots k s) (k + o) l = shExtsOut k (extsDone nh frag s o l) := rfl

omit hg in
theorem extsFail_sh (nh : Nat) (frag : Bool) (s : ExtSlots) (o l : Nat) (e : ExtErr) (ly : Layer) :
    extsFail nh frag (shSlots k s) (k + o) l e ly = shExtsOut k (extsFail nh frag s o l e ly) := rfl

theorem ipHeadersFromSlice_sh (o l : Nat) :
    ipHeadersFromSlice g (k + o) l = exMap (shIp k) (ipHeadersFromSlice g' o l) := by
  obtain rfl : g' = shM k g := funext hg
  unfold ipHeadersFromSlice
  rw [ipDispatchHeader_sh]
  cases ipDispatchHeader (shM k g) true o l with
  | error e => rfl
  | ok x =>
    cases x with
    | inl hl => exact ipv4AfterHeaderStrict_sh k g o l hl
    | inr u => exact ipv6AfterHeaderStrict_sh k g true o l

/-- **`PacketHeaders::from_ether_type` is placement independent**: decoding at offset `k + o` of `g` is
    decoding at offset `o` of the memory seen from `k`, every window moved by `k`; errors are equal
    (their offsets are relative to the start of the slice handed in). -/
theorem phFromEtherType_sh (et o l : Nat) :
    phFromEtherType g et (k + o) l = exMap (shHeaders k) (phFromEtherType g' et o l) := by
  obtain rfl : g' = shM k g := funext hg
  exact phLoop_sh k g o 3 et o l .slice Packet.empty (.ether et .slice ⟨o, l⟩ false)

/-- **`LaxPacketHeaders::from_ether_type` is placement independent** (stop errors included: their
    offsets are relative to the start of the slice handed in) -/
theorem lphFromEtherType_sh (et o l : Nat) :
    lphFromEtherType g et (k + o) l = shHeaders k (lphFromEtherType g' et o l) := by
  obtain rfl : g' = shM k g := funext hg
  exact lphLoop_sh k g 3 0 et o l .slice Packet.empty (.ether et .slice ⟨o, l⟩ false)

end

/-- what `PacketHeaders::from_ethernet_slice` makes of the result of `PacketHeaders::from_ether_type` on the
    bytes behind the Ethernet II header: every window moved by 14, the offset of a length error moved
    by 14 (content errors carry no offset), the link is the Ethernet II header -/
def ethOfEtherTypeHeaders : Except PErr Headers → Except PErr Headers
  | .error e => .error (lenAddOff 14 e)
  | .ok h => .ok { p := (shPacket 14 h.p).setLink (.eth2 ⟨0, 14⟩), pay := shPay 14 h.pay }

/-- the lax twin: the result is always a value; the offset of a length stop error moved by 14 -/
def laxEthOfEtherTypeHeaders (h : Headers) : Headers :=
  { p := (stopAddOff 14 (shPacket 14 h.p)).setLink (.eth2 ⟨0, 14⟩), pay := shPay 14 h.pay }

theorem phFromEthernet_eq (g : Mem) (n : Nat) (h : 14 ≤ n) :
    phFromEthernet g n = ethOfEtherTypeHeaders (phFromEtherType (shM 14 g) (g16 g 12) 0 (n - 14)) := by
  unfold phFromEthernet eth2FromSlice
  rw [if_neg (by omega)]
  simp only
  rw [show (14 : Nat) = 14 + 0 from rfl, phFromEtherType_sh 14 g (shM 14 g) (fun _ => rfl)]
  cases phFromEtherType (shM 14 g) (g16 g 12) 0 (n - 14) with
  | error e => rfl
  | ok h => rfl

theorem lphFromEthernet_eq (g : Mem) (n : Nat) (h : 14 ≤ n) :
    lphFromEthernet g n = .ok (laxEthOfEtherTypeHeaders (lphFromEtherType (shM 14 g) (g16 g 12) 0 (n - 14))) := by
  unfold lphFromEthernet eth2FromSlice
  rw [if_neg (by omega)]
  simp only
  rw [show (14 : Nat) = 14 + 0 from rfl, lphFromEtherType_sh 14 g (shM 14 g) (fun _ => rfl)]
  simp only [laxEthOfEtherTypeHeaders, shHeaders]

theorem phFromEthernet_short (g : Mem) (n : Nat) (h : n < 14) :
    phFromEthernet g n =
      .error (.len { req := 14, len := n, src := .slice, layer := .ethernet2Header, off := 0 }) := by
  simp [phFromEthernet, eth2FromSlice, h]

theorem lphFromEthernet_short (g : Mem) (n : Nat) (h : n < 14) :
    lphFromEthernet g n = .error { req := 14, len := n, src := .slice, layer := .ethernet2Header, off := 0 } := by
  simp [lphFromEthernet, eth2FromSlice, h]

/-! the ether-type doors leave the link field as it was (`None`); nothing from here on is about shifting -/

theorem ite_link {c : Prop} [Decidable c] {a b : Headers} {lk : Option LinkR} (ha : a.p.link = lk)
    (hb : b.p.link = lk) : (if c then a else b).p.link = lk :=
  iteInduction (motive := fun h : Headers => h.p.link = lk) (fun _ => ha) fun _ => hb

def KeepsLink (r : Packet) : Except PErr Headers → Prop
  | .ok h => h.p.link = r.link
  | .error _ => True

theorem phIpPart_link (g : Mem) (o0 o : Nat) (r : Packet) (ipr : Except PErr IpR) :
    KeepsLink r (phIpPart g o0 o r ipr) := by
  unfold phIpPart
  cases ipr with
  | error e => trivial
  | ok ip =>
    dsimp only
    cases readTransport g ip.pl with
    | error e => trivial
    | ok x => exact rfl

theorem phNet_link (g : Mem) (o0 et o l : Nat) (r : Packet) (pay : Pay) : KeepsLink r (phNet g o0 et o l r pay) := by
  unfold phNet
  refine iteInduction (fun _ => phIpPart_link ..) fun _ => iteInduction (fun _ => phIpPart_link ..) fun _ =>
    iteInduction (fun _ => ?_) fun _ => rfl
  cases arpFromSlice g o l <;> trivial

theorem phLoop_link (g : Mem) (o0 n et o l : Nat) (src : LenSource) (r : Packet) (pay : Pay) :
    KeepsLink r (phLoop g o0 n et o l src r pay) := by
  induction n generalizing et o l src r pay with
  | zero =>
    unfold phLoop
    exact iteInduction (fun _ => phNet_link ..) fun _ => iteInduction (fun _ => phNet_link ..) fun _ => phNet_link ..
  | succ n ih =>
    unfold phLoop
    refine iteInduction (fun _ => ?_) fun _ => iteInduction (fun _ => ?_) fun _ => phNet_link ..
    · cases vlanFromSlice o l with
      | error e => trivial
      | ok w => exact ih ..
    · cases macsecFromSlice g o l with
      | error e => cases e <;> trivial
      | ok x =>
        cases x with
        | vlan w => exact rfl
        | macsec hdr pl msrc inc =>
          dsimp only
          cases macsecNextEtherType g o with
          | none => exact rfl
          | some et' => exact ih ..

theorem phFromEtherType_link (g : Mem) (et o l : Nat) (h : Headers)
    (hh : phFromEtherType g et o l = .ok h) : h.p.link = none := by
  have := phLoop_link g o 3 et o l .slice Packet.empty (.ether et .slice ⟨o, l⟩ false)
  rwa [show phLoop g o 3 et o l .slice Packet.empty (.ether et .slice ⟨o, l⟩ false) = .ok h from hh] at this

theorem lphTransport_link (g : Mem) (ip : IpR) (r1 : Packet) (off' : Nat) :
    (lphTransport g ip r1 off').p.link = r1.link := by
  simp only [lphTransport]
  refine ite_link ?_ <| ite_link ?_ <| ite_link ?_ <| ite_link ?_ <| rfl
  · cases icmp4FromSlice g ip.pl.w.o ip.pl.w.l <;> rfl
  · cases icmp6FromSlice ip.pl.w.o ip.pl.w.l <;> rfl
  · cases udpFromSliceLax g ip.pl.w.o ip.pl.w.l <;> rfl
  · cases tcpFromSlice g ip.pl.w.o ip.pl.w.l with
    | ok hl => rfl
    | error e => cases e <;> rfl

theorem lphAddIp_link (g : Mem) (off o l : Nat) (r : Packet) : KeepsLink r (lphAddIp g off o l r) := by
  unfold lphAddIp
  cases ipHeadersFromSliceLax g o l with
  | error e => trivial
  | ok x =>
    obtain ⟨ip, stop⟩ := x
    cases stop with
    | some s => obtain ⟨e, ly⟩ := s; cases e <;> exact rfl
    | none => exact iteInduction (fun _ => rfl) fun _ => lphTransport_link ..

theorem lphNet_link (g : Mem) (off et o l : Nat) (r : Packet) (pay : Pay) :
    (lphNet g off et o l r pay).p.link = r.link := by
  unfold lphNet
  refine ite_link ?_ <| ite_link ?_ <| rfl
  · have := lphAddIp_link g off o l r
    cases hx : lphAddIp g off o l r with
    | ok h => rw [hx] at this; exact this
    | error e => cases e <;> rfl
  · cases arpFromSlice g o l <;> rfl

theorem lphLoop_link (g : Mem) (n off et o l : Nat) (src : LenSource) (r : Packet) (pay : Pay) :
    (lphLoop g n off et o l src r pay).p.link = r.link := by
  induction n generalizing off et o l src r pay with
  | zero =>
    unfold lphLoop
    exact ite_link (lphNet_link ..) <| ite_link (lphNet_link ..) <| lphNet_link ..
  | succ n ih =>
    unfold lphLoop
    refine ite_link ?_ <| ite_link ?_ <| lphNet_link ..
    · cases vlanFromSlice o l with
      | error e => rfl
      | ok w => exact ih ..
    · cases laxMacsecFromSlice g o l with
      | error e => cases e <;> rfl
      | ok x =>
        cases x with
        | vlan w => rfl
        | macsec hdr pl msrc inc =>
          dsimp only
          cases macsecNextEtherType g o with
          | none => rfl
          | some et' => exact ih ..

theorem lphFromEtherType_link (g : Mem) (et o l : Nat) : (lphFromEtherType g et o l).p.link = none :=
  lphLoop_link _ _ _ _ _ _ _ _ _

end EpModel.Lemmas.HeadersShift

