import EpModel.Lemmas.DecRefineEntry
/-
  Refinement of the LAX slicing cursor (LaxSlicedPacketCursor) to the lax wire-format walk
  (`Spec.walkN true`, i.e. `Spec.decodeLax`) — property C05.

  Here: the relations `RelLax` / `RelLaxW` and what they say spelled out, the transport layer (`tp_refinesL`)
  and the lax MACsec step (`macsec_stepL`).
-/
namespace EpModel.Lemmas.RefineLax
open EpModel EpModel.Dec EpModel.Spec EpModel.Lemmas.Refine

def noStop (p : Packet) : Packet :=
  { link := p.link, exts := p.exts, net := p.net, tp := p.tp, stop := none }

/-- a stop error describes the spec fault: the recorded layer names the faulting unit and the error
    matches the fault in the sense of the strict refinement (`ErrMatch`) -/
def StopMatch (e : PErr) (ly : Layer) (f : Fault) : Prop := StopLayer ly f.unit ∧ ErrMatch e f

/-- The one known exception, the short-IPv4 class (`ShortV4` of the strict `from_ip`): every lax door
    decodes IP
    through the version-dispatching `LaxIpSlice::from_slice`, which looks at the IHL before the length.
    For an IPv4 version nibble in 1..19 bytes it names the bad IHL, or requires `ihl*4` bytes, where
    the wire-format reading says "20 bytes needed".  Both describe the bytes; offset, available bytes
    and length source agree. -/
def ShortV4Stop (g : Mem) (e : PErr) (ly : Layer) (f : Fault) : Prop :=
  ly = .ipHeader ∧ f.cls = .cutShort ∧ f.unit = .ipv4Header ∧ f.need = 20 ∧ 0 < f.avail ∧ f.avail < 20 ∧
  g f.off / 16 = 4 ∧
  ((g f.off % 16 < 5 ∧ e = .ipIhl (g f.off % 16)) ∨
   (5 ≤ g f.off % 16 ∧ ∃ s, (s = .slice ∨ s = f.lim) ∧
      e = .len { req := g f.off % 16 * 4, len := f.avail, src := s, layer := .ipv4Header, off := f.off }))

/-- lax model result vs lax spec walk, with the short-IPv4 class (`ShortV4`) admitted -/
def RelLaxW (g : Mem) (m : Packet) (s : Packet × Option Fault) : Prop :=
  noStop m = s.1 ∧
  match m.stop, s.2 with
  | none, none => True
  | some (e, ly), some f => StopMatch e ly f ∨ ShortV4Stop g e ly f
  | _, _ => False

/-- lax model result vs lax spec walk: the same layers in front of the fault (windows, flags, length
    sources, incomplete marks), a stop error exactly when the walk reports a fault, and the stop error
    describes that fault -/
def RelLax (m : Packet) (s : Packet × Option Fault) : Prop :=
  noStop m = s.1 ∧
  match m.stop, s.2 with
  | none, none => True
  | some (e, ly), some f => StopMatch e ly f
  | _, _ => False

/-- the short-IPv4 class (`ShortV4`), seen from the spec: the walk ends at an IPv4 header that has
    fewer than 20 bytes -/
def ShortV4Fault (s : Packet × Option Fault) : Prop :=
  ∃ f, s.2 = some f ∧ f.unit = .ipv4Header ∧ f.avail < 20

theorem relLax_of_W {g : Mem} {m : Packet} {s : Packet × Option Fault} (h : RelLaxW g m s)
    (hn : ¬ ShortV4Fault s) : RelLax m s := by
  obtain ⟨h1, h2⟩ := h
  refine ⟨h1, ?_⟩
  obtain ⟨p, fo⟩ := s
  cases hm : m.stop with
  | none => rw [hm] at h2; cases fo <;> simp_all
  | some x =>
    obtain ⟨e, ly⟩ := x
    rw [hm] at h2
    cases fo with
    | none => simp at h2
    | some f =>
      simp only at h2 ⊢
      rcases h2 with h2 | h2
      · exact h2
      · exact absurd ⟨f, rfl, h2.2.2.1, h2.2.2.2.2.2.1⟩ hn

theorem relLaxW_of {g : Mem} {m : Packet} {s : Packet × Option Fault} (h : RelLax m s) : RelLaxW g m s := by
  obtain ⟨h1, h2⟩ := h
  refine ⟨h1, ?_⟩
  obtain ⟨p, fo⟩ := s
  cases hm : m.stop with
  | none => rw [hm] at h2; cases fo <;> simp_all
  | some x =>
    obtain ⟨e, ly⟩ := x
    rw [hm] at h2
    cases fo with
    | none => simp at h2
    | some f => exact Or.inl h2

theorem noStop_of_none {p : Packet} (h : p.stop = none) : noStop p = p := by
  cases p; simp_all [noStop]

@[simp] theorem noStop_setStop (p : Packet) (e : PErr) (ly : Layer) : noStop (p.setStop e ly) = noStop p := rfl
@[simp] theorem stop_setStop (p : Packet) (e : PErr) (ly : Layer) : (p.setStop e ly).stop = some (e, ly) := rfl
@[simp] theorem stop_setTp (p : Packet) (x : TpR) : (p.setTp x).stop = p.stop := rfl
@[simp] theorem stop_setNet (p : Packet) (x : NetR) : (p.setNet x).stop = p.stop := rfl
@[simp] theorem stop_pushExt (p : Packet) (x : ExtR) : (p.pushExt x).stop = p.stop := rfl
@[simp] theorem stop_setLink (p : Packet) (x : LinkR) : (p.setLink x).stop = p.stop := rfl

theorem relLax_ok {m : Packet} (h : m.stop = none) : RelLax m (m, none) := by
  refine ⟨noStop_of_none h, ?_⟩
  rw [h]
  trivial

theorem relLax_stop {p : Packet} {e : PErr} {ly : Layer} {f : Fault} (h : p.stop = none)
    (hm : StopMatch e ly f) : RelLax (p.setStop e ly) (p, some f) :=
  ⟨by simp [noStop_of_none h], hm⟩

theorem relLax_last {g : Mem} (k : Nat) {p p' : Packet} {t : Tag} {c c' : Ctx} (ht : t ≠ .done)
    (h : Spec.step true g p t c = ⟨p', .done, c', none⟩) (hst : p'.stop = none) :
    RelLax p' (walkN true g (k + 1) p t c) := by
  rw [walkN_last k ht h]; exact relLax_ok hst

theorem relLax_fault {g : Mem} (k : Nat) {p : Packet} {t t' : Tag} {c c' : Ctx} {f : Fault} {e : PErr} {ly : Layer}
    (ht : t ≠ .done) (h : Spec.step true g p t c = ⟨p, t', c', some f⟩) (hst : p.stop = none)
    (hl : StopLayer ly f.unit) (hm : ErrMatch e f) : RelLax (p.setStop e ly) (walkN true g (k + 1) p t c) := by
  rw [walkN_fault true g k _ _ _ _ _ _ f ht h]; exact relLax_stop hst ⟨hl, hm⟩

theorem step_arp_indep (lax : Bool) (g : Mem) (p : Packet) (ctx : Ctx) :
    Spec.step lax g p (.ether 0x0806) ctx = Spec.step false g p (.ether 0x0806) ctx := by
  rfl

theorem step_vlan_indep (lax : Bool) (g : Mem) (p : Packet) (et : Nat) (ctx : Ctx) (h : isVlanType et = true) :
    Spec.step lax g p (.ether et) ctx = Spec.step false g p (.ether et) ctx := by
  simp only [Spec.step, h, if_true]

theorem step_eth_indep (lax : Bool) (g : Mem) (p : Packet) (ctx : Ctx) :
    Spec.step lax g p .eth ctx = Spec.step false g p .eth ctx := by
  simp only [Spec.step]

theorem udp_stepL (g : Mem) (p : Packet) (ctx : Ctx) (o l : Nat) (hc : ctx.off = o) (hs : ctx.stop = o + l) :
    match udpFromSliceLax g o l with
    | .ok w => Spec.step true g p (.tp 17) ctx = ⟨setTp p (.udp w), .done, ctx, none⟩
    | .error e => ∃ f, Spec.step true g p (.tp 17) ctx = ⟨p, .done, ctx, some f⟩ ∧ f.unit = .udpHeader ∧
        LenRel e f o ctx.lim := by
  have hav : ctx.avail = l := by unfold Ctx.avail; omega
  unfold udpFromSliceLax
  simp only [step_tp, hav, hc, StepR.good, StepR.bad, if_true]
  by_cases h8 : l < 8
  · simp only [h8, if_true]
    exact ⟨_, rfl, rfl, lenRel_slice hc hav (by decide) (by trivial) 8⟩
  · simp only [h8, if_false]
    by_cases hz : g16 g (o + 4) = 0
    · simp only [hz, if_true, show (l < 0 ∨ 0 < 8) from Or.inr (by omega)]
    · simp only [hz, if_false]
      by_cases hlt : l < g16 g (o + 4)
      · simp only [hlt, true_or, if_true]
      · simp only [hlt, if_false, false_or]
        by_cases hl8 : g16 g (o + 4) < 8 <;> simp only [hl8, if_true, if_false]

theorem tp_refinesL (c : Cur) (g : Mem) (pl : IpPl) (ctx : Ctx) (k : Nat)
    (hst : c.r.stop = none) (hoff : c.off = pl.w.o) (hco : ctx.off = pl.w.o)
    (hs : ctx.stop = pl.w.o + pl.w.l) (hsrc : pl.src = .slice ∨ pl.src = ctx.lim) :
    RelLax (c.laxSliceTransport g pl)
      (walkN true g (k + 1) c.r (if pl.frag then .done else .tp pl.num) ctx) := by
  unfold Cur.laxSliceTransport
  by_cases hf : pl.frag = true
  · simp only [hf, true_or, if_true, walkN_done]
    exact relLax_ok hst
  · have hfr : pl.frag = false := by simpa using hf
    simp only [hfr, hst, Option.isSome_none, Bool.false_eq_true, or_self, if_false]
    have ht : Tied { off := c.off, src := pl.src, r := c.r } ctx pl.w.o pl.w.l := ⟨hoff, hco, hs, hsrc⟩
    have hnd : ∀ n, Tag.tp n ≠ .done := fun _ h => Tag.noConfusion h
    by_cases h1 : pl.num = 1
    · rw [if_pos h1, h1]
      have := icmp4_step true g c.r ctx pl.w.o pl.w.l hco hs
      cases hd : icmp4FromSlice g pl.w.o pl.w.l with
      | ok w => rw [hd] at this; exact relLax_last k (hnd _) this hst
      | error e =>
        rw [hd] at this
        obtain ⟨f, hf, hu, hrel⟩ := this
        exact relLax_fault k (hnd _) hf hst (by rw [hu]; trivial) (lenRel_fix e f _ ctx _ _ ht hrel)
    · rw [if_neg h1]
      by_cases h17 : pl.num = 17
      · rw [if_pos h17, h17]
        have := udp_stepL g c.r ctx pl.w.o pl.w.l hco hs
        cases hd : udpFromSliceLax g pl.w.o pl.w.l with
        | ok w => rw [hd] at this; exact relLax_last k (hnd _) this hst
        | error e =>
          rw [hd] at this
          obtain ⟨f, hf, hu, hrel⟩ := this
          exact relLax_fault k (hnd _) hf hst (by rw [hu]; trivial) (lenRel_fix e f _ ctx _ _ ht hrel)
      · rw [if_neg h17]
        by_cases h6 : pl.num = 6
        · rw [if_pos h6, h6]
          have := tcp_step true g c.r ctx pl.w.o pl.w.l hco hs
          cases hd : tcpFromSlice g pl.w.o pl.w.l with
          | ok w => rw [hd] at this; exact relLax_last k (hnd _) this hst
          | error e =>
            rw [hd] at this
            obtain ⟨f, hf, hu, hrel⟩ := this
            cases e with
            | len le => exact relLax_fault k (hnd _) hf hst (by rw [hu]; trivial) (lenRel_fix le f _ ctx _ _ ht hrel)
            | _ => exact relLax_fault k (hnd _) hf hst (by rw [hu]; trivial) (contentMatch_err hrel)
        · rw [if_neg h6]
          by_cases h58 : pl.num = 58
          · rw [if_pos h58, h58]
            have := icmp6_step true g c.r ctx pl.w.o pl.w.l hco hs
            cases hd : icmp6FromSlice pl.w.o pl.w.l with
            | ok w => rw [hd] at this; exact relLax_last k (hnd _) this hst
            | error e =>
              rw [hd] at this
              obtain ⟨f, hf, hu, hrel⟩ := this
              exact relLax_fault k (hnd _) hf hst (by rw [hu]; trivial) (lenRel_fix e f _ ctx _ _ ht hrel)
          · rw [if_neg h58]
            exact relLax_last k (hnd _) (step_tp_other true g c.r pl.num ctx h1 h17 h6 h58) hst

theorem macsec_stepL (g : Mem) (hg : ByteMem g) (p : Packet) (ctx : Ctx) (o l : Nat) (hc : ctx.off = o)
    (hs : ctx.stop = o + l) (hn : ctx.nExt ≠ 3) :
    match laxMacsecFromSlice g o l with
    | .ok (.macsec hdr pl src inc) =>
      Spec.step true g p (.ether 0x88e5) ctx =
        ⟨p.pushExt (.macsec hdr pl src inc),
          (match macsecNextEtherType g o with | some et' => .ether et' | none => .done),
          { off := pl.o, stop := pl.o + pl.l, lim := inherit ctx.lim src, nExt := ctx.nExt + 1 }, none⟩ ∧
        pl.o = o + hdr.l ∧ o ≤ pl.o ∧ pl.o + pl.l ≤ o + l ∧ (src = .slice ∨ src = .macsecShortLength)
    | .ok _ => False
    | .error (.len e) =>
      ∃ f, Spec.step true g p (.ether 0x88e5) ctx = ⟨p, .done, ctx, some f⟩ ∧ LenRel e f o ctx.lim ∧
        e.layer = .macsecHeader ∧ f.unit = .macsecHeader
    | .error e => ∃ f, Spec.step true g p (.ether 0x88e5) ctx = ⟨p, .done, ctx, some f⟩ ∧ ContentMatch e f ∧
        f.unit = .macsecHeader := by
  have key := macsec_step_any true g hg p ctx o l hc hs hn
  unfold laxMacsecFromSlice
  cases hh : macsecHeaderFromSlice g o l with
  | error e =>
    rw [hh] at key
    obtain ⟨f, hf, hu, hrel, hly⟩ := key
    cases e with
    | len le => exact ⟨f, hf, hrel, hly le rfl, hu⟩
    | _ => exact ⟨f, hf, hrel, hu⟩
  | ok hl =>
    rw [hh] at key
    obtain ⟨hle, -, hstep⟩ := key
    cases hx : macsecExpectedPayloadLen g o with
    | none =>
      rw [hx] at hstep
      dsimp only at hstep ⊢
      exact ⟨hstep, rfl, by omega, by omega, Or.inl rfl⟩
    | some pl =>
      rw [hx] at hstep
      dsimp only at hstep ⊢
      by_cases hlt : l < hl + pl
      · rw [if_pos hlt] at hstep ⊢
        dsimp only
        exact ⟨hstep, rfl, by omega, by omega, Or.inl rfl⟩
      · rw [if_neg hlt] at hstep ⊢
        dsimp only
        exact ⟨hstep, rfl, by omega, by omega, Or.inr rfl⟩

theorem relLax_iff (m : Packet) (s : Packet × Option Fault) :
    RelLax m s ↔
      (noStop m = s.1 ∧ (m.stop = none ↔ s.2 = none) ∧
        ∀ e ly f, m.stop = some (e, ly) → s.2 = some f → StopLayer ly f.unit ∧ ErrMatch e f) := by
  obtain ⟨p, fo⟩ := s
  unfold RelLax StopMatch
  cases hm : m.stop with
  | none => cases fo <;> simp
  | some x =>
    obtain ⟨e, ly⟩ := x
    cases fo <;> simp

theorem relLaxW_iff (g : Mem) (m : Packet) (s : Packet × Option Fault) :
    RelLaxW g m s ↔
      (noStop m = s.1 ∧ (m.stop = none ↔ s.2 = none) ∧
        ∀ e ly f, m.stop = some (e, ly) → s.2 = some f →
          (StopLayer ly f.unit ∧ ErrMatch e f) ∨ ShortV4Stop g e ly f) := by
  obtain ⟨p, fo⟩ := s
  unfold RelLaxW StopMatch
  cases hm : m.stop with
  | none => cases fo <;> simp
  | some x =>
    obtain ⟨e, ly⟩ := x
    cases fo <;> simp

/-- also on the short-IPv4 class (`ShortV4`) a stop error is located where the fault is: the recorded layer
    names the faulting unit, and a length error carries the fault's absolute offset and available bytes -/
theorem relLaxW_located {g : Mem} {m : Packet} {s : Packet × Option Fault} (h : RelLaxW g m s)
    (e : PErr) (ly : Layer) (f : Fault) (hm : m.stop = some (e, ly)) (hf : s.2 = some f) :
    StopLayer ly f.unit ∧ ∀ le, e = .len le → le.off = f.off ∧ le.len = f.avail := by
  obtain ⟨_, _, h3⟩ := (relLaxW_iff g m s).mp h
  rcases h3 e ly f hm hf with ⟨h1, h2⟩ | h2
  · refine ⟨h1, ?_⟩
    rintro le rfl
    exact ⟨h2.off, h2.len⟩
  · obtain ⟨rfl, _, hu, _, _, _, _, h8⟩ := h2
    refine ⟨by rw [hu]; trivial, ?_⟩
    rintro le rfl
    rcases h8 with ⟨_, h⟩ | ⟨_, s', _, h⟩
    · cases h
    · cases h; exact ⟨rfl, rfl⟩

end EpModel.Lemmas.RefineLax
