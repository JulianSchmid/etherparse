import EpModel.Model.Io
import EpModel.Model.Ipv6Exts
import EpModel.Lemmas.CodecNetAuth
import EpModel.Lemmas.CodecNetRawExt
import EpModel.Lemmas.Ext
import EpModel.Model.Dec.Ip
/-
  C06, readers vs slices: every `read` function (read programs `Reads.*` of Model/Io.lean and `ipHeadersRead`, tied
  to the code by the `io.read.*` correspondence of C16) against the `from_slice` of the same header type
  (Model/Codec/*.lean, `Ext.Exts.fromSlice`, `Dec.ipHeadersFromSlice`).  Glue defined here, not in Model/: a reader
  over a byte string that runs dry only at its end (`readerAt`), the byte-string semantics of read programs (`evalOn`;
  `evalOnL` over a `LimitedReader`), and `Table d A E`: for each outcome of the slice decoder `d` a row saying what
  the read program does on the same bytes.  Both are functions, so a table determines both directions; the theorems
  of Props/C06.lean are read off the `*_table` lemmas.
-/
namespace EpModel.Lemmas.ReadVsSlice
open EpModel EpModel.Io
open EpModel.Lemmas.Codec (bAt_take bAt_drop bAt_sub be16_take be32_take be64_take sub_take sub_zero sub_append_sub)

/-- the reader over `pre ++ b` that has handed out `pre` and `n` bytes of `b`; it has no injected
    fault, it only runs dry at the end of `b`. -/
def readerAdv (pre b : Bytes) (n : Nat) : Reader :=
  { data := pre ++ b, pos := pre.length + n, failAt := none }

def readerAt (pre b : Bytes) : Reader := readerAdv pre b 0

def ReadsOk {α : Type} (p : RProg α) (pre b : Bytes) (n : Nat) (a : α) : Prop :=
  p.run (readerAt pre b) = (readerAdv pre b n, .ok a)

def ReadsEof {α : Type} (p : RProg α) (pre b : Bytes) : Prop :=
  p.run (readerAt pre b) = (readerAdv pre b b.length, .error (.io .unexpectedEof))

def ReadsContent {α : Type} (p : RProg α) (pre b : Bytes) (n : Nat) (s : String) : Prop :=
  p.run (readerAt pre b) = (readerAdv pre b n, .error (.other s))

/-- byte-string semantics of a read program: result and number of bytes consumed. -/
def evalOn {α : Type} : RProg α → Bytes → Except RErr α × Nat
  | .done (.ok a), _ => (.ok a, 0)
  | .done (.error s), _ => (.error (.other s), 0)
  | .read n k, b =>
    if n ≤ b.length then
      ((evalOn (k (b.take n)) (b.drop n)).1, n + (evalOn (k (b.take n)) (b.drop n)).2)
    else (.error (.io .unexpectedEof), b.length)

theorem readExact_adv (pre b : Bytes) (m n : Nat) (hm : m ≤ b.length) :
    (readerAdv pre b m).readExact n =
      if n ≤ (b.drop m).length then (readerAdv pre b (m + n), .ok ((b.drop m).take n))
      else (readerAdv pre b b.length, .error .unexpectedEof) := by
  rw [List.length_drop]
  by_cases hn : n = 0
  · subst hn; simp [Reader.readExact]
  · by_cases hfit : n ≤ b.length - m
    · have e2 : List.drop (pre.length + m) pre = [] := List.drop_eq_nil_of_le (by omega)
      have hfit' : m + n ≤ b.length := by omega
      simp [Reader.readExact, readerAdv, Reader.limit, hn, sub, List.drop_append, e2, Nat.add_assoc, hfit, hfit']
    · have e1 : ¬ pre.length + m + n ≤ pre.length + b.length := by omega
      have e2 : max m b.length = b.length := by omega
      simp [Reader.readExact, readerAdv, Reader.limit, Reader.dryError, hn, e1, e2, hfit]

theorem run_adv {α : Type} (p : RProg α) (pre b : Bytes) (m : Nat) (hm : m ≤ b.length) :
    p.run (readerAdv pre b m) =
      (readerAdv pre b (m + (evalOn p (b.drop m)).2), (evalOn p (b.drop m)).1) := by
  induction p generalizing m with
  | done res => cases res <;> simp [RProg.run, evalOn]
  | read n k ih =>
    simp only [RProg.run, evalOn, readExact_adv pre b m n hm]
    by_cases hfit : n ≤ (b.drop m).length
    · simp only [if_pos hfit]
      rw [ih _ (m + n) (by rw [List.length_drop] at hfit; omega)]
      simp [List.drop_drop, Nat.add_assoc]
    · simp only [if_neg hfit]
      rw [List.length_drop] at hfit ⊢
      congr 2; omega

theorem run_at {α : Type} (p : RProg α) (pre b : Bytes) :
    p.run (readerAt pre b) = (readerAdv pre b (evalOn p b).2, (evalOn p b).1) := by
  have := run_adv p pre b 0 (Nat.zero_le _)
  simpa [readerAt] using this

theorem readsOk_of_eval {α : Type} {p : RProg α} {pre b : Bytes} {n : Nat} {a : α}
    (h : evalOn p b = (.ok a, n)) : ReadsOk p pre b n a := by
  unfold ReadsOk; rw [run_at, h]

theorem readsEof_of_eval {α : Type} {p : RProg α} {pre b : Bytes}
    (h : evalOn p b = (.error (.io .unexpectedEof), b.length)) : ReadsEof p pre b := by
  unfold ReadsEof; rw [run_at, h]

theorem readsContent_of_eval {α : Type} {p : RProg α} {pre b : Bytes} {n : Nat} {s : String}
    (h : evalOn p b = (.error (.other s), n)) : ReadsContent p pre b n s := by
  unfold ReadsContent; rw [run_at, h]

theorem readerAdv_inj {pre b : Bytes} {n m : Nat} (h : readerAdv pre b n = readerAdv pre b m) : n = m := by
  simp [readerAdv] at h; exact h

theorem ReadsOk.fst {α : Type} {p : RProg α} {pre b : Bytes} {n : Nat} {a : α} (t : ReadsOk p pre b n a) :
    (p.run (readerAt pre b)).1 = readerAdv pre b n := by rw [t]
theorem ReadsOk.snd {α : Type} {p : RProg α} {pre b : Bytes} {n : Nat} {a : α} (t : ReadsOk p pre b n a) :
    (p.run (readerAt pre b)).2 = .ok a := by rw [t]
theorem ReadsEof.fst {α : Type} {p : RProg α} {pre b : Bytes} (t : ReadsEof p pre b) :
    (p.run (readerAt pre b)).1 = readerAdv pre b b.length := by rw [t]
theorem ReadsEof.snd {α : Type} {p : RProg α} {pre b : Bytes} (t : ReadsEof p pre b) :
    (p.run (readerAt pre b)).2 = .error (.io .unexpectedEof) := by rw [t]
theorem ReadsContent.fst {α : Type} {p : RProg α} {pre b : Bytes} {n : Nat} {s : String}
    (t : ReadsContent p pre b n s) : (p.run (readerAt pre b)).1 = readerAdv pre b n := by rw [t]
theorem ReadsContent.snd {α : Type} {p : RProg α} {pre b : Bytes} {n : Nat} {s : String}
    (t : ReadsContent p pre b n s) : (p.run (readerAt pre b)).2 = .error (.other s) := by rw [t]

theorem take_take_self (b : Bytes) (n : Nat) : (b.take n).take n = b.take n := by
  rw [List.take_take, Nat.min_self]

theorem drop_take_self (b : Bytes) (n : Nat) : (b.take n).drop n = [] :=
  List.drop_eq_nil_of_le (by simp [List.length_take]; omega)

theorem length_sub_length_drop (b : Bytes) (n : Nat) (h : n ≤ b.length) :
    b.length - (b.drop n).length = n := by simp [List.length_drop]; omega

/-- the row of a table for a successful slice decoding: the read program succeeds, gathers exactly
    the bytes in front of `rest`, consumes exactly those, and decoding them gives the same header. -/
def OkRow {ε H : Type} (p : RProg Bytes) (dec : Bytes → Except ε (H × Bytes)) (pre b : Bytes) (h : H)
    (rest : Bytes) : Prop :=
  ReadsOk p pre b (b.length - rest.length) (b.take (b.length - rest.length)) ∧
  b = b.take (b.length - rest.length) ++ rest ∧
  dec (b.take (b.length - rest.length)) = .ok (h, [])

theorem okRow_of {ε H : Type} {p : RProg Bytes} {dec : Bytes → Except ε (H × Bytes)} {pre b : Bytes}
    {h : H} (n : Nat) (hn : n ≤ b.length) (he : evalOn p b = (.ok (b.take n), n))
    (hd : dec (b.take n) = .ok (h, [])) : OkRow p dec pre b h (b.drop n) := by
  unfold OkRow
  rw [length_sub_length_drop b n hn]
  exact ⟨readsOk_of_eval he, (List.take_append_drop n b).symm, hd⟩

theorem OkRow.converse {ε H : Type} {p : RProg Bytes} {dec : Bytes → Except ε (H × Bytes)} {pre b : Bytes}
    {h : H} {rest g : Bytes} (t : OkRow p dec pre b h rest) (hr : (p.run (readerAt pre b)).2 = .ok g) :
    b = g ++ rest ∧ (p.run (readerAt pre b)).1 = readerAdv pre b g.length ∧ dec g = .ok (h, []) := by
  obtain ⟨t1, t2, t3⟩ := t
  rw [t1.snd] at hr
  cases hr
  have hl : (b.take (b.length - rest.length)).length = b.length - rest.length := by
    simp [List.length_take]
  rw [hl]
  exact ⟨t2, t1.fst, t3⟩

/-! ## tables, and what is read off them

  A table compares two results of the same input: `d`, the slice decoder's, row by row with what the reader
  does.  If every row of a success says that the reader succeeds and every row of an error that it fails
  (all rows here do: `ReadsOk` against `ReadsEof` / `ReadsContent`), the table also determines `d` from
  the reader's result `r`, because both are functions of the input:

    `Table d A E`,  `A x → ∃ a, r = .ok a`,  `E e → ∃ re, r = .error re`   give
    `r = .ok a → ∃ x, d = .ok x ∧ A x`   and   `r = .error re → ∃ e, d = .error e ∧ E e`.

  The theorems (1), (2), (3)+(4) of Props/C06.lean are the instances for the 17 header types. -/

abbrev Table {ε R : Type} (d : Except ε R) (A : R → Prop) (E : ε → Prop) : Prop :=
  match d with
  | .ok x => A x
  | .error e => E e

section Tables
variable {ε R ρ α : Type} {d : Except ε R} {A : R → Prop} {E : ε → Prop} {r : Except ρ α}

/-- a statement written as a `match` on `d` follows row by row -/
@[elab_as_elim]
theorem Table.rows {motive : Except ε R → Prop} (t : Table d A E) (ok : ∀ x, A x → motive (.ok x))
    (err : ∀ e, E e → motive (.error e)) : motive d := by
  cases d with
  | ok x => exact ok x t
  | error e => exact err e t

theorem Table.ok {x : R} (t : Table d A E) (hd : d = .ok x) : A x := by subst hd; exact t

theorem Table.err {e : ε} (t : Table d A E) (hd : d = .error e) : E e := by subst hd; exact t

theorem Table.of_ok {a : α} (t : Table d A E) (hr : r = .ok a) (hE : ∀ e, E e → ∃ re, r = .error re) :
    ∃ x, d = .ok x ∧ A x := by
  cases d with
  | ok x => exact ⟨x, rfl, t⟩
  | error e => obtain ⟨re, h⟩ := hE e t; rw [h] at hr; cases hr

theorem Table.of_error {re : ρ} (t : Table d A E) (hr : r = .error re) (hA : ∀ x, A x → ∃ a, r = .ok a) :
    ∃ e, d = .error e ∧ E e := by
  cases d with
  | ok x => obtain ⟨a, h⟩ := hA x t; rw [h] at hr; cases hr
  | error e => exact ⟨e, rfl, t⟩

theorem Table.rejections (t : Table d A E) (hA : ∀ x, A x → ∃ a, r = .ok a)
    (hE : ∀ e, E e → ∃ re, r = .error re) :
    ((∃ e, d = .error e) ↔ ∃ re, r = .error re) ∧ (∀ e, d = .error e → E e) :=
  ⟨⟨fun ⟨_, he⟩ => hE _ (t.err he), fun ⟨_, hr⟩ => (t.of_error hr hA).imp fun _ h => h.1⟩,
    fun _ => t.err⟩

/-- (3)+(4) where the slice decoder has content errors with canonical text `text` and length errors
    `len le`: every error row says that the reader reports the same text, or the end of the data for a
    length error -/
theorem Table.rejections_text {L : Type} {r : Except RErr α} (t : Table d A E) (text : ε → Option String)
    (len : L → ε) (hlen : ∀ le, text (len le) = none) (hA : ∀ x, A x → ∃ a, r = .ok a)
    (hE : ∀ e, E e → (∃ s, text e = some s ∧ r = .error (.other s)) ∨
      ((∃ le, e = len le) ∧ r = .error (.io .unexpectedEof))) :
    (∀ s, r = .error (.other s) ↔ ∃ e, d = .error e ∧ text e = some s) ∧
    (r = .error (.io .unexpectedEof) ↔ ∃ le, d = .error (len le)) := by
  refine ⟨fun s => ⟨fun hr => ?_, fun ⟨e, he, hs⟩ => ?_⟩, ⟨fun hr => ?_, fun ⟨le, he⟩ => ?_⟩⟩
  · obtain ⟨e, he, h⟩ := t.of_error hr hA
    rcases hE e h with ⟨s', hs, h'⟩ | ⟨_, h'⟩ <;> rw [h'] at hr <;> cases hr
    exact ⟨e, he, hs⟩
  · rcases hE e (t.err he) with ⟨s', hs', h'⟩ | ⟨⟨le, hl⟩, _⟩
    · rw [hs] at hs'; cases hs'; exact h'
    · rw [hl, hlen] at hs; cases hs
  · obtain ⟨e, he, h⟩ := t.of_error hr hA
    rcases hE e h with ⟨s', _, h'⟩ | ⟨⟨le, hl⟩, _⟩
    · rw [h'] at hr; cases hr
    · exact ⟨le, hl ▸ he⟩
  · rcases hE _ (t.err he) with ⟨s', hs, _⟩ | ⟨_, h'⟩
    · rw [hlen] at hs; cases hs
    · exact h'

end Tables

abbrev okRow {ε H : Type} (p : RProg Bytes) (dec : Bytes → Except ε (H × Bytes)) (pre b : Bytes)
    (x : H × Bytes) : Prop :=
  OkRow p dec pre b x.1 x.2

theorem OkRow.reads {ε H : Type} {p : RProg Bytes} {dec : Bytes → Except ε (H × Bytes)} {pre b : Bytes}
    (x : H × Bytes) (t : okRow p dec pre b x) : ∃ a, (p.run (readerAt pre b)).2 = .ok a := ⟨_, t.1.snd⟩

theorem Table.slice_of_read {ε H : Type} {p : RProg Bytes} {dec : Bytes → Except ε (H × Bytes)}
    {pre b g : Bytes} {E : ε → Prop} (t : Table (dec b) (okRow p dec pre b) E)
    (hr : (p.run (readerAt pre b)).2 = .ok g)
    (hE : ∀ e, E e → ∃ re, (p.run (readerAt pre b)).2 = .error re) :
    ∃ h rest, dec b = .ok (h, rest) ∧ b = g ++ rest ∧
      (p.run (readerAt pre b)).1 = readerAdv pre b g.length ∧ dec g = .ok (h, []) := by
  obtain ⟨x, hd, hx⟩ := t.of_ok hr hE
  exact ⟨x.1, x.2, hd, OkRow.converse hx hr⟩

/-- the result of a read program that ran behind `n` bytes already consumed -/
def shiftRead {α : Type} (n : Nat) (r : Except RErr α × Nat) : Except RErr α × Nat := (r.1, n + r.2)

theorem shiftRead_shiftRead {α : Type} (n m : Nat) (r : Except RErr α × Nat) :
    shiftRead n (shiftRead m r) = shiftRead (n + m) r :=
  congrArg (Prod.mk _) (Nat.add_assoc n m r.2).symm

theorem evalOn_read {α : Type} (n : Nat) (k : Bytes → RProg α) (b : Bytes) (h : n ≤ b.length) :
    evalOn (.read n k) b = shiftRead n (evalOn (k (b.take n)) (b.drop n)) := by
  rw [evalOn, if_pos h]; rfl

theorem evalOn_read_eof {α : Type} (n : Nat) (k : Bytes → RProg α) (b : Bytes) (h : b.length < n) :
    evalOn (.read n k) b = (.error (.io .unexpectedEof), b.length) := by
  rw [evalOn, if_neg (Nat.not_le_of_lt h)]

/-- the last `read_exact` of a header: `m` more bytes behind the first `n` -/
theorem evalOn_rest (n m : Nat) (b : Bytes) (hn : n ≤ b.length) :
    shiftRead n (evalOn (.read m fun r => .done (.ok (b.take n ++ r))) (b.drop n)) =
      if b.length < n + m then (.error (.io .unexpectedEof), b.length) else (.ok (b.take (n + m)), n + m) := by
  by_cases h : b.length < n + m
  · rw [if_pos h, evalOn_read_eof _ _ _ (by rw [List.length_drop]; omega), List.length_drop]
    exact congrArg (Prod.mk _) (by omega)
  · rw [if_neg h, evalOn_read _ _ _ (by rw [List.length_drop]; omega), ← List.take_add]; rfl

/-- the same where the code skips a `read_exact` of no bytes -/
theorem evalOn_rest_opt (n m : Nat) (b : Bytes) (hn : n ≤ b.length) (c : Prop) [Decidable c] (hc : ¬ c → m = 0) :
    shiftRead n (evalOn (if c then .read m fun r => .done (.ok (b.take n ++ r)) else .done (.ok (b.take n)))
      (b.drop n)) =
      if b.length < n + m then (.error (.io .unexpectedEof), b.length) else (.ok (b.take (n + m)), n + m) := by
  by_cases h : c
  · rw [if_pos h, evalOn_rest n m b hn]
  · rw [if_neg h, hc h, if_neg (by omega)]; rfl

theorem evalOn_readN (n : Nat) (b : Bytes) :
    evalOn (readN n) b =
      if n ≤ b.length then (.ok (b.take n), n) else (.error (.io .unexpectedEof), b.length) := by
  simp [readN, evalOn]

section Link
open EpModel.Codec
variable (pre b : Bytes)

theorem readN_table {ε H : Type} {dec : Bytes → Except ε (H × Bytes)} (n : Nat) (e0 : ε) (pre b : Bytes)
    (hshort : b.length < n → dec b = .error e0)
    (hok : n ≤ b.length → ∃ h, dec b = .ok (h, b.drop n) ∧ dec (b.take n) = .ok (h, [])) :
    Table (dec b) (okRow (readN n) dec pre b) fun e =>
      e = e0 ∧ b.length < n ∧ ReadsEof (readN n) pre b := by
  by_cases hl : b.length < n
  · rw [hshort hl]
    exact ⟨rfl, hl, readsEof_of_eval (by rw [evalOn_readN, if_neg (by omega)])⟩
  · obtain ⟨h, h1, h2⟩ := hok (by omega)
    rw [h1]
    exact okRow_of n (by omega) (by rw [evalOn_readN, if_pos (by omega)]) h2

theorem eth2_table :
    Table (Eth2.fromSlice b) (okRow Reads.eth2 Eth2.fromSlice pre b) fun e =>
      e = lenErrSlice 14 b.length "Ethernet2Header" ∧ b.length < 14 ∧ ReadsEof Reads.eth2 pre b :=
  readN_table 14 _ pre b (fun hl => if_pos hl) fun hl => ⟨_, if_neg (by omega), by
    unfold Eth2.fromSlice
    rw [if_neg (by rw [List.length_take_of_le hl]; omega), drop_take_self]
    simp (disch := omega) only [sub_take, be16_take]⟩

theorem vlan_table :
    Table (Vlan.fromSlice b) (okRow Reads.vlan Vlan.fromSlice pre b) fun e =>
      e = lenErrSlice 4 b.length "VlanHeader" ∧ b.length < 4 ∧ ReadsEof Reads.vlan pre b :=
  readN_table 4 _ pre b (fun hl => if_pos hl) fun hl => ⟨_, if_neg (by omega), by
    unfold Vlan.fromSlice
    rw [if_neg (by rw [List.length_take_of_le hl]; omega), drop_take_self]
    simp (disch := omega) only [bAt_take, be16_take]⟩

/-- canonical text of a content error of the link / transport decoders; `none`: not a content error -/
def linkText : Codec.Err → Option String
  | .content w => some (Err.render (.content w))
  | _ => none

theorem sll_take (h16 : 16 ≤ b.length) :
    Sll.fromSlice (b.take 16) =
      match Sll.fromSlice b with
      | .ok (h, _) => .ok (h, [])
      | .error e => .error e := by
  have h1 : ¬ (b.take 16).length < 16 := by simp [List.length_take]; omega
  have h2 : ¬ b.length < 16 := by omega
  unfold Sll.fromSlice
  rw [if_neg h1, if_neg h2]
  simp (disch := omega) only [be16_take, sub_take, drop_take_self]
  cases Sll.ptypeTryFrom (be16 b 0) with
  | error e => rfl
  | ok pt =>
    cases sllProtoTryFrom (be16 b 2) (be16 b 14) with
    | error e => rfl
    | ok p => rfl

theorem ptype_err_content (v : Nat) (e : Codec.Err) (he : Sll.ptypeTryFrom v = .error e) :
    ∃ w, e = .content w := by
  unfold Sll.ptypeTryFrom at he
  split at he
  · contradiction
  · cases he; exact ⟨_, rfl⟩

theorem of_ite_ok {ε α : Type} {c : Prop} [Decidable c] {x : α} {y : Except ε α} {e : ε}
    (h : (if c then .ok x else y) = .error e) : y = .error e := by
  split at h
  · cases h
  · exact h

theorem of_ite_error {ε α : Type} {c : Prop} [Decidable c] {e : ε} {y : Except ε α} {a : α}
    (h : (if c then .error e else y) = .ok a) : y = .ok a := by
  split at h
  · cases h
  · exact h

theorem sllProto_err_content (a v : Nat) (e : Codec.Err) (he : sllProtoTryFrom a v = .error e) :
    ∃ w, e = .content w := by
  unfold sllProtoTryFrom at he
  have h := of_ite_ok (of_ite_ok (of_ite_ok (of_ite_ok he)))
  split at h
  · split at h <;> cases h
  · cases h; exact ⟨_, rfl⟩

theorem sll_err_content (h16 : 16 ≤ b.length) (e : Codec.Err) (he : Sll.fromSlice b = .error e) :
    ∃ w, e = .content w := by
  have h2 : ¬ b.length < 16 := by omega
  unfold Sll.fromSlice at he
  rw [if_neg h2] at he
  cases h1 : Sll.ptypeTryFrom (be16 b 0) with
  | error e1 => rw [h1] at he; cases he; exact ptype_err_content _ _ h1
  | ok pt =>
    rw [h1] at he
    cases h3 : sllProtoTryFrom (be16 b 2) (be16 b 14) with
    | error e1 => rw [h3] at he; cases he; exact sllProto_err_content _ _ _ h3
    | ok p => rw [h3] at he; cases he

theorem sll_table :
    Table (Sll.fromSlice b) (okRow Reads.sll Sll.fromSlice pre b) fun e =>
      (b.length < 16 ∧ e = lenErrSlice 16 b.length "LinuxSllHeader" ∧ ReadsEof Reads.sll pre b) ∨
      (16 ≤ b.length ∧ (∃ w, e = .content w) ∧ ReadsContent Reads.sll pre b 16 e.render) := by
  by_cases hl : b.length < 16
  · have : Sll.fromSlice b = .error (lenErrSlice 16 b.length "LinuxSllHeader") := by
      unfold Sll.fromSlice; rw [if_pos hl]
    rw [this]
    refine .inl ⟨hl, rfl, readsEof_of_eval ?_⟩
    simp only [Reads.sll, evalOn]; rw [if_neg (by omega)]
  · have h16 : 16 ≤ b.length := by omega
    have ht := sll_take b h16
    have hev : evalOn Reads.sll b =
        (match Sll.fromSlice (b.take 16) with
         | .ok _ => (.ok (b.take 16), 16)
         | .error e => (.error (.other e.render), 16)) := by
      simp only [Reads.sll, evalOn]; rw [if_pos h16]
      cases Sll.fromSlice (b.take 16) <;> rfl
    cases hd : Sll.fromSlice b with
    | error e =>
      rw [hd] at ht
      rw [ht] at hev
      exact .inr ⟨h16, sll_err_content b h16 e hd, readsContent_of_eval hev⟩
    | ok x =>
      obtain ⟨h, rest⟩ := x
      rw [hd] at ht
      rw [ht] at hev
      have hr : rest = b.drop 16 := by
        unfold Sll.fromSlice at hd
        rw [if_neg hl] at hd
        split at hd
        · cases hd
        · split at hd
          · cases hd
          · cases hd; rfl
      subst hr
      exact okRow_of 16 h16 hev ht

def macsecReq (b : Bytes) : Nat :=
  6 + (if (bAt b 0 &&& 0b1100) = 0 then 2 else 0) + (if (bAt b 0 &&& 0b10_0000) ≠ 0 then 8 else 0)

theorem bits12 (t : Nat) : (t &&& 12 = 0) ↔ (t &&& 8 = 0 ∧ t &&& 4 = 0) := by
  rw [show (12 : Nat) = 8 ||| 4 from rfl, Nat.and_or_distrib_left, Nat.or_eq_zero_iff]

/-- the header `MacsecHeaderSlice::to_header` builds (the success branch of `Macsec.fromSlice`) -/
def macsecHdr (b : Bytes) : Macsec :=
  { ptype :=
      if (bAt b 0 &&& 0b1000) ≠ 0 then (if (bAt b 0 &&& 0b100) ≠ 0 then .encrypted else .encryptedUnmodified)
      else if (bAt b 0 &&& 0b100) ≠ 0 then .modified
      else if (bAt b 0 &&& 0b10_0000) ≠ 0 then .unmodified (be16 b 14)
      else .unmodified (be16 b 6),
    es := (bAt b 0 &&& 0b100_0000) ≠ 0,
    scb := (bAt b 0 &&& 0b1_0000) ≠ 0,
    an := bAt b 0 &&& 0b11,
    sl := bAt b 1 &&& 0b0011_1111,
    pn := be32 b 2,
    sci := if (bAt b 0 &&& 0b10_0000) ≠ 0 then some (be64 b 6) else none }

theorem macsec_dec :
    Macsec.fromSlice b =
      if b.length < 6 then .error (lenErrSlice 6 b.length "MacsecHeader")
      else if (bAt b 0 &&& 0b1000_0000) ≠ 0 then .error (.content "UnexpectedVersion")
      else if (bAt b 0 &&& 0b1100) = 0 ∧ (bAt b 1 &&& 0b0011_1111) = 1 then
        .error (.content "InvalidUnmodifiedShortLen")
      else if b.length < macsecReq b then .error (lenErrSlice (macsecReq b) b.length "MacsecHeader")
      else .ok (macsecHdr b, b.drop (macsecReq b)) := by
  unfold Macsec.fromSlice macsecReq macsecHdr
  simp only [decide_eq_true_eq]

theorem macsecHdr_take :
    macsecHdr (b.take (macsecReq b)) = macsecHdr b := by
  have hb := bits12 (bAt b 0)
  have hreq6 : 6 ≤ macsecReq b := by unfold macsecReq; omega
  unfold macsecHdr
  simp (disch := omega) only [bAt_take, be32_take]
  by_cases hsci : (bAt b 0 &&& 0b10_0000) ≠ 0
  · have h14 : 14 ≤ macsecReq b := by unfold macsecReq; rw [if_pos hsci]; omega
    rw [be64_take b _ 6 (by omega)]
    by_cases h8 : (bAt b 0 &&& 0b1000) ≠ 0
    · simp only [if_pos h8]
    · by_cases h4 : (bAt b 0 &&& 0b100) ≠ 0
      · simp only [if_neg h8, if_pos h4]
      · have h12 : bAt b 0 &&& 12 = 0 := hb.2 ⟨by simpa using h8, by simpa using h4⟩
        have : 16 ≤ macsecReq b := by unfold macsecReq; rw [if_pos hsci, if_pos h12]; omega
        rw [be16_take b _ 14 (by omega)]
        simp only [if_neg h8, if_neg h4, if_pos hsci]
  · simp only [if_neg hsci]
    by_cases h8 : (bAt b 0 &&& 0b1000) ≠ 0
    · simp only [if_pos h8]
    · by_cases h4 : (bAt b 0 &&& 0b100) ≠ 0
      · simp only [if_neg h8, if_pos h4]
      · have h12 : bAt b 0 &&& 12 = 0 := hb.2 ⟨by simpa using h8, by simpa using h4⟩
        have : 8 ≤ macsecReq b := by unfold macsecReq; rw [if_pos h12]; omega
        rw [be16_take b _ 6 (by omega)]

theorem macsecReq_take (n : Nat) (hn : 0 < n) : macsecReq (b.take n) = macsecReq b := by
  unfold macsecReq; rw [bAt_take b n 0 hn]

theorem macsec_eval :
    evalOn Reads.macsec b =
      if b.length < 6 then (.error (.io .unexpectedEof), b.length)
      else if (bAt b 0 &&& 0b1000_0000) ≠ 0 then (.error (.other "err(content(UnexpectedVersion))"), 6)
      else if (bAt b 0 &&& 0b1100) = 0 ∧ (bAt b 1 &&& 0b0011_1111) = 1 then
        (.error (.other "err(content(InvalidUnmodifiedShortLen))"), 6)
      else if b.length < macsecReq b then (.error (.io .unexpectedEof), b.length)
      else (.ok (b.take (macsecReq b)), macsecReq b) := by
  by_cases hl : b.length < 6
  · rw [if_pos hl]; exact evalOn_read_eof _ _ _ hl
  · rw [if_neg hl, Reads.macsec, evalOn_read _ _ _ (by omega), bAt_take b 6 0 (by omega),
      bAt_take b 6 1 (by omega)]
    by_cases hv : (bAt b 0 &&& 0b1000_0000) ≠ 0
    · rw [if_pos hv]; simp only [if_pos hv]; rfl
    · rw [if_neg hv]; simp only [if_neg hv, decide_eq_true_eq]
      by_cases hs : (bAt b 0 &&& 0b1100) = 0 ∧ (bAt b 1 &&& 0b0011_1111) = 1
      · rw [if_pos hs, if_pos hs]; rfl
      · have h6 : 6 ≤ macsecReq b := by unfold macsecReq; omega
        rw [if_neg hs, if_neg hs, evalOn_rest_opt 6 _ b (by omega) _ (by omega)]
        exact congrArg (fun n => if b.length < n then _ else (Except.ok (b.take n), n))
          (show 6 + (macsecReq b - 6) = macsecReq b by omega)

theorem macsec_table :
    Table (Macsec.fromSlice b) (okRow Reads.macsec Macsec.fromSlice pre b) fun e =>
      ((∃ le, e = .len le) ∧ ReadsEof Reads.macsec pre b) ∨
      (6 ≤ b.length ∧ (∃ w, e = .content w) ∧ ReadsContent Reads.macsec pre b 6 e.render) := by
  have he := macsec_eval b
  rw [macsec_dec b]
  by_cases hl : b.length < 6
  · rw [if_pos hl] at he ⊢; exact .inl ⟨⟨_, rfl⟩, readsEof_of_eval he⟩
  · rw [if_neg hl] at he ⊢
    by_cases hv : (bAt b 0 &&& 0b1000_0000) ≠ 0
    · rw [if_pos hv] at he ⊢; exact .inr ⟨by omega, ⟨_, rfl⟩, readsContent_of_eval he⟩
    · rw [if_neg hv] at he ⊢
      by_cases hs : (bAt b 0 &&& 0b1100) = 0 ∧ (bAt b 1 &&& 0b0011_1111) = 1
      · rw [if_pos hs] at he ⊢; exact .inr ⟨by omega, ⟨_, rfl⟩, readsContent_of_eval he⟩
      · rw [if_neg hs] at he ⊢
        by_cases hr : b.length < macsecReq b
        · rw [if_pos hr] at he ⊢; exact .inl ⟨⟨_, rfl⟩, readsEof_of_eval he⟩
        · rw [if_neg hr] at he ⊢
          have hreq6 : 6 ≤ macsecReq b := by unfold macsecReq; omega
          refine okRow_of (macsecReq b) (by omega) he ?_
          have hlen : (b.take (macsecReq b)).length = macsecReq b := by simp [List.length_take]; omega
          rw [macsec_dec, hlen, macsecReq_take b _ (by omega), bAt_take b _ 0 (by omega),
            bAt_take b _ 1 (by omega), if_neg (by omega), if_neg hv, if_neg hs, if_neg (by omega),
            macsecHdr_take b, drop_take_self]

/-- `ArpPacketSlice::from_slice`: the length the two address sizes announce -/
def arpLen (b : Bytes) : Nat := 8 + bAt b 4 * 2 + bAt b 5 * 2

theorem arp_eval :
    evalOn Reads.arp b =
      if b.length < 8 ∨ b.length < arpLen b then (.error (.io .unexpectedEof), b.length)
      else (.ok (b.take (arpLen b)), arpLen b) := by
  unfold arpLen
  by_cases h8 : b.length < 8
  · rw [if_pos (.inl h8)]; simp only [Reads.arp, evalOn]; rw [if_neg (by omega)]
  · simp only [Reads.arp, evalOn]
    rw [if_pos (by omega)]
    simp (disch := omega) only [bAt_take, List.length_drop, List.drop_drop]
    generalize bAt b 4 = hs
    generalize bAt b 5 = ps
    by_cases h1 : hs ≤ b.length - 8
    · rw [if_pos h1]
      by_cases h2 : ps ≤ b.length - (8 + hs)
      · rw [if_pos h2]
        by_cases h3 : hs ≤ b.length - (8 + hs + ps)
        · rw [if_pos h3]
          by_cases h4 : ps ≤ b.length - (8 + hs + ps + hs)
          · rw [if_pos h4, if_neg (by omega)]
            simp only [← List.take_add]
            simp only [Prod.mk.injEq]
            refine ⟨by congr 2; omega, by omega⟩
          · rw [if_neg h4, if_pos (by omega)]; simp only [Prod.mk.injEq, true_and]; omega
        · rw [if_neg h3, if_pos (by omega)]; simp only [Prod.mk.injEq, true_and]; omega
      · rw [if_neg h2, if_pos (by omega)]; simp only [Prod.mk.injEq, true_and]; omega
    · rw [if_neg h1, if_pos (by omega)]; simp only [Prod.mk.injEq, true_and]; omega

/-- the packet `ArpPacketSlice::to_packet` builds (the success branch of `Arp.fromSlice`) -/
def arpHdr (b : Bytes) : Arp :=
  { hw := be16 b 0, proto := be16 b 2, op := be16 b 6,
    shw := sub b 8 (bAt b 4),
    sp := sub b (8 + bAt b 4) (bAt b 5),
    thw := sub b (8 + bAt b 4 + bAt b 5) (bAt b 4),
    tp := sub b (8 + bAt b 4 * 2 + bAt b 5) (bAt b 5) }

theorem arp_dec :
    Arp.fromSlice b =
      if b.length < 8 then .error (lenErrSlice 8 b.length "Arp")
      else if b.length < arpLen b then
        .error (.len { req := arpLen b, len := b.length, src := "ArpAddrLengths", layer := "Arp" })
      else .ok (arpHdr b, b.drop (arpLen b)) := rfl

theorem arpLen_take (n : Nat) (hn : 8 ≤ n) : arpLen (b.take n) = arpLen b := by
  unfold arpLen; rw [bAt_take b n 4 (by omega), bAt_take b n 5 (by omega)]

theorem arpHdr_take : arpHdr (b.take (arpLen b)) = arpHdr b := by
  have h : 8 + bAt b 4 * 2 + bAt b 5 * 2 = arpLen b := rfl
  unfold arpHdr
  simp (disch := omega) only [bAt_take, be16_take, sub_take]

theorem arp_table :
    Table (Arp.fromSlice b) (okRow Reads.arp Arp.fromSlice pre b) fun e =>
      (∃ le, e = .len le) ∧ (b.length < 8 ∨ b.length < arpLen b) ∧ ReadsEof Reads.arp pre b := by
  have he := arp_eval b
  rw [arp_dec b]
  by_cases h8 : b.length < 8
  · rw [if_pos (.inl h8)] at he; rw [if_pos h8]
    exact ⟨⟨_, rfl⟩, .inl h8, readsEof_of_eval he⟩
  · rw [if_neg h8]
    by_cases hr : b.length < arpLen b
    · rw [if_pos (.inr hr)] at he; rw [if_pos hr]
      exact ⟨⟨_, rfl⟩, .inr hr, readsEof_of_eval he⟩
    · rw [if_neg (by omega)] at he; rw [if_neg hr]
      have h8' : 8 ≤ arpLen b := by unfold arpLen; omega
      refine okRow_of (arpLen b) (by omega) he ?_
      have hlen : (b.take (arpLen b)).length = arpLen b := by simp [List.length_take]; omega
      rw [arp_dec, hlen, arpLen_take b _ h8', if_neg (by omega), if_neg (by omega), arpHdr_take,
        drop_take_self]

end Link

section Transport
open EpModel.Codec
variable (pre b : Bytes)

theorem udp_table :
    Table (Udp.fromSlice b) (okRow Reads.udp Udp.fromSlice pre b) fun e =>
      e = lenErrSlice 8 b.length "UdpHeader" ∧ b.length < 8 ∧ ReadsEof Reads.udp pre b :=
  readN_table 8 _ pre b (fun hl => if_pos hl) fun hl => ⟨_, if_neg (by omega), by
    unfold Udp.fromSlice
    rw [if_neg (by rw [List.length_take_of_le hl]; omega), drop_take_self]
    simp (disch := omega) only [be16_take]⟩

/-- `TcpHeaderSlice::from_slice`: the header length the data offset announces -/
def tcpLen (b : Bytes) : Nat := (bAt b 12 &&& 0xf0) >>> 2

/-- the data offset nibble in place (`y = x &&& 0xf0`, a multiple of 16) as the header length `y / 4` and as
    the number of 32 bit words `y / 16` -/
theorem tcp_bits (x : Nat) :
    (((x &&& 0xf0) >>> 4 < 5) ↔ ((x &&& 0xf0) >>> 2 < 20)) ∧
    (((x &&& 0xf0) >>> 2) >>> 2) % 256 = (x &&& 0xf0) >>> 4 ∧
    ((x &&& 0xf0) >>> 4) * 4 = (x &&& 0xf0) >>> 2 ∧
    (20 ≤ (x &&& 0xf0) >>> 2 → 20 + (((x &&& 0xf0) >>> 4 - 5) <<< 2) % 256 = (x &&& 0xf0) >>> 2) := by
  have h0 : (x &&& 0xf0) % 16 = 0 := by
    rw [show (16 : Nat) = 2 ^ 4 from rfl, Nat.and_mod_two_pow, show 0xf0 % 2 ^ 4 = 0 from rfl, Nat.and_zero]
  have h : x &&& 0xf0 ≤ 0xf0 := Nat.and_le_right
  generalize x &&& 0xf0 = y at h0 h ⊢
  simp only [Nat.shiftRight_eq_div_pow, Nat.shiftLeft_eq]
  omega

theorem tcpText (d : Nat) :
    s!"err(content(DataOffsetTooSmall(data_offset={d})))" =
      Err.render (.content s!"DataOffsetTooSmall(data_offset={d})") := by
  unfold Err.render
  simp only [toString, String.append_assoc]
  have h1 : ")" ++ "))" = ")))" := by decide
  have h2 : "err(content(" ++ "DataOffsetTooSmall(data_offset=" =
      "err(content(DataOffsetTooSmall(data_offset=" := by decide
  rw [h1, ← String.append_assoc (s₁ := "err(content("), h2]

theorem tcp_dec :
    Tcp.fromSlice b =
      if b.length < 20 then .error (lenErrSlice 20 b.length "TcpHeader")
      else if tcpLen b < 20 then
        .error (.content s!"DataOffsetTooSmall(data_offset={(tcpLen b >>> 2) % 256})")
      else if b.length < tcpLen b then .error (lenErrSlice (tcpLen b) b.length "TcpHeader")
      else .ok (Tcp.toHeader b, b.drop (tcpLen b)) := rfl

theorem tcp_eval :
    evalOn Reads.tcp b =
      if b.length < 20 then (.error (.io .unexpectedEof), b.length)
      else if tcpLen b < 20 then
        (.error (.other (Err.render (.content s!"DataOffsetTooSmall(data_offset={(tcpLen b >>> 2) % 256})"))), 20)
      else if b.length < tcpLen b then (.error (.io .unexpectedEof), b.length)
      else (.ok (b.take (tcpLen b)), tcpLen b) := by
  obtain ⟨k1, k2, k3, k4⟩ := tcp_bits (bAt b 12)
  by_cases hl : b.length < 20
  · rw [if_pos hl]; exact evalOn_read_eof _ _ _ hl
  · rw [if_neg hl, Reads.tcp, evalOn_read _ _ _ (by omega), bAt_take b 20 12 (by omega)]
    by_cases hd : tcpLen b < 20
    · rw [if_pos hd]; simp only [if_pos (k1.2 hd), tcpText]
      unfold tcpLen; rw [k2]; rfl
    · rw [if_neg hd]; simp only [if_neg (fun h => hd (k1.1 h))]
      rw [evalOn_rest_opt 20 _ b (by omega) _ (by omega), k4 (Nat.le_of_not_lt hd)]; rfl

theorem tcpLen_take (n : Nat) (hn : 20 ≤ n) : tcpLen (b.take n) = tcpLen b := by
  unfold tcpLen; rw [bAt_take b n 12 (by omega)]

theorem tcpHdr_take (h20 : 20 ≤ tcpLen b) : Tcp.toHeader (b.take (tcpLen b)) = Tcp.toHeader b := by
  obtain ⟨_, _, k3, _⟩ := tcp_bits (bAt b 12)
  have k3' : ((bAt b 12 &&& 0xf0) >>> 4) * 4 = tcpLen b := k3
  unfold Tcp.toHeader
  simp (disch := omega) only [bAt_take, be16_take, be32_take, sub_take]

theorem tcp_table :
    Table (Tcp.fromSlice b) (okRow Reads.tcp Tcp.fromSlice pre b) fun e =>
      ((∃ le, e = .len le) ∧ ReadsEof Reads.tcp pre b) ∨
      (20 ≤ b.length ∧ (∃ w, e = .content w) ∧ ReadsContent Reads.tcp pre b 20 e.render) := by
  have he := tcp_eval b
  rw [tcp_dec b]
  by_cases hl : b.length < 20
  · rw [if_pos hl] at he ⊢; exact .inl ⟨⟨_, rfl⟩, readsEof_of_eval he⟩
  · rw [if_neg hl] at he ⊢
    by_cases hd : tcpLen b < 20
    · rw [if_pos hd] at he ⊢; exact .inr ⟨by omega, ⟨_, rfl⟩, readsContent_of_eval he⟩
    · rw [if_neg hd] at he ⊢
      by_cases hr : b.length < tcpLen b
      · rw [if_pos hr] at he ⊢; exact .inl ⟨⟨_, rfl⟩, readsEof_of_eval he⟩
      · rw [if_neg hr] at he ⊢
        refine okRow_of (tcpLen b) (by omega) he ?_
        have hlen : (b.take (tcpLen b)).length = tcpLen b := by simp [List.length_take]; omega
        rw [tcp_dec, hlen, tcpLen_take b _ (by omega), if_neg (by omega), if_neg hd, if_neg (by omega),
          tcpHdr_take b (by omega), drop_take_self]

/-- `Icmpv4Type::header_len` of the type the first two bytes select: 20 for the timestamp and
    timestamp reply messages (type 13 / 14, code 0), 8 otherwise -/
def icmp4Len (b : Bytes) : Nat := if (bAt b 0 = 14 ∨ bAt b 0 = 13) ∧ bAt b 1 = 0 then 20 else 8

theorem icmp4Len_ts {b : Bytes} (h : (bAt b 0 = 14 ∨ bAt b 0 = 13) ∧ bAt b 1 = 0) : icmp4Len b = 20 := if_pos h

theorem icmp4Len_other {b : Bytes} (h : ¬ ((bAt b 0 = 14 ∨ bAt b 0 = 13) ∧ bAt b 1 = 0)) : icmp4Len b = 8 :=
  if_neg h

theorem headerLen_ite (p : Prop) [Decidable p] (x y : Icmp4Type) (c : Nat) :
    Icmp4.headerLen { ty := if p then x else y, ck := c } =
      if p then Icmp4.headerLen { ty := x, ck := c } else Icmp4.headerLen { ty := y, ck := c } := by
  split <;> rfl

/-- only the two timestamp branches of `icmp_type` give a 20 byte header -/
theorem icmp4_headerLen (c : Nat) :
    Icmp4.headerLen { ty := Icmp4.icmpType b, ck := c } = icmp4Len b := by
  unfold Icmp4.icmpType
  simp only []
  by_cases h : (bAt b 0 = 14 ∨ bAt b 0 = 13) ∧ bAt b 1 = 0
  · rw [icmp4Len_ts h]
    obtain ⟨h1 | h1, h2⟩ := h <;> simp only [h1, h2] <;> rfl
  · have h13 : ¬ (bAt b 0 = 13 ∧ bAt b 1 = 0) := fun hh => h ⟨.inr hh.1, hh.2⟩
    have h14 : ¬ (bAt b 0 = 14 ∧ bAt b 1 = 0) := fun hh => h ⟨.inl hh.1, hh.2⟩
    rw [icmp4Len_other h, if_neg h13, if_neg h14]
    simp only [headerLen_ite]
    simp only [Icmp4.headerLen, ite_self]

theorem icmp4Type_take (n : Nat) (hn : icmp4Len b ≤ n) :
    Icmp4.icmpType (b.take n) = Icmp4.icmpType b := by
  have h8 : 8 ≤ n := Nat.le_trans (by unfold icmp4Len; split <;> omega) hn
  unfold Icmp4.icmpType
  simp only []
  rw [bAt_take b n 0 (by omega), bAt_take b n 1 (by omega), bAt_take b n 4 (by omega),
    be16_take b n 4 (by omega), be16_take b n 6 (by omega), sub_take b n 4 4 (by omega)]
  by_cases h : (bAt b 0 = 14 ∨ bAt b 0 = 13) ∧ bAt b 1 = 0
  · rw [icmp4Len_ts h] at hn
    rw [be32_take b n 8 (by omega), be32_take b n 12 (by omega), be32_take b n 16 (by omega)]
  · have h13 : ¬ (bAt b 0 = 13 ∧ bAt b 1 = 0) := fun hh => h ⟨.inr hh.1, hh.2⟩
    have h14 : ¬ (bAt b 0 = 14 ∧ bAt b 1 = 0) := fun hh => h ⟨.inl hh.1, hh.2⟩
    rw [if_neg h13, if_neg h14, if_neg h13, if_neg h14]

theorem icmp4_dec :
    Icmp4.fromSlice b =
      if b.length < 8 then .error (lenErrSlice 8 b.length "Icmpv4")
      else if bAt b 0 = 13 ∧ bAt b 1 = 0 ∧ b.length ≠ 20 then
        .error (lenErrSlice 20 b.length "Icmpv4Timestamp")
      else if bAt b 0 = 14 ∧ bAt b 1 = 0 ∧ b.length ≠ 20 then
        .error (lenErrSlice 20 b.length "Icmpv4TimestampReply")
      else .ok ({ ty := Icmp4.icmpType b, ck := be16 b 2 }, b.drop (icmp4Len b)) := by
  unfold Icmp4.fromSlice
  simp only [icmp4_headerLen]

theorem icmp4_eval :
    evalOn Reads.icmpv4 b =
      if b.length < icmp4Len b then (.error (.io .unexpectedEof), b.length)
      else (.ok (b.take (icmp4Len b)), icmp4Len b) := by
  by_cases h8 : b.length < 8
  · rw [if_pos (by unfold icmp4Len; split <;> omega)]; exact evalOn_read_eof _ _ _ h8
  · rw [Reads.icmpv4, evalOn_read _ _ _ (by omega), bAt_take b 8 0 (by omega), bAt_take b 8 1 (by omega)]
    by_cases h : (bAt b 0 = 14 ∨ bAt b 0 = 13) ∧ bAt b 1 = 0
    · rw [if_pos h, icmp4Len_ts h]; exact evalOn_rest 8 12 b (by omega)
    · rw [if_neg h, icmp4Len_other h, if_neg h8]; rfl

theorem icmp4Len_take (n : Nat) (hn : 2 ≤ n) : icmp4Len (b.take n) = icmp4Len b := by
  unfold icmp4Len; rw [bAt_take b n 0 (by omega), bAt_take b n 1 (by omega)]

theorem icmp4Len_cases : icmp4Len b = 8 ∨ icmp4Len b = 20 := by
  unfold icmp4Len; split <;> simp

/-- decoding exactly the header's bytes always succeeds (the exact-size rule is met) -/
theorem icmp4_dec_take (hr : icmp4Len b ≤ b.length) :
    Icmp4.fromSlice (b.take (icmp4Len b)) =
      .ok ({ ty := Icmp4.icmpType b, ck := be16 b 2 }, []) := by
  have hc := icmp4Len_cases b
  have hlen : (b.take (icmp4Len b)).length = icmp4Len b := by simp [List.length_take]; omega
  rw [icmp4_dec, hlen, icmp4Len_take b _ (by omega), bAt_take b _ 0 (by omega), bAt_take b _ 1 (by omega),
    icmp4Type_take b _ (Nat.le_refl _), be16_take b _ 2 (by omega), drop_take_self, if_neg (by omega)]
  have e13 : ¬ (bAt b 0 = 13 ∧ bAt b 1 = 0 ∧ icmp4Len b ≠ 20) := by
    rintro ⟨h1, h2, h3⟩; apply h3; unfold icmp4Len; rw [if_pos ⟨.inr h1, h2⟩]
  have e14 : ¬ (bAt b 0 = 14 ∧ bAt b 1 = 0 ∧ icmp4Len b ≠ 20) := by
    rintro ⟨h1, h2, h3⟩; apply h3; unfold icmp4Len; rw [if_pos ⟨.inl h1, h2⟩]
  rw [if_neg e13, if_neg e14]

theorem icmpv4_table :
    Table (Icmp4.fromSlice b) (okRow Reads.icmpv4 Icmp4.fromSlice pre b) fun e =>
      (∃ le, e = .len le) ∧
      ((b.length < icmp4Len b ∧ ReadsEof Reads.icmpv4 pre b) ∨
       (icmp4Len b = 20 ∧ 20 < b.length ∧ ReadsOk Reads.icmpv4 pre b 20 (b.take 20) ∧
         ∃ h, Icmp4.fromSlice (b.take 20) = .ok (h, []))) := by
  have he := icmp4_eval b
  have hc := icmp4Len_cases b
  by_cases hr : b.length < icmp4Len b
  · rw [if_pos hr] at he
    have hd : ∃ le, Icmp4.fromSlice b = .error (.len le) := by
      rw [icmp4_dec]
      by_cases h8 : b.length < 8
      · rw [if_pos h8]; exact ⟨_, rfl⟩
      · rw [if_neg h8]
        have h20 : icmp4Len b = 20 := by omega
        unfold icmp4Len at h20
        split at h20
        · rename_i hts
          obtain ⟨h1 | h1, h2⟩ := hts
          · rw [if_neg (by omega), if_pos ⟨h1, h2, by omega⟩]; exact ⟨_, rfl⟩
          · rw [if_pos ⟨h1, h2, by omega⟩]; exact ⟨_, rfl⟩
        · omega
    obtain ⟨le, hd⟩ := hd
    rw [hd]
    exact ⟨⟨_, rfl⟩, .inl ⟨hr, readsEof_of_eval he⟩⟩
  · rw [if_neg hr] at he
    have htake := icmp4_dec_take b (by omega)
    cases hd : Icmp4.fromSlice b with
    | error e =>
      have hd' := hd
      rw [icmp4_dec] at hd'
      rw [if_neg (by omega)] at hd'
      have hts : icmp4Len b = 20 ∧ 20 < b.length ∧ ∃ le, e = .len le := by
        split at hd'
        · rename_i h; cases hd'
          have : icmp4Len b = 20 := by unfold icmp4Len; rw [if_pos ⟨.inr h.1, h.2.1⟩]
          exact ⟨this, by omega, _, rfl⟩
        · split at hd'
          · rename_i h; cases hd'
            have : icmp4Len b = 20 := by unfold icmp4Len; rw [if_pos ⟨.inl h.1, h.2.1⟩]
            exact ⟨this, by omega, _, rfl⟩
          · cases hd'
      obtain ⟨h20, hlt, hle⟩ := hts
      rw [h20] at he htake
      exact ⟨hle, .inr ⟨h20, hlt, readsOk_of_eval he, _, htake⟩⟩
    | ok x =>
      obtain ⟨h, rest⟩ := x
      have hd' := hd
      rw [icmp4_dec] at hd'
      repeat' split at hd'
      all_goals first | contradiction | skip
      cases hd'
      exact okRow_of (icmp4Len b) (by omega) he htake

theorem icmp6Type_take (n : Nat) (hn : 8 ≤ n) :
    Icmp6.icmpType (b.take n) = Icmp6.icmpType b := by
  unfold Icmp6.icmpType
  rw [bAt_take b n 0 (by omega), bAt_take b n 1 (by omega), bAt_take b n 4 (by omega),
    bAt_take b n 5 (by omega), be16_take b n 4 (by omega), be16_take b n 6 (by omega),
    be32_take b n 4 (by omega), sub_take b n 4 4 (by omega)]

theorem icmp6_dec_take (h8 : 8 ≤ b.length) :
    Icmp6.fromSlice (b.take 8) = .ok ({ ty := Icmp6.icmpType b, ck := be16 b 2 }, []) := by
  have hlen : (b.take 8).length = 8 := by simp [List.length_take]; omega
  unfold Icmp6.fromSlice
  rw [hlen, if_neg (by omega), if_neg (by omega), icmp6Type_take b 8 (by omega),
    be16_take b 8 2 (by omega), drop_take_self]

theorem icmpv6_table :
    Table (Icmp6.fromSlice b) (okRow Reads.icmpv6 Icmp6.fromSlice pre b) fun e =>
      (b.length < 8 ∧ e = lenErrSlice 8 b.length "Icmpv6" ∧ ReadsEof Reads.icmpv6 pre b) ∨
      (4294967295 < b.length ∧ e = lenErrSlice 4294967295 b.length "Icmpv6" ∧
        ReadsOk Reads.icmpv6 pre b 8 (b.take 8) ∧ ∃ h, Icmp6.fromSlice (b.take 8) = .ok (h, [])) := by
  have he : evalOn Reads.icmpv6 b = _ := evalOn_readN 8 b
  by_cases hl : b.length < 8
  · rw [if_neg (by omega)] at he
    unfold Icmp6.fromSlice; rw [if_pos hl]
    exact .inl ⟨hl, rfl, readsEof_of_eval he⟩
  · rw [if_pos (by omega)] at he
    have htake := icmp6_dec_take b (by omega)
    by_cases hb : b.length > 4294967295
    · have : Icmp6.fromSlice b = .error (lenErrSlice 4294967295 b.length "Icmpv6") := by
        unfold Icmp6.fromSlice; rw [if_neg hl, if_pos hb]
      rw [this]
      exact .inr ⟨hb, rfl, readsOk_of_eval he, _, htake⟩
    · have : Icmp6.fromSlice b = .ok ({ ty := Icmp6.icmpType b, ck := be16 b 2 }, b.drop 8) := by
        unfold Icmp6.fromSlice; rw [if_neg hl, if_neg hb]
      rw [this]
      exact okRow_of 8 (by omega) he htake

end Transport

section Net
open EpModel.CodecNet
variable (pre b : Bytes)

/-- canonical text of the content errors of `Ipv4Header::from_slice` (as Driver/EncNet.lean prints
    them); `none`: a length error -/
def ipv4ErrText : Ipv4Err → Option String
  | .unexpectedVersion v => some s!"err(version({v}))"
  | .headerLengthSmallerThanHeader i => some s!"err(ihl({i}))"
  | .len _ => none

/-- the header length the IHL nibble announces -/
def ipv4Len (b : Bytes) : Nat := (bAt b 0 &&& 0xf) * 4

theorem ipv4_dec :
    Ipv4Header.fromSlice b =
      if b.length < 20 then .error (.len (sliceLenErr 20 b.length .ipv4Header))
      else if bAt b 0 >>> 4 ≠ 4 then .error (.unexpectedVersion (bAt b 0 >>> 4))
      else if bAt b 0 &&& 0xf < 5 then .error (.headerLengthSmallerThanHeader (bAt b 0 &&& 0xf))
      else if b.length < ipv4Len b then .error (.len (sliceLenErr (ipv4Len b) b.length .ipv4Header))
      else .ok (Ipv4HeaderSlice.toHeader { slice := b.take (ipv4Len b) }, b.drop (ipv4Len b)) := by
  unfold Ipv4Header.fromSlice Ipv4HeaderSlice.fromSlice ipv4Len
  by_cases hl : b.length < 20
  · simp only [if_pos hl]
  · simp only [if_neg hl]
    by_cases hv : bAt b 0 >>> 4 ≠ 4
    · rw [if_pos hv, if_pos (fun h => hv h.symm)]
    · rw [if_neg hv, if_neg (fun h => hv (fun h' => h h'.symm))]
      by_cases hi : bAt b 0 &&& 0xf < 5
      · simp only [if_pos hi]
      · simp only [if_neg hi]
        by_cases hr : b.length < (bAt b 0 &&& 0xf) * 4
        · simp only [if_pos hr]
        · simp only [if_neg hr]
          have : Ipv4Header.headerLen (Ipv4HeaderSlice.toHeader { slice := b.take ((bAt b 0 &&& 0xf) * 4) })
              = (bAt b 0 &&& 0xf) * 4 := by
            show 20 + (sub (b.take ((bAt b 0 &&& 0xf) * 4)) 20
              ((b.take ((bAt b 0 &&& 0xf) * 4)).length - 20)).length = _
            rw [List.length_take_of_le (by omega), sub_length _ _ _ (by rw [List.length_take_of_le (by omega)]; omega)]
            omega
          rw [this]

theorem ipv4_eval :
    evalOn Reads.ipv4 b =
      if b.length < 1 then (.error (.io .unexpectedEof), b.length)
      else if bAt b 0 >>> 4 ≠ 4 then (.error (.other s!"err(version({bAt b 0 >>> 4}))"), 1)
      else if b.length < 20 then (.error (.io .unexpectedEof), b.length)
      else if bAt b 0 &&& 0xf < 5 then (.error (.other s!"err(ihl({bAt b 0 &&& 0xf}))"), 20)
      else if b.length < ipv4Len b then (.error (.io .unexpectedEof), b.length)
      else (.ok (b.take (ipv4Len b)), ipv4Len b) := by
  by_cases h1 : b.length < 1
  · rw [if_pos h1]; exact evalOn_read_eof _ _ _ h1
  · rw [if_neg h1, Reads.ipv4, evalOn_read _ _ _ (by omega), bAt_take b 1 0 (by omega)]
    by_cases hv : bAt b 0 >>> 4 ≠ 4
    · rw [if_pos hv]; simp only [if_pos hv]; rfl
    · rw [if_neg hv]; simp only [if_neg hv]
      by_cases hl : b.length < 20
      · rw [if_pos hl, evalOn_read_eof _ _ _ (by rw [List.length_drop]; omega), List.length_drop]
        exact congrArg (Prod.mk _) (by omega)
      · rw [if_neg hl, evalOn_read _ _ _ (by rw [List.length_drop]; omega)]
        by_cases hi : bAt b 0 &&& 0xf < 5
        · rw [if_pos hi]; simp only [if_pos hi]; rfl
        · rw [if_neg hi]; simp only [if_neg hi, List.drop_drop, ← List.take_add]
          rw [shiftRead_shiftRead, evalOn_rest_opt (1 + 19) _ b (by omega) _ (by omega),
            show 1 + 19 + ((bAt b 0 &&& 0xf) - 5) * 4 = ipv4Len b by unfold ipv4Len; omega]

theorem ipv4Len_take (n : Nat) (hn : 1 ≤ n) : ipv4Len (b.take n) = ipv4Len b := by
  unfold ipv4Len; rw [bAt_take b n 0 (by omega)]

theorem ipv4_table :
    Table (Ipv4Header.fromSlice b) (okRow Reads.ipv4 Ipv4Header.fromSlice pre b) fun
    | .unexpectedVersion v =>
      20 ≤ b.length ∧ v = bAt b 0 >>> 4 ∧ v ≠ 4 ∧ ReadsContent Reads.ipv4 pre b 1 s!"err(version({v}))"
    | .headerLengthSmallerThanHeader i =>
      20 ≤ b.length ∧ i = bAt b 0 &&& 0xf ∧ i < 5 ∧ ReadsContent Reads.ipv4 pre b 20 s!"err(ihl({i}))"
    | .len le =>
      ((b.length < 20 ∧ le = sliceLenErr 20 b.length .ipv4Header) ∨
       (20 ≤ b.length ∧ b.length < ipv4Len b ∧ le = sliceLenErr (ipv4Len b) b.length .ipv4Header)) ∧
      (((b = [] ∨ bAt b 0 >>> 4 = 4) ∧ ReadsEof Reads.ipv4 pre b) ∨
       (b ≠ [] ∧ b.length < 20 ∧ bAt b 0 >>> 4 ≠ 4 ∧
         ReadsContent Reads.ipv4 pre b 1 s!"err(version({bAt b 0 >>> 4}))")) := by
  have he := ipv4_eval b
  rw [ipv4_dec b]
  by_cases hl : b.length < 20
  · rw [if_pos hl]
    refine ⟨.inl ⟨hl, rfl⟩, ?_⟩
    by_cases h1 : b.length < 1
    · rw [if_pos h1] at he
      have : b = [] := List.eq_nil_of_length_eq_zero (by omega)
      exact .inl ⟨.inl this, readsEof_of_eval he⟩
    · rw [if_neg h1] at he
      have hne : b ≠ [] := by intro h; subst h; simp at h1
      by_cases hv : bAt b 0 >>> 4 ≠ 4
      · rw [if_pos hv] at he; exact .inr ⟨hne, hl, hv, readsContent_of_eval he⟩
      · rw [if_neg hv, if_pos hl] at he
        exact .inl ⟨.inr (by omega), readsEof_of_eval he⟩
  · rw [if_neg hl]
    rw [if_neg (by omega)] at he
    by_cases hv : bAt b 0 >>> 4 ≠ 4
    · rw [if_pos hv] at he ⊢; exact ⟨by omega, rfl, hv, readsContent_of_eval he⟩
    · rw [if_neg hv] at he ⊢; rw [if_neg hl] at he
      by_cases hi : bAt b 0 &&& 0xf < 5
      · rw [if_pos hi] at he ⊢; exact ⟨by omega, rfl, hi, readsContent_of_eval he⟩
      · rw [if_neg hi] at he ⊢
        by_cases hr : b.length < ipv4Len b
        · rw [if_pos hr] at he ⊢
          exact ⟨.inr ⟨by omega, hr, rfl⟩, .inl ⟨.inr (by omega), readsEof_of_eval he⟩⟩
        · rw [if_neg hr] at he ⊢
          have h20 : 20 ≤ ipv4Len b := by unfold ipv4Len; omega
          refine okRow_of (ipv4Len b) (by omega) he ?_
          rw [ipv4_dec, List.length_take_of_le (by omega), ipv4Len_take b _ (by omega),
            bAt_take b _ 0 (by omega), if_neg (by omega), if_neg hv, if_neg hi, if_neg (by omega),
            take_take_self, drop_take_self]

/-- canonical text of the content errors of `Ipv6Header::from_slice` (as Driver/EncNet.lean prints
    them); `none`: a length error -/
def ipv6ErrText : Ipv6Err → Option String
  | .unexpectedVersion v => some s!"err(version({v}))"
  | .len _ => none

theorem ipv6_dec :
    Ipv6Header.fromSlice b =
      if b.length < 40 then .error (.len (sliceLenErr 40 b.length .ipv6Header))
      else if bAt b 0 >>> 4 ≠ 6 then .error (.unexpectedVersion (bAt b 0 >>> 4))
      else .ok (Ipv6HeaderSlice.toHeader { slice := b.take 40 }, b.drop 40) := by
  unfold Ipv6Header.fromSlice Ipv6HeaderSlice.fromSlice
  by_cases hl : b.length < 40
  · simp only [if_pos hl]
  · simp only [if_neg hl]
    by_cases hv : bAt b 0 >>> 4 ≠ 6
    · rw [if_pos hv, if_pos (fun h => hv h.symm)]
    · rw [if_neg hv, if_neg (fun h => hv (fun h' => h h'.symm))]

theorem ipv6_eval :
    evalOn Reads.ipv6 b =
      if b.length < 1 then (.error (.io .unexpectedEof), b.length)
      else if bAt b 0 >>> 4 ≠ 6 then (.error (.other s!"err(version({bAt b 0 >>> 4}))"), 1)
      else if b.length < 40 then (.error (.io .unexpectedEof), b.length)
      else (.ok (b.take 40), 40) := by
  by_cases h1 : b.length < 1
  · rw [if_pos h1]; exact evalOn_read_eof _ _ _ h1
  · rw [if_neg h1, Reads.ipv6, evalOn_read _ _ _ (by omega), bAt_take b 1 0 (by omega)]
    by_cases hv : bAt b 0 >>> 4 ≠ 6
    · rw [if_pos hv]; simp only [if_pos hv]; rfl
    · rw [if_neg hv]; simp only [if_neg hv]
      exact evalOn_rest 1 39 b (by omega)

theorem ipv6_table :
    Table (Ipv6Header.fromSlice b) (okRow Reads.ipv6 Ipv6Header.fromSlice pre b) fun
    | .unexpectedVersion v =>
      40 ≤ b.length ∧ v = bAt b 0 >>> 4 ∧ v ≠ 6 ∧ ReadsContent Reads.ipv6 pre b 1 s!"err(version({v}))"
    | .len le =>
      b.length < 40 ∧ le = sliceLenErr 40 b.length .ipv6Header ∧
      (((b = [] ∨ bAt b 0 >>> 4 = 6) ∧ ReadsEof Reads.ipv6 pre b) ∨
       (b ≠ [] ∧ bAt b 0 >>> 4 ≠ 6 ∧
         ReadsContent Reads.ipv6 pre b 1 s!"err(version({bAt b 0 >>> 4}))")) := by
  have he := ipv6_eval b
  rw [ipv6_dec b]
  by_cases hl : b.length < 40
  · rw [if_pos hl]
    refine ⟨hl, rfl, ?_⟩
    by_cases h1 : b.length < 1
    · rw [if_pos h1] at he
      have : b = [] := List.eq_nil_of_length_eq_zero (by omega)
      exact .inl ⟨.inl this, readsEof_of_eval he⟩
    · rw [if_neg h1] at he
      have hne : b ≠ [] := by intro h; subst h; simp at h1
      by_cases hv : bAt b 0 >>> 4 ≠ 6
      · rw [if_pos hv] at he; exact .inr ⟨hne, hv, readsContent_of_eval he⟩
      · rw [if_neg hv, if_pos hl] at he
        exact .inl ⟨.inr (by omega), readsEof_of_eval he⟩
  · rw [if_neg hl]
    rw [if_neg (by omega)] at he
    by_cases hv : bAt b 0 >>> 4 ≠ 6
    · rw [if_pos hv] at he ⊢; exact ⟨by omega, rfl, hv, readsContent_of_eval he⟩
    · rw [if_neg hv] at he ⊢; rw [if_neg hl] at he
      refine okRow_of 40 (by omega) he ?_
      rw [ipv6_dec, List.length_take_of_le (by omega), bAt_take b 40 0 (by omega), if_neg (by omega),
        if_neg hv, take_take_self, drop_take_self]

theorem frag_dec :
    Ipv6FragmentHeader.fromSlice b =
      if b.length < 8 then .error (sliceLenErr 8 b.length .ipv6FragHeader)
      else .ok (Ipv6FragmentHeaderSlice.toHeader { slice := b.take 8 }, b.drop 8) := by
  unfold Ipv6FragmentHeader.fromSlice Ipv6FragmentHeaderSlice.fromSlice
  by_cases hl : b.length < 8
  · simp only [if_pos hl]
  · simp only [if_neg hl]

theorem ipv6frag_table :
    Table (Ipv6FragmentHeader.fromSlice b) (okRow Reads.ipv6frag Ipv6FragmentHeader.fromSlice pre b) fun e =>
      e = sliceLenErr 8 b.length .ipv6FragHeader ∧ b.length < 8 ∧ ReadsEof Reads.ipv6frag pre b :=
  readN_table 8 _ pre b (fun hl => by rw [frag_dec, if_pos hl]) fun hl =>
    ⟨_, by rw [frag_dec, if_neg (by omega)], by
      rw [frag_dec, List.length_take_of_le hl, if_neg (by omega), take_take_self, drop_take_self]⟩

/-- the header length the `hdr ext len` byte announces -/
def rawextLen (b : Bytes) : Nat := (bAt b 1 + 1) * 8

theorem rawext_dec :
    Ipv6RawExtHeader.fromSlice b =
      if b.length < 8 then .error (.len (sliceLenErr 8 b.length .ipv6ExtHeader))
      else if b.length < rawextLen b then .error (.len (sliceLenErr (rawextLen b) b.length .ipv6ExtHeader))
      else .ok ({ nextHeader := bAt b 0, payload := (b.take (rawextLen b)).drop 2 }, b.drop (rawextLen b)) := by
  have hlt := bAt_lt b 1
  unfold Ipv6RawExtHeader.fromSlice Ipv6RawExtHeaderSlice.fromSlice rawextLen
  by_cases hl : b.length < 8
  · simp only [if_pos hl]
  · simp only [if_neg hl]
    by_cases hr : b.length < (bAt b 1 + 1) * 8
    · simp only [if_pos hr]
    · simp only [if_neg hr]
      have hlen : (b.take ((bAt b 1 + 1) * 8)).length = _ := List.length_take_of_le (by omega)
      rw [EpModel.Lemmas.CodecNet.RawExt.toHeader_eq _ (by simp only [hlen]; omega) (by simp only [hlen]; omega)
        (by simp only [hlen]; omega)]
      simp only [hlen, bAt_take b _ 0 (show 0 < (bAt b 1 + 1) * 8 by omega)]

theorem rawext_eval :
    evalOn Reads.rawext b =
      if b.length < 8 ∨ b.length < rawextLen b then (.error (.io .unexpectedEof), b.length)
      else (.ok (b.take (rawextLen b)), rawextLen b) := by
  have h8 : 8 ≤ rawextLen b := by unfold rawextLen; omega
  by_cases h2 : b.length < 2
  · rw [if_pos (.inl (by omega))]; exact evalOn_read_eof _ _ _ h2
  · rw [Reads.rawext, evalOn_read _ _ _ (by omega), bAt_take b 2 1 (by omega), evalOn_rest 2 _ b (by omega),
      show 2 + (bAt b 1 * 8 + 6) = rawextLen b by unfold rawextLen; omega]
    by_cases hr : b.length < rawextLen b
    · rw [if_pos hr, if_pos (.inr hr)]
    · rw [if_neg hr, if_neg (by omega)]

theorem rawextLen_take (n : Nat) (hn : 2 ≤ n) : rawextLen (b.take n) = rawextLen b := by
  unfold rawextLen; rw [bAt_take b n 1 (by omega)]

theorem rawext_table :
    Table (Ipv6RawExtHeader.fromSlice b) (okRow Reads.rawext Ipv6RawExtHeader.fromSlice pre b) fun e =>
      (∃ le, e = .len le) ∧ (b.length < 8 ∨ b.length < rawextLen b) ∧ ReadsEof Reads.rawext pre b := by
  have he := rawext_eval b
  rw [rawext_dec b]
  by_cases hl : b.length < 8
  · rw [if_pos (.inl hl)] at he; rw [if_pos hl]
    exact ⟨⟨_, rfl⟩, .inl hl, readsEof_of_eval he⟩
  · rw [if_neg hl]
    by_cases hr : b.length < rawextLen b
    · rw [if_pos (.inr hr)] at he; rw [if_pos hr]
      exact ⟨⟨_, rfl⟩, .inr hr, readsEof_of_eval he⟩
    · rw [if_neg (by omega)] at he; rw [if_neg hr]
      have h8 : 8 ≤ rawextLen b := by unfold rawextLen; omega
      refine okRow_of (rawextLen b) (by omega) he ?_
      rw [rawext_dec, List.length_take_of_le (by omega), rawextLen_take b _ (by omega),
        bAt_take b _ 0 (by omega), if_neg (by omega), if_neg (by omega), take_take_self, drop_take_self]

/-- canonical text of the content error of `IpAuthHeader::from_slice` (as Driver/EncNet.lean prints
    it); `none`: a length error (`panicUnwrap` is unreachable: `Auth.fromSlice_no_panic`) -/
def authErrText : IpAuthErr → Option String
  | .zeroPayloadLen => some "err(zeropayloadlen)"
  | _ => none

/-- the header length the `payload len` byte announces -/
def authLen (b : Bytes) : Nat := (bAt b 1 + 2) * 4

theorem auth_dec :
    IpAuthHeader.fromSlice b =
      if b.length < 12 then .error (.len (sliceLenErr 12 b.length .ipAuthHeader))
      else if bAt b 1 < 1 then .error .zeroPayloadLen
      else if b.length < authLen b then .error (.len (sliceLenErr (authLen b) b.length .ipAuthHeader))
      else .ok ({ nextHeader := bAt b 0, spi := be32 b 4, sequenceNumber := be32 b 8,
                  rawIcv := (b.take (authLen b)).drop 12 }, b.drop (authLen b)) := by
  have hlt := bAt_lt b 1
  unfold IpAuthHeader.fromSlice IpAuthHeaderSlice.fromSlice authLen
  by_cases hl : b.length < 12
  · simp only [if_pos hl]
  · simp only [if_neg hl]
    by_cases hz : bAt b 1 < 1
    · simp only [if_pos hz]
    · simp only [if_neg hz]
      by_cases hr : b.length < (bAt b 1 + 2) * 4
      · simp only [if_pos hr]
      · simp only [if_neg hr]
        have hlen : (b.take ((bAt b 1 + 2) * 4)).length = _ := List.length_take_of_le (by omega)
        rw [EpModel.Lemmas.CodecNet.Auth.toHeader_eq _ (by simp only [hlen]; omega) (by simp only [hlen]; omega)
          (by simp only [hlen]; omega)]
        simp only [hlen, bAt_take b _ 0 (show 0 < (bAt b 1 + 2) * 4 by omega),
          be32_take b _ 4 (show 4 + 3 < (bAt b 1 + 2) * 4 by omega),
          be32_take b _ 8 (show 8 + 3 < (bAt b 1 + 2) * 4 by omega)]

theorem auth_eval :
    evalOn Reads.auth b =
      if b.length < 12 then (.error (.io .unexpectedEof), b.length)
      else if bAt b 1 < 1 then (.error (.other "err(zeropayloadlen)"), 12)
      else if b.length < authLen b then (.error (.io .unexpectedEof), b.length)
      else (.ok (b.take (authLen b)), authLen b) := by
  by_cases hl : b.length < 12
  · rw [if_pos hl]; exact evalOn_read_eof _ _ _ hl
  · rw [if_neg hl, Reads.auth, evalOn_read _ _ _ (by omega), bAt_take b 12 1 (by omega)]
    by_cases hz : bAt b 1 < 1
    · rw [if_pos hz, if_pos hz]; rfl
    · rw [if_neg hz, if_neg hz, evalOn_rest 12 _ b (by omega),
        show 12 + (bAt b 1 - 1) * 4 = authLen b by unfold authLen; omega]

theorem authLen_take (n : Nat) (hn : 2 ≤ n) : authLen (b.take n) = authLen b := by
  unfold authLen; rw [bAt_take b n 1 (by omega)]

theorem auth_table :
    Table (IpAuthHeader.fromSlice b) (okRow Reads.auth IpAuthHeader.fromSlice pre b) fun
    | .zeroPayloadLen =>
      12 ≤ b.length ∧ bAt b 1 = 0 ∧ ReadsContent Reads.auth pre b 12 "err(zeropayloadlen)"
    | .len le =>
      ((b.length < 12 ∧ le = sliceLenErr 12 b.length .ipAuthHeader) ∨
       (12 ≤ b.length ∧ b.length < authLen b ∧ le = sliceLenErr (authLen b) b.length .ipAuthHeader)) ∧
      ReadsEof Reads.auth pre b
    | .panicUnwrap => False := by
  have he := auth_eval b
  rw [auth_dec b]
  by_cases hl : b.length < 12
  · rw [if_pos hl] at he ⊢; exact ⟨.inl ⟨hl, rfl⟩, readsEof_of_eval he⟩
  · rw [if_neg hl] at he ⊢
    by_cases hz : bAt b 1 < 1
    · rw [if_pos hz] at he ⊢; exact ⟨by omega, by omega, readsContent_of_eval he⟩
    · rw [if_neg hz] at he ⊢
      by_cases hr : b.length < authLen b
      · rw [if_pos hr] at he ⊢; exact ⟨.inr ⟨by omega, hr, rfl⟩, readsEof_of_eval he⟩
      · rw [if_neg hr] at he ⊢
        have h12 : 12 ≤ authLen b := by unfold authLen; omega
        refine okRow_of (authLen b) (by omega) he ?_
        rw [auth_dec, List.length_take_of_le (by omega), authLen_take b _ (by omega),
          bAt_take b _ 0 (by omega), bAt_take b _ 1 (by omega), be32_take b _ 4 (by omega),
          be32_take b _ 8 (by omega), if_neg (by omega), if_neg hz, if_neg (by omega), take_take_self,
          drop_take_self]

end Net

section Composite
open EpModel.CodecNet

theorem evalOn_bind {α β : Type} (p : RProg α) (f : α → RProg β) (b : Bytes) :
    evalOn (p.bind f) b =
      match evalOn p b with
      | (.ok a, n) => ((evalOn (f a) (b.drop n)).1, n + (evalOn (f a) (b.drop n)).2)
      | (.error e, n) => (.error e, n) := by
  induction p generalizing b with
  | done res =>
    cases res with
    | ok a => simp [RProg.bind, evalOn]
    | error s => simp [RProg.bind, evalOn]
  | read n k ih =>
    simp only [RProg.bind, evalOn]
    by_cases hn : n ≤ b.length
    · simp only [if_pos hn]
      rw [ih]
      cases h : evalOn (k (b.take n)) (b.drop n) with
      | mk r m =>
        cases r with
        | ok a => simp only [List.drop_drop, Nat.add_assoc]
        | error e => simp only
    · simp only [if_neg hn]

theorem authSlice_ok (b : Bytes) (s : IpAuthHeaderSlice) (h : IpAuthHeaderSlice.fromSlice b = .ok s) :
    s.slice = b.take (authLen b) ∧ 12 ≤ authLen b ∧ authLen b ≤ b.length := by
  obtain ⟨_, _, _, hp, hfull, hsl⟩ := EpModel.Lemmas.CodecNet.Auth.sliceFromSlice_ok b s h
  unfold authLen
  exact ⟨hsl, by omega, hfull⟩

theorem ipv4exts_dec (start : Nat) (b : Bytes) :
    Ipv4Extensions.fromSlice start b =
      if ipNumberAuth = start then
        match IpAuthHeader.fromSlice b with
        | .error e => .error e
        | .ok (h, rest) => .ok ({ auth := some h }, bAt b 0, rest)
      else .ok ({ auth := none }, start, b) := by
  unfold Ipv4Extensions.fromSlice Ipv4ExtensionsSlice.fromSlice
  by_cases hs : ipNumberAuth = start
  · simp only [if_pos hs]
    unfold IpAuthHeader.fromSlice
    cases h1 : IpAuthHeaderSlice.fromSlice b with
    | error e => rfl
    | ok s =>
      simp only [Ipv4ExtensionsSlice.toHeader]
      cases h2 : s.toHeader with
      | none => rfl
      | some h =>
        simp only
        have : s.nextHeader = bAt b 0 := by
          obtain ⟨e1, e2, _⟩ := authSlice_ok b s h1
          unfold IpAuthHeaderSlice.nextHeader
          rw [e1, bAt_take b _ 0 (by omega)]
        rw [this]
  · simp only [if_neg hs, Ipv4ExtensionsSlice.toHeader]

theorem run_bind {α β : Type} (p : RProg α) (f : α → RProg β) (r : Reader) :
    (p.bind f).run r =
      match p.run r with
      | (r', .ok a) => (f a).run r'
      | (r', .error e) => (r', .error e) := by
  induction p generalizing r with
  | done res => cases res <;> rfl
  | read n k ih =>
    simp only [RProg.bind, RProg.run]
    cases h : r.readExact n with
    | mk r' res => cases res <;> simp only [ih]

theorem ReadsOk.bind {α β : Type} {p : RProg α} {pre b : Bytes} {n : Nat} {a : α} (t : ReadsOk p pre b n a)
    (f : α → RProg β) (c : β) (hf : f a = .done (.ok c)) : ReadsOk (p.bind f) pre b n c := by
  unfold ReadsOk at t ⊢; rw [run_bind, t]; simp only [hf]; rfl

theorem ReadsEof.bind {α β : Type} {p : RProg α} {pre b : Bytes} (t : ReadsEof p pre b) (f : α → RProg β) :
    ReadsEof (p.bind f) pre b := by
  unfold ReadsEof at t ⊢; rw [run_bind, t]

theorem ReadsContent.bind {α β : Type} {p : RProg α} {pre b : Bytes} {n : Nat} {s : String}
    (t : ReadsContent p pre b n s) (f : α → RProg β) : ReadsContent (p.bind f) pre b n s := by
  unfold ReadsContent at t ⊢; rw [run_bind, t]

theorem ipv4exts_table (start : Nat) (pre b : Bytes) :
    Table (Ipv4Extensions.fromSlice start b)
      (fun (e, next, rest) =>
        ReadsOk (Reads.ipv4exts start) pre b (b.length - rest.length)
          (if ipNumberAuth = start then some (b.take (b.length - rest.length)) else none, next) ∧
        b = b.take (b.length - rest.length) ++ rest ∧
        Ipv4Extensions.fromSlice start (b.take (b.length - rest.length)) = .ok (e, next, []))
      fun
      | .zeroPayloadLen =>
        ipNumberAuth = start ∧ 12 ≤ b.length ∧ bAt b 1 = 0 ∧
        ReadsContent (Reads.ipv4exts start) pre b 12 "err(zeropayloadlen)"
      | .len le =>
        ipNumberAuth = start ∧
        ((b.length < 12 ∧ le = sliceLenErr 12 b.length .ipAuthHeader) ∨
         (12 ≤ b.length ∧ b.length < authLen b ∧ le = sliceLenErr (authLen b) b.length .ipAuthHeader)) ∧
        ReadsEof (Reads.ipv4exts start) pre b
      | .panicUnwrap => False := by
  rw [ipv4exts_dec]
  unfold Reads.ipv4exts
  by_cases hs : ipNumberAuth = start
  · simp only [if_pos hs]
    have ta := auth_table pre b
    cases hd : IpAuthHeader.fromSlice b with
    | ok x =>
      obtain ⟨t1, t2, t3⟩ := ta.ok hd
      have h0 : 0 < b.length - x.2.length := by
        refine Nat.pos_of_ne_zero fun h0 => ?_
        rw [h0] at t3; cases t3
      refine ⟨t1.bind _ _ ?_, t2, ?_⟩
      · rw [bAt_take b _ 0 h0]
      · rw [ipv4exts_dec, if_pos hs, t3, bAt_take b _ 0 h0]
    | error e =>
      have te := ta.err hd
      cases e with
      | zeroPayloadLen => exact ⟨hs, te.1, te.2.1, te.2.2.bind _⟩
      | len le => exact ⟨hs, te.1, te.2.bind _⟩
      | panicUnwrap => exact te
  · simp only [if_neg hs]
    exact ⟨by rw [Nat.sub_self]; rfl, by rw [Nat.sub_self]; rfl, by rw [Nat.sub_self, ipv4exts_dec, if_neg hs]; rfl⟩

end Composite

section Ipv6ExtsChain
open EpModel.Ext

/-! ### Ipv6Extensions: `Ipv6Extensions::read` (`Reads.ipv6exts`) against `Ipv6Extensions::from_slice`
  (`Ext.Exts.fromSlice`, the model of C12, `ext.from_slice` correspondence) -/

/-- all bytes a chain reader gathered, in reading order -/
def gathered (got : List (ExtKind × Bytes)) : Bytes := (got.map (·.2)).flatten

/-- decoding of one gathered header with the slice decoder of its type (what `read` returns for it) -/
def decodeRaw (g : Bytes) : Option Raw :=
  match rawSliceLen g with
  | .ok len => (match rawToHeader g len with | .ok r => some r | .error _ => none)
  | .error _ => none

def decodeFrag (g : Bytes) : Option Frag :=
  match fragFromSlice g with
  | .ok f => some f
  | .error _ => none

def decodeAuth (g : Bytes) : Option Auth :=
  match authSliceLen g with
  | .ok len => (match authToHeader (ε := Ext.SliceErr) g len with | .ok a => some a | .error _ => none)
  | .error _ => none

/-- put one decoded header into the slot the reader filled -/
def putGot (e : Exts) : ExtKind × Bytes → Option Exts
  | (.hbh, g) => (decodeRaw g).map fun r => { e with hopByHopOptions := some r }
  | (.dst, g) => (decodeRaw g).map fun r => { e with destinationOptions := some r }
  | (.rt, g) => (decodeRaw g).map fun r =>
      { e with routing := some { routing := r, finalDestinationOptions := none } }
  | (.fdst, g) =>
    match e.routing with
    | some ro => (decodeRaw g).map fun r =>
        { e with routing := some { routing := ro.routing, finalDestinationOptions := some r } }
    | none => none
  | (.frag, g) => (decodeFrag g).map fun f => { e with fragment := some f }
  | (.auth, g) => (decodeAuth g).map fun a => { e with auth := some a }

/-- `decode ∘ gather` for `Ipv6Extensions::read`: the struct the gathered headers make up -/
def decodeGot (got : List (ExtKind × Bytes)) : Option Exts := got.foldlM putGot Exts.empty

theorem decodeGot_snoc (got : List (ExtKind × Bytes)) (x : ExtKind × Bytes) (e : Exts)
    (h : decodeGot got = some e) : decodeGot (got ++ [x]) = putGot e x := by
  unfold decodeGot at h ⊢
  rw [List.foldlM_append, h]
  simp [List.foldlM]

theorem gathered_snoc (got : List (ExtKind × Bytes)) (k : ExtKind) (g : Bytes) :
    gathered (got ++ [(k, g)]) = gathered got ++ g := by
  simp [gathered]

theorem rawSliceLen_err (s : Bytes) (err : LenError) (h : rawSliceLen s = .error err) :
    s.length < 8 ∨ s.length < rawextLen s := by
  unfold rawSliceLen at h
  unfold rawextLen
  split at h
  · left; assumption
  · simp only at h
    split at h
    · right; assumption
    · cases h

theorem rawSliceLen_take (s : Bytes) (m len : Nat) (h : rawSliceLen s = .ok len) (hm : len ≤ m) :
    rawSliceLen (s.take m) = .ok len ∧ rawToHeader (s.take m) len = rawToHeader s len := by
  obtain ⟨e1, e2, e3⟩ := rawSliceLen_ok s len h
  have hlen : len ≤ (s.take m).length := by simp only [List.length_take]; omega
  refine ⟨?_, ?_⟩
  · unfold rawSliceLen
    rw [if_neg (by omega), bAt_take s m 1 (by omega)]
    simp only
    rw [if_neg (by omega), e1]
  · unfold rawToHeader
    rw [bAt_take s m 0 (by omega), sub_take s m 2 (len - 2) (by omega)]

theorem newRaw_nextHeader (n : Nat) (p : Bytes) (r : Raw) (h : Raw.newRaw n p = .ok r) : r.nextHeader = n := by
  cases of_ite_error (of_ite_error (of_ite_error h))
  rfl

theorem decodeRaw_take (s : Bytes) (len : Nat) (header : Raw) (hl : rawSliceLen s = .ok len)
    (hh : rawToHeader s len = .ok header) :
    decodeRaw (s.take len) = some header ∧ header.nextHeader = bAt s 0 := by
  obtain ⟨h1, h2⟩ := rawSliceLen_take s len len hl (Nat.le_refl _)
  refine ⟨by unfold decodeRaw; rw [h1]; simp only [h2, hh], ?_⟩
  unfold rawToHeader at hh
  cases hn : Raw.newRaw (bAt s 0) (sub s 2 (len - 2)) with
  | error e => rw [hn] at hh; cases hh
  | ok r =>
    rw [hn] at hh; cases hh
    exact newRaw_nextHeader _ _ _ hn

theorem fragFromSlice_err (s : Bytes) (err : LenError) (h : fragFromSlice s = .error err) : s.length < 8 := by
  unfold fragFromSlice at h
  split at h
  · assumption
  · cases h

theorem fragFromSlice_take (s : Bytes) (m : Nat) (f : Frag) (h : fragFromSlice s = .ok f) (hm : 8 ≤ m) :
    fragFromSlice (s.take m) = .ok f := by
  have h8 := (fragFromSlice_ok s f h).1
  unfold fragFromSlice at h ⊢
  have hlen : 8 ≤ (s.take m).length := by simp only [List.length_take]; omega
  rw [if_neg (by omega)] at h ⊢
  rw [bAt_take s m 0 (by omega), be16_take s m 2 (by omega), bAt_take s m 3 (by omega),
    be32_take s m 4 (by omega)]
  exact h

theorem authSliceLen_len (s : Bytes) (err : LenError) (h : authSliceLen s = .error (.len err)) :
    s.length < 12 ∨ (¬ s.length < 12 ∧ ¬ bAt s 1 < 1 ∧ s.length < authLen s) := by
  unfold authSliceLen at h
  unfold authLen
  split at h
  · left; assumption
  · simp only at h
    split at h
    · cases h
    · split at h
      · right; exact ⟨by omega, by omega, by assumption⟩
      · cases h

theorem authSliceLen_content (s : Bytes) (err : AuthHeaderError) (h : authSliceLen s = .error (.content err)) :
    ¬ s.length < 12 ∧ bAt s 1 < 1 := by
  unfold authSliceLen at h
  split at h
  · cases h
  · simp only at h
    split at h
    · exact ⟨by assumption, by assumption⟩
    · split at h <;> cases h

theorem authSliceLen_take (s : Bytes) (m len : Nat) (h : authSliceLen s = .ok len) (hm : len ≤ m) :
    authSliceLen (s.take m) = .ok len ∧
      authToHeader (ε := Ext.SliceErr) (s.take m) len = authToHeader s len := by
  obtain ⟨e1, e2, e3, e4, e5⟩ := authSliceLen_ok s len h
  have hlen : len ≤ (s.take m).length := by simp only [List.length_take]; omega
  refine ⟨?_, ?_⟩
  · unfold authSliceLen
    rw [if_neg (by omega), bAt_take s m 1 (by omega)]
    simp only
    rw [if_neg e5, if_neg (by omega), e1]
  · unfold authToHeader
    rw [bAt_take s m 0 (by omega), be32_take s m 4 (by omega), be32_take s m 8 (by omega),
      sub_take s m 12 (len - 12) (by omega)]

theorem authNew_nextHeader (n a c : Nat) (p : Bytes) (r : Auth) (h : Auth.new n a c p = .ok r) :
    r.nextHeader = n := by
  cases of_ite_error (of_ite_error h)
  rfl

theorem decodeAuth_take (s : Bytes) (len : Nat) (header : Auth) (hl : authSliceLen s = .ok len)
    (hh : authToHeader (ε := Ext.SliceErr) s len = .ok header) :
    decodeAuth (s.take len) = some header ∧ header.nextHeader = bAt s 0 := by
  obtain ⟨h1, h2⟩ := authSliceLen_take s len len hl (Nat.le_refl _)
  refine ⟨by unfold decodeAuth; rw [h1]; simp only [h2, hh], ?_⟩
  unfold authToHeader at hh
  cases hn : Auth.new (bAt s 0) (be32 s 4) (be32 s 8) (sub s 12 (len - 12)) with
  | error e => rw [hn] at hh; cases hh
  | ok r =>
    rw [hn] at hh; cases hh
    exact authNew_nextHeader _ _ _ _ _ hn

/-- the read program for a header of kind `k` -/
def extProg : ExtKind → RProg Bytes
  | .frag => Reads.ipv6frag
  | .auth => Reads.auth
  | _ => Reads.rawext

/-- the length the slice decoder of kind `k` finds for the header at the start of `s` -/
def extHdrLen : ExtKind → Bytes → Except AuthSliceErr Nat
  | .frag, s =>
    match fragFromSlice s with
    | .ok _ => .ok 8
    | .error e => .error (.len e)
  | .auth, s => authSliceLen s
  | _, s =>
    match rawSliceLen s with
    | .ok len => .ok len
    | .error e => .error (.len e)

theorem extHdrLen_take {k : ExtKind} {s : Bytes} {len : Nat} (h : extHdrLen k s = .ok len) (m : Nat) (hm : len ≤ m) :
    extHdrLen k (s.take m) = .ok len := by
  cases k
  case frag =>
    simp only [extHdrLen] at h ⊢
    cases hf : fragFromSlice s with
    | error e => rw [hf] at h; cases h
    | ok f => rw [hf] at h; cases h; rw [fragFromSlice_take s m f hf hm]
  case auth => exact (authSliceLen_take s m len h hm).1
  all_goals
    simp only [extHdrLen] at h ⊢
    cases hr : rawSliceLen s with
    | error e => rw [hr] at h; cases h
    | ok l => rw [hr] at h; cases h; rw [(rawSliceLen_take s m len hr hm).1]

theorem extStep {β : Type} (k : ExtKind) (f : Bytes → RProg β) (s : Bytes) :
    Table (extHdrLen k s)
      (fun len => 0 < len ∧ len ≤ s.length ∧
        evalOn ((extProg k).bind f) s = shiftRead len (evalOn (f (s.take len)) (s.drop len)))
      fun
      | .len _ => evalOn ((extProg k).bind f) s = (.error (.io .unexpectedEof), s.length)
      | .content _ =>
        12 ≤ s.length ∧ evalOn ((extProg k).bind f) s = (.error (.other "err(zeropayloadlen)"), 12) := by
  cases k
  case frag =>
    simp only [extHdrLen, extProg, Reads.ipv6frag]
    cases h : fragFromSlice s with
    | error err => rw [evalOn_bind, evalOn_readN, if_neg (Nat.not_le_of_lt (fragFromSlice_err s err h))]
    | ok hd =>
      have h8 := (fragFromSlice_ok s hd h).1
      exact ⟨by omega, h8, by rw [evalOn_bind, evalOn_readN, if_pos h8]; rfl⟩
  case auth =>
    simp only [extHdrLen, extProg]
    rw [evalOn_bind, auth_eval]
    cases h : authSliceLen s with
    | error err =>
      cases err with
      | len le =>
        rcases authSliceLen_len s le h with h1 | ⟨h1, h2, h3⟩
        · rw [if_pos h1]
        · rw [if_neg h1, if_neg h2, if_pos h3]
      | content c =>
        obtain ⟨h1, h2⟩ := authSliceLen_content s c h
        exact ⟨by omega, by rw [if_neg h1, if_pos h2]⟩
    | ok len =>
      obtain ⟨(e1 : len = authLen s), e2, e3, e4, e5⟩ := authSliceLen_ok s len h
      exact ⟨by omega, e3, by rw [if_neg e4, if_neg e5, if_neg (by omega), ← e1]; rfl⟩
  all_goals
    simp only [extHdrLen, extProg]
    rw [evalOn_bind, rawext_eval]
    cases h : rawSliceLen s with
    | error err => rw [if_pos (rawSliceLen_err s err h)]
    | ok len =>
      obtain ⟨(e1 : len = rawextLen s), e2, e3⟩ := rawSliceLen_ok s len h
      exact ⟨by omega, e3, by rw [if_neg (by omega), ← e1]; rfl⟩

/-- is the slot of kind `k` filled? (`fdst`: the final destination options inside the routing slot) -/
def extFilled (e : Exts) : ExtKind → Bool
  | .hbh => e.hopByHopOptions.isSome
  | .dst => e.destinationOptions.isSome
  | .rt => e.routing.isSome
  | .fdst => (e.routing.bind (·.finalDestinationOptions)).isSome
  | .frag => e.fragment.isSome
  | .auth => e.auth.isSome

/-- the slots the reader still regards as free are the empty slots of the struct decoded so far -/
def FreeSlots (free : List ExtKind) (filled : ExtKind → Bool) : Prop :=
  free.Nodup ∧ ∀ k, k ∈ free ↔ k ≠ .hbh ∧ filled k = false

abbrev FreeInv (free : List ExtKind) (r : Exts) : Prop := FreeSlots free (extFilled r)

theorem FreeInv.init (hbh : Option Raw) :
    FreeInv [.dst, .rt, .frag, .auth, .fdst] { Exts.empty with hopByHopOptions := hbh } :=
  ⟨by decide, fun k => by cases k <;> simp [extFilled, Exts.empty]⟩

theorem extFilled_putGot {r e' : Exts} {k : ExtKind} {g : Bytes} (h : putGot r (k, g) = some e')
    (hk : extFilled r k = false) (k' : ExtKind) : extFilled e' k' = (decide (k' = k) || extFilled r k') := by
  cases k <;> simp only [putGot] at h
  case fdst =>
    cases hr : r.routing with
    | none => rw [hr] at h; cases h
    | some ro =>
      rw [hr] at h
      obtain ⟨x, _, rfl⟩ := Option.map_eq_some_iff.mp h
      cases k' <;> simp [extFilled, hr]
  all_goals
    obtain ⟨x, _, rfl⟩ := Option.map_eq_some_iff.mp h
    cases k' <;> simp_all [extFilled]

theorem FreeInv.fill {free : List ExtKind} {r e' : Exts} {k : ExtKind} {g : Bytes} (hi : FreeInv free r)
    (hm : k ∈ free) (h : putGot r (k, g) = some e') : FreeInv (free.erase k) e' := by
  refine ⟨hi.1.erase _, fun k' => ?_⟩
  rw [hi.1.mem_erase_iff, hi.2 k', extFilled_putGot h ((hi.2 k).1 hm).2 k']
  by_cases e : k' = k <;> simp [e]

/-- the slot either loop fills for the ip number `n`, given which slots are filled (the tests of `Reads.slot`
    on the slots instead of the free list); `none`: it returns -/
def extSlotFor (filled : ExtKind → Bool) (n : Nat) : Option ExtKind :=
  if n = 60 then
    (if ¬ filled .rt = false then (if filled .fdst = false then some .fdst else none)
     else if filled .dst = false then some .dst else none)
  else if n = 43 then (if filled .rt = false then some .rt else none)
  else if n = 44 then (if filled .frag = false then some .frag else none)
  else if n = 51 then (if filled .auth = false then some .auth else none)
  else none

theorem extSlotFor_some {filled : ExtKind → Bool} {n : Nat} {k : ExtKind} (h : extSlotFor filled n = some k) :
    k ≠ .hbh ∧ filled k = false := by
  unfold extSlotFor at h
  -- a branch that returns `some k` has just tested `filled k = false`; all others return `none`
  repeat' split at h
  all_goals first | (cases h; exact ⟨by decide, by assumption⟩) | cases h

theorem extsLoop_zero (free : List ExtKind) (got : List (ExtKind × Bytes)) :
    Reads.extsLoop 0 free got = .done (.error "err(hbhnotatstart)") := by
  rw [Reads.extsLoop]; simp

theorem extsLoop_eq {free : List ExtKind} {r : Exts} (hi : FreeInv free r) {n : Nat} (hn : n ≠ 0)
    (got : List (ExtKind × Bytes)) :
    Reads.extsLoop n free got =
      match extSlotFor (extFilled r) n with
      | none => .done (.ok { got := got, next := n })
      | some k => (extProg k).bind fun b => Reads.extsLoop (bAt b 0) (free.erase k) (got ++ [(k, b)]) := by
  have hm : ∀ k, k ≠ .hbh → (k ∈ free ↔ extFilled r k = false) := fun k hk => by
    rw [hi.2]; exact and_iff_right hk
  rw [Reads.extsLoop, if_neg hn]
  unfold Reads.slot extSlotFor
  simp only [hm .rt (by decide), hm .dst (by decide), hm .fdst (by decide), hm .frag (by decide),
    hm .auth (by decide)]
  -- with membership in the free list read as `extFilled`, both sides make the same tests: per ip number,
  -- each combination of the flags returns on both sides or selects the same kind with its read program
  by_cases h60 : n = 60
  · by_cases h1 : extFilled r .rt = false <;> by_cases h2 : extFilled r .dst = false <;>
      by_cases h3 : extFilled r .fdst = false <;> simp [h60, h1, h2, h3, extProg]
  · by_cases h43 : n = 43
    · by_cases h1 : extFilled r .rt = false <;> simp [h43, h1, extProg]
    · by_cases h44 : n = 44
      · by_cases h1 : extFilled r .frag = false <;> simp [h44, h1, extProg]
      · by_cases h51 : n = 51
        · by_cases h1 : extFilled r .auth = false <;> simp [h51, h1, extProg]
        · simp [h60, h43, h44, h51]

/-- one round of the loop of `from_slice`: it returns, or finds the length of one header of the kind it
    has a free slot for, decodes the header from exactly its bytes and goes on behind it -/
theorem fromSliceLoop_eq (slice : Bytes) (r : Exts) (rest : Bytes) {n : Nat} (hn : n ≠ 0) :
    fromSliceLoop slice r rest n =
      match extSlotFor (extFilled r) n with
      | none => .ok (r, n, rest)
      | some k =>
        match extHdrLen k rest with
        | .error (.len err) => .error (lenErrAt slice rest err)
        | .error (.content c) => .error (.err (.content (.ipAuth c)))
        | .ok len =>
          match putGot r (k, rest.take len) with
          | some e' => fromSliceLoop slice e' (rest.drop len) (bAt rest 0)
          | none => .error .panic := by
  fun_cases fromSliceLoop slice r rest n
  case case1 => exact absurd rfl hn
  case case4 _ _ _ len hl f hh | case8 _ _ len hl f hh | case12 _ len hl f hh =>
    obtain ⟨x, hx, _⟩ := rawToHeader_spec hl
    rw [hx] at hh; cases hh
  case case20 _ len hl f hh =>
    obtain ⟨x, hx, _⟩ := authToHeader_spec (ε := Ext.SliceErr) hl
    rw [hx] at hh; cases hh
  case case5 _ hr hf len hl header hh | case9 hr hf len hl header hh | case13 hr len hl header hh =>
    obtain ⟨d1, d2⟩ := decodeRaw_take rest len header hl hh
    simp [extSlotFor, extFilled, extHdrLen, putGot, *]
  case case16 hf header hh =>
    have d2 := (fragFromSlice_ok rest header hh).2
    simp [extSlotFor, extFilled, extHdrLen, putGot, decodeFrag, fragFromSlice_take rest 8 header hh (Nat.le_refl _), *]
  case case21 ha len hl header hh =>
    obtain ⟨d1, d2⟩ := decodeAuth_take rest len header hl hh
    simp [extSlotFor, extFilled, extHdrLen, putGot, *]
  case case22 h0 h60 h43 h44 h51 => simp only [extSlotFor, if_neg h60, if_neg h43, if_neg h44, if_neg h51]
  -- left: the slot is taken and the loop returns, or the length function fails (length or content error);
  -- the tests of `extSlotFor` and `extHdrLen` are the hypotheses of the case
  all_goals simp [extSlotFor, extFilled, extHdrLen, *]

theorem fromSliceLoop_prefix (slice : Bytes) {r e' : Exts} {rest : Bytes} {n len : Nat} {k : ExtKind}
    (hn : n ≠ 0) (hs : extSlotFor (extFilled r) n = some k) (hl : extHdrLen k rest = .ok len) (h0 : 0 < len)
    (hp : putGot r (k, rest.take len) = some e') (m : Nat) :
    fromSliceLoop slice r (rest.take (len + m)) n = fromSliceLoop slice e' ((rest.drop len).take m) (bAt rest 0) := by
  rw [fromSliceLoop_eq slice r _ hn, hs]
  simp only [extHdrLen_take hl (len + m) (Nat.le_add_right _ _), List.take_take,
    Nat.min_eq_left (Nat.le_add_right len m),
    hp, List.drop_take, Nat.add_sub_cancel_left, bAt_take rest (len + m) 0 (by omega)]

/-- canonical text of the content errors of `Ipv6Extensions::from_slice` (as `Reads.ipv6exts` and the
    drivers print them) -/
def extsErrText : HeaderError → String
  | .hopByHopNotAtStart => "err(hbhnotatstart)"
  | .ipAuth .zeroPayloadLen => "err(zeropayloadlen)"

/-- outcome of the slice decoder (standing at `rest`, headers `got` gathered so far) against the outcome
    `out` of the reader on the same bytes (result and bytes consumed); `Q m e n`: what is to be known of the
    `m` bytes consumed (for the loop: on exactly those bytes the slice decoder gives the same struct and
    next ip number, and nothing is left) -/
def LoopRel (Q : Nat → Exts → Nat → Prop) (rest : Bytes) (got : List (ExtKind × Bytes)) :
    Except (Fault Ext.SliceErr) (Exts × Nat × Bytes) → Except RErr Reads.ExtsRead × Nat → Prop
  | .ok (e, n, rest'), out =>
    ∃ got' m, out = (.ok { got := got', next := n }, m) ∧ m ≤ rest.length ∧ rest = rest.take m ++ rest' ∧
      gathered got' = gathered got ++ rest.take m ∧ decodeGot got' = some e ∧ Q m e n
  | .error (.err (.len _)), out => out = (.error (.io .unexpectedEof), rest.length)
  | .error (.err (.content c)), out => ∃ n, n ≤ rest.length ∧ out = (.error (.other (extsErrText c)), n)
  | .error .panic, _ => False

/-- one header of `len` bytes read in front: the relation moves from the rest to the whole -/
theorem LoopRel.lift {Q Q' : Nat → Exts → Nat → Prop} (rest : Bytes) (got : List (ExtKind × Bytes))
    (k : ExtKind) (len : Nat) (hlen : len ≤ rest.length) (hq : ∀ m e n, Q' m e n → Q (len + m) e n)
    (o : Except (Fault Ext.SliceErr) (Exts × Nat × Bytes)) (out : Except RErr Reads.ExtsRead × Nat)
    (h : LoopRel Q' (rest.drop len) (got ++ [(k, rest.take len)]) o out) :
    LoopRel Q rest got o (shiftRead len out) := by
  cases o with
  | ok x =>
    obtain ⟨e, n, rest'⟩ := x
    obtain ⟨got', m, h1, h2, h3, h4, h5, h6⟩ := h
    rw [List.length_drop] at h2
    refine ⟨got', len + m, by rw [h1]; rfl, by omega, ?_, ?_, h5, hq m e n h6⟩
    · rw [List.take_add, List.append_assoc, ← h3, List.take_append_drop]
    · rw [h4, gathered_snoc, List.take_add, List.append_assoc]
  | error f =>
    cases f with
    | panic => exact h
    | err se =>
      cases se with
      | len le =>
        have h' : out = (.error (.io .unexpectedEof), (rest.drop len).length) := h
        rw [h', List.length_drop]
        exact congrArg (Prod.mk _) (by omega)
      | content c =>
        obtain ⟨n, hn, h'⟩ := h
        rw [List.length_drop] at hn
        exact ⟨len + n, by omega, by rw [h']; rfl⟩

/-- the loop of `Ipv6Extensions::from_slice` against the loop of `Ipv6Extensions::read`, by induction on
    the number of free slots; with it, `from_slice` only looks at the bytes it consumes -/
theorem loop_rel (slice : Bytes) (c : Nat) :
    ∀ (free : List ExtKind) (result : Exts) (rest : Bytes) (next : Nat) (got : List (ExtKind × Bytes)),
      free.length = c → FreeInv free result → decodeGot got = some result → rest.length ≤ slice.length →
      LoopRel (fun m e n => ∀ sl, fromSliceLoop sl result (rest.take m) next = .ok (e, n, [])) rest got
        (fromSliceLoop slice result rest next) (evalOn (Reads.extsLoop next free got) rest) := by
  induction c using Nat.strongRecOn with
  | _ c ih =>
    intro free result rest next got hc hi hg hle
    by_cases hn : next = 0
    · subst hn
      rw [extsLoop_zero, fromSliceLoop]
      exact ⟨0, Nat.zero_le _, rfl⟩
    rw [fromSliceLoop_eq slice result rest hn, extsLoop_eq hi hn got]
    cases hs : extSlotFor (extFilled result) next with
    | none =>
      refine ⟨got, 0, rfl, Nat.zero_le _, rfl, (List.append_nil _).symm, hg, fun sl => ?_⟩
      show fromSliceLoop sl result [] next = _
      rw [fromSliceLoop_eq sl result _ hn, hs]
    | some k =>
      have hm : k ∈ free := (hi.2 k).2 (extSlotFor_some hs)
      have st := extStep k (fun b => Reads.extsLoop (bAt b 0) (free.erase k) (got ++ [(k, b)])) rest
      dsimp only
      cases hl : extHdrLen k rest with
      | error err =>
        cases err with
        | len le =>
          dsimp only
          unfold lenErrAt
          rw [if_pos hle]
          exact st.err hl
        | content c =>
          obtain ⟨h12, he⟩ := st.err hl
          cases c
          exact ⟨12, h12, he⟩
      | ok len =>
        obtain ⟨h0, hlen, he⟩ := st.ok hl
        dsimp only
        cases hp : putGot result (k, rest.take len) with
        | none =>
          refine absurd ?_ (fromSliceLoop_no_panic slice result rest next hle)
          rw [fromSliceLoop_eq slice result rest hn, hs]
          simp only [hl, hp]
        | some e' =>
          dsimp only
          rw [he, bAt_take rest len 0 h0]
          refine LoopRel.lift rest got k len hlen (fun m e n hq sl => ?_) _ _
            (ih _ ?_ _ e' (rest.drop len) _ _ rfl (hi.fill hm hp)
              (by rw [decodeGot_snoc got _ result hg]; exact hp) (by rw [List.length_drop]; omega))
          · rw [fromSliceLoop_prefix sl hn hs hl h0 hp]; exact hq sl
          · have := List.length_pos_of_mem hm
            rw [List.length_erase_of_mem hm]; omega

theorem LoopRel.table {Q : Nat → Exts → Nat → Prop} {p : RProg Reads.ExtsRead} {pre b : Bytes}
    {o : Except (Fault Ext.SliceErr) (Exts × Nat × Bytes)}
    (dec : Bytes → Except (Fault Ext.SliceErr) (Exts × Nat × Bytes))
    (h : LoopRel Q b [] o (evalOn p b)) (hq : ∀ m e n, Q m e n → dec (b.take m) = .ok (e, n, [])) :
    Table o
      (fun (e, next, rest) =>
        ∃ got, ReadsOk p pre b (b.length - rest.length) { got := got, next := next } ∧
          b = b.take (b.length - rest.length) ++ rest ∧
          gathered got = b.take (b.length - rest.length) ∧ decodeGot got = some e ∧
          dec (b.take (b.length - rest.length)) = .ok (e, next, []))
      fun
      | .err (.len _) => ReadsEof p pre b
      | .err (.content c) => ∃ n, n ≤ b.length ∧ ReadsContent p pre b n (extsErrText c)
      | .panic => False := by
  cases o with
  | ok x =>
    obtain ⟨e, n, rest⟩ := x
    obtain ⟨got', m, h1, h2, h3, h4, h5, h6⟩ := h
    have hm : b.length - rest.length = m := by
      have := congrArg List.length h3
      rw [List.length_append, List.length_take, Nat.min_eq_left h2] at this
      omega
    dsimp only [Table]
    rw [hm]
    exact ⟨got', readsOk_of_eval h1, h3, by simpa [gathered] using h4, h5, hq m e n h6⟩
  | error f =>
    cases f with
    | panic => exact h
    | err se =>
      cases se with
      | len le => exact readsEof_of_eval h
      | content c =>
        obtain ⟨n, hn, h'⟩ := h
        exact ⟨n, hn, readsContent_of_eval h'⟩

theorem ipv6exts_table (start : Nat) (pre b : Bytes) :
    Table (Exts.fromSlice start b)
      (fun (e, next, rest) =>
        ∃ got, ReadsOk (Reads.ipv6exts start) pre b (b.length - rest.length) { got := got, next := next } ∧
          b = b.take (b.length - rest.length) ++ rest ∧
          gathered got = b.take (b.length - rest.length) ∧ decodeGot got = some e ∧
          Exts.fromSlice start (b.take (b.length - rest.length)) = .ok (e, next, []))
      fun
      | .err (.len _) => ReadsEof (Reads.ipv6exts start) pre b
      | .err (.content c) => ∃ n, n ≤ b.length ∧ ReadsContent (Reads.ipv6exts start) pre b n (extsErrText c)
      | .panic => False := by
  by_cases hs : start = 0
  · subst hs
    have st := extStep .hbh (fun g => Reads.extsLoop (bAt g 0) [.dst, .rt, .frag, .auth, .fdst] [(.hbh, g)]) b
    have hf : ∀ s, Exts.fromSlice 0 s =
        match rawSliceLen s with
        | .error err => .error (.err (.len err))
        | .ok len =>
          match rawToHeader s len with
          | .error f => .error f
          | .ok header =>
            fromSliceLoop s { Exts.empty with hopByHopOptions := some header } (s.drop len) header.nextHeader :=
      fun s => by unfold Exts.fromSlice; exact if_pos rfl
    have hr : Reads.ipv6exts 0 = (extProg .hbh).bind fun g =>
        Reads.extsLoop (bAt g 0) [.dst, .rt, .frag, .auth, .fdst] [(.hbh, g)] := by
      unfold Reads.ipv6exts; rw [if_pos rfl]; rfl
    rw [hr, hf b]
    cases hl : rawSliceLen b with
    | error err => exact readsEof_of_eval (st.err (e := .len err) (by simp only [extHdrLen, hl]))
    | ok len =>
      obtain ⟨header, hh, _⟩ := rawToHeader_spec hl
      obtain ⟨d1, d2⟩ := decodeRaw_take b len header hl hh
      obtain ⟨h0, hlen, he⟩ := st.ok (x := len) (by simp only [extHdrLen, hl])
      dsimp only
      rw [hh]
      dsimp only
      rw [d2]
      rw [bAt_take b len 0 h0] at he
      have hrel := loop_rel b _ _ { Exts.empty with hopByHopOptions := some header } (b.drop len)
        header.nextHeader [(.hbh, b.take len)] rfl (FreeInv.init _)
        (by simp [decodeGot, List.foldlM, putGot, d1]) (by rw [List.length_drop]; omega)
      rw [d2] at hrel
      have hlift : LoopRel (fun m e n => Exts.fromSlice 0 (b.take m) = .ok (e, n, [])) b [] _ (shiftRead len _) :=
        LoopRel.lift b [] .hbh len hlen (fun m e n hq => by
          obtain ⟨t1, t2⟩ := rawSliceLen_take b (len + m) len hl (Nat.le_add_right _ _)
          rw [hf, t1]
          dsimp only
          rw [t2, hh]
          dsimp only
          rw [List.drop_take, Nat.add_sub_cancel_left, d2]
          exact hq _) _ _ hrel
      rw [← he] at hlift
      exact hlift.table (Exts.fromSlice 0) fun _ _ _ h => h
  · have hf : ∀ s, Exts.fromSlice start s = fromSliceLoop s Exts.empty s start := fun s => by
      unfold Exts.fromSlice; rw [if_neg (fun h => hs h.symm)]
    have hr : Reads.ipv6exts start = Reads.extsLoop start [.dst, .rt, .frag, .auth, .fdst] [] := by
      unfold Reads.ipv6exts; rw [if_neg hs]
    rw [hf b, hr]
    exact (loop_rel b _ _ _ b start [] rfl (FreeInv.init none) rfl (Nat.le_refl _)).table _
      fun m e n hq => (hf _).trans (hq _)

end Ipv6ExtsChain

section LimitedReaders
variable (pre b : Bytes)

/-- the bookkeeping fields of a `LimitedReader` -/
structure LSt where
  maxLen : Nat
  readLen : Nat
  layerOffset : Nat
  layer : String
  src : String

/-- bookkeeping after a successful `read_exact(n)` -/
def LSt.adv (st : LSt) (n : Nat) : LSt :=
  { maxLen := st.maxLen, readLen := st.readLen + n, layerOffset := st.layerOffset, layer := st.layer,
    src := st.src }

/-- bookkeeping after `start_layer(layer)` -/
def LSt.started (st : LSt) (layer : String) : LSt :=
  { maxLen := st.maxLen - st.readLen, readLen := 0, layerOffset := st.layerOffset + st.readLen,
    layer := layer, src := st.src }

/-- the length error a `LimitedReader` reports when `n` more bytes exceed the limit -/
def LSt.lenErr (st : LSt) (n : Nat) : LenErr :=
  { required := st.readLen + n, len := st.maxLen, src := st.src, layer := st.layer, off := st.layerOffset }

/-- the `LimitedReader` with bookkeeping `st` around the reader `m` bytes into `b` -/
def limitedAdv (pre b : Bytes) (m : Nat) (st : LSt) : Limited :=
  { inner := readerAdv pre b m, maxLen := st.maxLen, lenSource := st.src, layer := st.layer,
    layerOffset := st.layerOffset, readLen := st.readLen, panicked := false }

/-- byte-string semantics of a limited read program: result, bytes consumed, bookkeeping afterwards -/
def evalOnL {α : Type} : LProg α → LSt → Bytes → Except LErr α × Nat × LSt
  | .done (.ok a), st, _ => (.ok a, 0, st)
  | .done (.error s), st, _ => (.error (.other s), 0, st)
  | .read n k, st, b =>
    if st.maxLen - st.readLen < n then (.error (.len (st.lenErr n)), 0, st)
    else if n ≤ b.length then
      ((evalOnL (k (b.take n)) (st.adv n) (b.drop n)).1, n + (evalOnL (k (b.take n)) (st.adv n) (b.drop n)).2.1,
        (evalOnL (k (b.take n)) (st.adv n) (b.drop n)).2.2)
    else (.error (.io .unexpectedEof), b.length, st)
  | .start layer k, st, b => evalOnL k (st.started layer) b

theorem limited_readExact_adv (m : Nat) (st : LSt) (n : Nat) (hm : m ≤ b.length)
    (hst : st.readLen ≤ st.maxLen) :
    (limitedAdv pre b m st).readExact n =
      if st.maxLen - st.readLen < n then (limitedAdv pre b m st, .error (.len (st.lenErr n)))
      else if n ≤ (b.drop m).length then
        (limitedAdv pre b (m + n) (st.adv n), .ok ((b.drop m).take n))
      else (limitedAdv pre b b.length st, .error (.io .unexpectedEof)) := by
  have h1 : ¬ (limitedAdv pre b m st).maxLen < (limitedAdv pre b m st).readLen := by
    simp only [limitedAdv]; omega
  unfold Limited.readExact
  rw [if_neg h1]
  by_cases hlim : st.maxLen - st.readLen < n
  · rw [if_pos hlim, if_pos (by simpa [limitedAdv] using hlim)]
    rfl
  · rw [if_neg hlim, if_neg (by simpa [limitedAdv] using hlim)]
    have : (limitedAdv pre b m st).inner = readerAdv pre b m := rfl
    rw [this, readExact_adv pre b m n hm]
    by_cases hfit : n ≤ (b.drop m).length
    · rw [if_pos hfit, if_pos hfit]; rfl
    · rw [if_neg hfit, if_neg hfit]; rfl

theorem runL_adv {α : Type} (p : LProg α) (pre b : Bytes) (m : Nat) (st : LSt) (hm : m ≤ b.length)
    (hst : st.readLen ≤ st.maxLen) :
    p.run (limitedAdv pre b m st) =
      (limitedAdv pre b (m + (evalOnL p st (b.drop m)).2.1) (evalOnL p st (b.drop m)).2.2,
       (evalOnL p st (b.drop m)).1) := by
  induction p generalizing m st with
  | done res => cases res <;> simp [LProg.run, evalOnL]
  | read n k ih =>
    simp only [LProg.run, evalOnL]
    rw [limited_readExact_adv pre b m st n hm hst]
    by_cases hlim : st.maxLen - st.readLen < n
    · simp only [if_pos hlim, Nat.add_zero]
    · simp only [if_neg hlim]
      by_cases hfit : n ≤ (b.drop m).length
      · simp only [if_pos hfit]
        have hfit' : m + n ≤ b.length := by simp at hfit; omega
        rw [ih ((b.drop m).take n) (m + n) (st.adv n) hfit' (by simp only [LSt.adv]; omega)]
        simp only [List.drop_drop, Nat.add_assoc]
      · simp only [if_neg hfit]
        simp at hfit
        have : m + (b.length - m) = b.length := by omega
        simp only [List.length_drop, this]
  | start layer k ih =>
    simp only [LProg.run, evalOnL]
    have hs : (limitedAdv pre b m st).startLayer layer = limitedAdv pre b m (st.started layer) := by
      unfold Limited.startLayer
      rw [if_pos (show (limitedAdv pre b m st).readLen ≤ (limitedAdv pre b m st).maxLen from hst)]
      rfl
    rw [hs]
    have : (limitedAdv pre b m (st.started layer)).panicked = false := rfl
    rw [this]
    simp only [Bool.false_eq_true, if_false]
    exact ih m _ hm (by simp [LSt.started])

theorem evalOnL_bind {α β : Type} (p : LProg α) (f : α → LProg β) (st : LSt) (b : Bytes) :
    evalOnL (p.bind f) st b =
      match evalOnL p st b with
      | (.ok a, n, st') =>
        ((evalOnL (f a) st' (b.drop n)).1, n + (evalOnL (f a) st' (b.drop n)).2.1,
          (evalOnL (f a) st' (b.drop n)).2.2)
      | (.error e, n, st') => (.error e, n, st') := by
  induction p generalizing st b with
  | done res =>
    cases res with
    | ok a => simp [LProg.bind, evalOnL]
    | error s => simp [LProg.bind, evalOnL]
  | read n k ih =>
    simp only [LProg.bind, evalOnL]
    by_cases hlim : st.maxLen - st.readLen < n
    · simp only [if_pos hlim]
    · simp only [if_neg hlim]
      by_cases hn : n ≤ b.length
      · simp only [if_pos hn]
        rw [ih]
        cases h : evalOnL (k (b.take n)) (st.adv n) (b.drop n) with
        | mk r rest =>
          obtain ⟨m, st'⟩ := rest
          cases r with
          | ok a => simp only [List.drop_drop, Nat.add_assoc]
          | error e => simp only
      · simp only [if_neg hn]
  | start layer k ih =>
    simp only [LProg.bind, evalOnL]
    exact ih _ _

/-- bookkeeping after a complete header of `len` bytes was read through `start_layer(layer)` -/
def LSt.after (st : LSt) (layer : String) (len : Nat) : LSt :=
  { maxLen := st.maxLen - st.readLen, readLen := len, layerOffset := st.layerOffset + st.readLen,
    layer := layer, src := st.src }

/-- a length error of a limited header read: the limit (`len`), its source, the layer and the offset of
    the header are fixed; `required` is whatever the failing `read_exact` asked for -/
def LimitErr (st : LSt) (layer : String) (le : LenErr) : Prop :=
  le.len = st.maxLen - st.readLen ∧ le.src = st.src ∧ le.layer = layer ∧
  le.off = st.layerOffset + st.readLen ∧ le.len < le.required

/-- where a limited reader stands: `st` is its bookkeeping at offset `o` of `b`, `l` bytes are left of its
    limit; the chain started at `base` with `l0` bytes -/
structure LimWindow (b : Bytes) (base l0 o l : Nat) (st : LSt) : Prop where
  lim : st.maxLen - st.readLen = l
  le : st.readLen ≤ st.maxLen
  off : st.layerOffset + st.readLen = o
  fit : o + l ≤ b.length
  sub : l ≤ l0
  base : o = base + (l0 - l)

theorem LimWindow.after {b : Bytes} {base l0 o l : Nat} {st : LSt} (h : LimWindow b base l0 o l st) (layer : String)
    (len : Nat) (hl : len ≤ l) : LimWindow b base l0 (o + len) (l - len) (st.after layer len) := by
  obtain ⟨h1, h2, h3, h4, h5, h6⟩ := h
  exact ⟨congrArg (· - len) h1, (show len ≤ st.maxLen - st.readLen from h1.symm ▸ hl), congrArg (· + len) h3,
    by omega, Nat.le_trans (Nat.sub_le _ _) h5, by omega⟩

/-- the result of a limited read program that ran behind `n` bytes already consumed -/
def shiftReadL {β : Type} (n : Nat) (r : Except LErr β × Nat × LSt) : Except LErr β × Nat × LSt :=
  (r.1, n + r.2.1, r.2.2)

theorem lrawext_step {β : Type} (f : Bytes → LProg β) {b : Bytes} {base l0 o l : Nat} {st : LSt}
    (hv : LimWindow b base l0 o l st) (len : Nat) (hlen : len = (Dec.memOf b (o + 1) + 1) * 8) :
    (l < len →
      ∃ le c st', evalOnL (LReads.rawext.bind f) st (b.drop o) = (.error (.len le), c, st') ∧
        LimitErr st "Ipv6ExtHeader" le ∧ (8 ≤ l → le.required = len)) ∧
    (len ≤ l →
      evalOnL (LReads.rawext.bind f) st (b.drop o) =
        shiftReadL len (evalOnL (f (sub b o len)) (st.after "Ipv6ExtHeader" len) (b.drop (o + len)))) := by
  obtain ⟨h1, _, _, h4, _, _⟩ := hv
  subst h1
  have hb : bAt ((b.drop o).take 2) 1 = Dec.memOf b (o + 1) := by rw [bAt_take _ 2 1 (by omega), bAt_drop]; rfl
  have hlen' : len = 2 + (Dec.memOf b (o + 1) * 8 + 6) := by omega
  rw [evalOnL_bind]
  simp only [LReads.rawext, evalOnL, LSt.started, LSt.adv, LSt.lenErr, Nat.sub_zero, Nat.zero_add, hb,
    List.length_drop]
  refine ⟨fun h => ?_, fun h => ?_⟩
  · by_cases h2 : st.maxLen - st.readLen < 2
    · rw [if_pos h2]
      exact ⟨_, _, _, rfl, ⟨rfl, rfl, rfl, rfl, h2⟩, fun h8 => by omega⟩
    · rw [if_neg h2, if_pos (by omega), if_pos (by omega)]
      exact ⟨_, _, _, rfl, ⟨rfl, rfl, rfl, rfl, by simp only; omega⟩, fun _ => by simp only; omega⟩
  · rw [if_neg (by omega), if_pos (by omega), if_neg (by omega), if_pos (by omega)]
    simp only [← List.take_add, ← hlen', LSt.after, Nat.add_zero]
    rw [List.drop_drop]
    rfl

theorem lfrag_step {β : Type} (f : Bytes → LProg β) {b : Bytes} {base l0 o l : Nat} {st : LSt}
    (hv : LimWindow b base l0 o l st) :
    (l < 8 →
      ∃ le c st', evalOnL (LReads.ipv6frag.bind f) st (b.drop o) = (.error (.len le), c, st') ∧
        LimitErr st "Ipv6FragHeader" le ∧ le.required = 8) ∧
    (8 ≤ l →
      evalOnL (LReads.ipv6frag.bind f) st (b.drop o) =
        shiftReadL 8 (evalOnL (f (sub b o 8)) (st.after "Ipv6FragHeader" 8) (b.drop (o + 8)))) := by
  obtain ⟨h1, _, _, h4, _, _⟩ := hv
  subst h1
  rw [evalOnL_bind]
  simp only [LReads.ipv6frag, evalOnL, LSt.started, LSt.adv, LSt.lenErr, Nat.sub_zero, Nat.zero_add,
    List.length_drop]
  refine ⟨fun h => ?_, fun h => ?_⟩
  · rw [if_pos h]
    exact ⟨_, _, _, rfl, ⟨rfl, rfl, rfl, rfl, h⟩, rfl⟩
  · rw [if_neg (by omega), if_pos (by omega)]
    simp only [LSt.after, Nat.add_zero, List.drop_drop]
    rfl

theorem lauth_step {β : Type} (f : Bytes → LProg β) {b : Bytes} {base l0 o l : Nat} {st : LSt}
    (hv : LimWindow b base l0 o l st) (len : Nat) (hlen : len = (Dec.memOf b (o + 1) + 2) * 4) :
    (l < 12 →
      ∃ le c st', evalOnL (LReads.auth.bind f) st (b.drop o) = (.error (.len le), c, st') ∧
        LimitErr st "IpAuthHeader" le ∧ le.required = 12) ∧
    (12 ≤ l → Dec.memOf b (o + 1) < 1 →
      ∃ st', evalOnL (LReads.auth.bind f) st (b.drop o) = (.error (.other "err(zeropayloadlen)"), 12, st')) ∧
    (12 ≤ l → ¬ Dec.memOf b (o + 1) < 1 → l < len →
      ∃ le c st', evalOnL (LReads.auth.bind f) st (b.drop o) = (.error (.len le), c, st') ∧
        LimitErr st "IpAuthHeader" le ∧ le.required = len) ∧
    (12 ≤ l → ¬ Dec.memOf b (o + 1) < 1 → len ≤ l →
      evalOnL (LReads.auth.bind f) st (b.drop o) =
        shiftReadL len (evalOnL (f (sub b o len)) (st.after "IpAuthHeader" len) (b.drop (o + len)))) := by
  obtain ⟨h1, _, _, h4, _, _⟩ := hv
  subst h1
  have hb : bAt ((b.drop o).take 12) 1 = Dec.memOf b (o + 1) := by rw [bAt_take _ 12 1 (by omega), bAt_drop]; rfl
  rw [evalOnL_bind]
  simp only [LReads.auth, evalOnL, LSt.started, LSt.adv, LSt.lenErr, Nat.sub_zero, Nat.zero_add,
    List.length_drop]
  refine ⟨fun h => ?_, fun h hz => ?_, fun h hz hr => ?_, fun h hz hr => ?_⟩
  · rw [if_pos h]
    exact ⟨_, _, _, rfl, ⟨rfl, rfl, rfl, rfl, h⟩, rfl⟩
  · rw [if_neg (by omega), if_pos (by omega)]
    simp only [hb, if_pos hz, evalOnL]
    exact ⟨_, rfl⟩
  · have hlen' : len = 12 + (Dec.memOf b (o + 1) - 1) * 4 := by omega
    rw [if_neg (by omega), if_pos (by omega)]
    simp only [hb, if_neg hz, evalOnL]
    rw [if_pos (by omega)]
    exact ⟨_, _, _, rfl, ⟨rfl, rfl, rfl, rfl,
      by show st.maxLen - st.readLen < 12 + (Dec.memOf b (o + 1) - 1) * 4; omega⟩, hlen'.symm⟩
  · have hlen' : len = 12 + (Dec.memOf b (o + 1) - 1) * 4 := by omega
    rw [if_neg (by omega), if_pos (by omega)]
    simp only [hb, if_neg hz, evalOnL, List.length_drop]
    rw [if_neg (by omega), if_pos (by omega)]
    simp only [← List.take_add, ← hlen', LSt.after, LSt.adv, Nat.add_zero]
    rw [List.drop_drop]
    rfl

/-! ### the limited extension chain reader against the struct-mode chain walk of the slice decoder
  (`Dec.extsLoop … true …`, the model of `Ipv6Extensions::from_slice` inside `IpHeaders::from_slice`, C03/C06
  `dec.*` correspondence) -/

theorem lextsLoop_zero (free : List ExtKind) (got : List (ExtKind × Bytes)) :
    LReads.extsLoop 0 free got = .done (.error "err(hbhnotatstart)") := by
  rw [LReads.extsLoop]; simp

/-- the slot of `Ipv6Extensions` a kind of the reader's bookkeeping stands for -/
def slotOf (sl : Dec.ExtSlots) : ExtKind → Option Dec.Win
  | .hbh => sl.hbh
  | .dst => sl.dest
  | .rt => sl.routing
  | .fdst => sl.finalDest
  | .frag => sl.frag
  | .auth => sl.auth

/-- the bytes the reader gathered for a kind of header (as the driver of C16 looks them up) -/
def lookupGot (got : List (ExtKind × Bytes)) (k : ExtKind) : Option Bytes :=
  (got.find? fun p => p.1 == k).map (·.2)

/-- what the reader gathered for each kind is what the window in the same slot of the struct-mode
    slice decoder covers -/
def GotMatch (b : Bytes) (got : List (ExtKind × Bytes)) (sl : Dec.ExtSlots) : Prop :=
  ∀ k, lookupGot got k = (slotOf sl k).map fun w => sub b w.o w.l

theorem lookupGot_snoc (got : List (ExtKind × Bytes)) (k k' : ExtKind) (g : Bytes)
    (hk : lookupGot got k = none) :
    lookupGot (got ++ [(k, g)]) k' = if k' = k then some g else lookupGot got k' := by
  unfold lookupGot at hk ⊢
  rw [List.find?_append]
  by_cases h : k' = k
  · subst h
    rw [if_pos rfl]
    have : got.find? (fun p => p.1 == k') = none := by
      cases hf : got.find? (fun p => p.1 == k') with
      | none => rfl
      | some x => rw [hf] at hk; cases hk
    simp [this]
  · rw [if_neg h]
    cases hf : got.find? (fun p => p.1 == k') with
    | some x => simp
    | none =>
      have : ¬ (k == k') = true := by simpa using fun e => h e.symm
      simp [this]

/-- which slots of the struct-mode decoder are filled -/
def slotFilled (sl : Dec.ExtSlots) (k : ExtKind) : Bool := (slotOf sl k).isSome

/-- the reader's free list against the slots of the struct-mode decoder -/
abbrev FreeInvW (free : List ExtKind) (sl : Dec.ExtSlots) : Prop := FreeSlots free (slotFilled sl)

/-- the kind a destination options (60) / routing (43) header is stored as -/
def rawKind (nh : Nat) (sl : Dec.ExtSlots) : ExtKind :=
  if nh = 60 then (if sl.routing.isSome then .fdst else .dst) else .rt

/-- the limited read program for a header of kind `k` -/
def lextProg : ExtKind → LProg Bytes
  | .frag => LReads.ipv6frag
  | .auth => LReads.auth
  | _ => LReads.rawext

/-- one round of the limited reader's loop -/
theorem lextsLoop_eq {free : List ExtKind} {sl : Dec.ExtSlots} (hi : FreeInvW free sl) {n : Nat} (hn : n ≠ 0)
    (got : List (ExtKind × Bytes)) :
    LReads.extsLoop n free got =
      match extSlotFor (slotFilled sl) n with
      | none => .done (.ok { got := got, next := n })
      | some k => (lextProg k).bind fun b => LReads.extsLoop (bAt b 0) (free.erase k) (got ++ [(k, b)]) := by
  have hm : ∀ k, k ≠ .hbh → (k ∈ free ↔ slotFilled sl k = false) := fun k hk => by
    rw [hi.2]; exact and_iff_right hk
  rw [LReads.extsLoop, if_neg hn]
  unfold LReads.slot extSlotFor
  simp only [hm .rt (by decide), hm .dst (by decide), hm .fdst (by decide), hm .frag (by decide),
    hm .auth (by decide)]
  -- as in `extsLoop_eq`
  by_cases h60 : n = 60
  · by_cases h1 : slotFilled sl .rt = false <;> by_cases h2 : slotFilled sl .dst = false <;>
      by_cases h3 : slotFilled sl .fdst = false <;> simp [h60, h1, h2, h3, lextProg]
  · by_cases h43 : n = 43
    · by_cases h1 : slotFilled sl .rt = false <;> simp [h43, h1, lextProg]
    · by_cases h44 : n = 44
      · by_cases h1 : slotFilled sl .frag = false <;> simp [h44, h1, lextProg]
      · by_cases h51 : n = 51
        · by_cases h1 : slotFilled sl .auth = false <;> simp [h51, h1, lextProg]
        · simp [h60, h43, h44, h51]

theorem lextsLoop_stop {free : List ExtKind} {sl : Dec.ExtSlots} (hi : FreeInvW free sl) {n : Nat} (hn : n ≠ 0)
    (hs : extSlotFor (slotFilled sl) n = none) (got : List (ExtKind × Bytes)) :
    LReads.extsLoop n free got = .done (.ok { got := got, next := n }) := by
  rw [lextsLoop_eq hi hn, hs]

theorem lextsLoop_go {free : List ExtKind} {sl : Dec.ExtSlots} (hi : FreeInvW free sl) {n : Nat} (hn : n ≠ 0)
    {k : ExtKind} (hs : extSlotFor (slotFilled sl) n = some k) (got : List (ExtKind × Bytes)) :
    LReads.extsLoop n free got =
        (lextProg k).bind (fun b => LReads.extsLoop (bAt b 0) (free.erase k) (got ++ [(k, b)])) ∧
      k ≠ .hbh ∧ slotOf sl k = none := by
  obtain ⟨h1, h2⟩ := extSlotFor_some hs
  exact ⟨by rw [lextsLoop_eq hi hn, hs], h1, by simpa [slotFilled] using h2⟩

/-- the struct-mode decoder's test for a destination options / routing header is the slot test -/
theorem extSlotFor_raw (sl : Dec.ExtSlots) {nh : Nat} (hn : nh = 60 ∨ nh = 43) :
    extSlotFor (slotFilled sl) nh = if Dec.rawFits nh sl then some (rawKind nh sl) else none := by
  unfold Dec.rawFits rawKind extSlotFor slotFilled
  rcases hn with rfl | rfl
  · cases h1 : sl.routing <;> cases h2 : sl.dest <;> cases h3 : sl.finalDest <;> simp [slotOf, h1, h2, h3]
  · cases h1 : sl.routing <;> simp [slotOf, h1]

theorem lextProg_rawKind (nh : Nat) (sl : Dec.ExtSlots) : lextProg (rawKind nh sl) = LReads.rawext := by
  unfold rawKind
  split
  · split <;> rfl
  · rfl

theorem GotMatch.store {b : Bytes} {got : List (ExtKind × Bytes)} {sl sl' : Dec.ExtSlots}
    (hg : GotMatch b got sl) (k : ExtKind) (w : Dec.Win) (hnone : slotOf sl k = none)
    (hs : ∀ k', slotOf sl' k' = if k' = k then some w else slotOf sl k') :
    GotMatch b (got ++ [(k, sub b w.o w.l)]) sl' := by
  intro k'
  have hk : lookupGot got k = none := by rw [hg k, hnone]; rfl
  rw [lookupGot_snoc got k k' _ hk, hs k']
  by_cases h : k' = k
  · simp [h]
  · simp [h, hg k']

theorem slotOf_rawStore (nh : Nat) (hn : nh = 60 ∨ nh = 43) (sl : Dec.ExtSlots) (w : Dec.Win) (k' : ExtKind) :
    slotOf (Dec.rawStore nh sl w) k' = if k' = rawKind nh sl then some w else slotOf sl k' := by
  unfold Dec.rawStore rawKind
  rcases hn with rfl | rfl
  · by_cases hr : sl.routing.isSome
    · simp only [if_true, if_pos hr]; cases k' <;> simp [slotOf]
    · simp only [if_true, if_neg hr]; cases k' <;> simp [slotOf]
  · simp only [show ¬ ((43 : Nat) = 60) by omega, if_false]; cases k' <;> simp [slotOf]

theorem slotOf_fragStore (sl : Dec.ExtSlots) (w : Dec.Win) (k' : ExtKind) :
    slotOf (Dec.fragStore sl w) k' = if k' = .frag then some w else slotOf sl k' := by
  unfold Dec.fragStore; cases k' <;> simp [slotOf]

theorem slotOf_authStore (sl : Dec.ExtSlots) (w : Dec.Win) (k' : ExtKind) :
    slotOf (Dec.authStore sl w) k' = if k' = .auth then some w else slotOf sl k' := by
  unfold Dec.authStore; cases k' <;> simp [slotOf]

theorem FreeInvW.store {free : List ExtKind} {sl sl' : Dec.ExtSlots} (hi : FreeInvW free sl) (k : ExtKind)
    (w : Dec.Win) (hs : ∀ k', slotOf sl' k' = if k' = k then some w else slotOf sl k') :
    FreeInvW (free.erase k) sl' := by
  refine ⟨hi.1.erase _, fun k' => ?_⟩
  rw [hi.1.mem_erase_iff, hi.2 k']
  unfold slotFilled
  rw [hs k']
  by_cases e : k' = k <;> simp [e]

theorem FreeInvW.init (hbh : Option Dec.Win) :
    FreeInvW [.dst, .rt, .frag, .auth, .fdst]
      { hbh := hbh, dest := none, routing := none, finalDest := none, frag := none, auth := none } :=
  ⟨by decide, fun k => by cases k <;> simp [slotFilled, slotOf]⟩

/-- names of the layers / length sources as `LimitedReader` and the drivers print them -/
def layerText : Dec.Layer → String
  | .ipHeader => "IpHeader"
  | .ipv4Header => "Ipv4Header"
  | .ipv4Packet => "Ipv4Packet"
  | .ipAuthHeader => "IpAuthHeader"
  | .ipv6Header => "Ipv6Header"
  | .ipv6Packet => "Ipv6Packet"
  | .ipv6ExtHeader => "Ipv6ExtHeader"
  | .ipv6FragHeader => "Ipv6FragHeader"
  | _ => "(not an IP layer)"

def srcText : Dec.LenSource → String
  | .slice => "Slice"
  | .macsecShortLength => "MacsecShortLength"
  | .ipv4HeaderTotalLen => "Ipv4HeaderTotalLen"
  | .ipv6HeaderPayloadLen => "Ipv6HeaderPayloadLen"
  | .udpHeaderLen => "UdpHeaderLen"
  | .tcpHeaderLen => "TcpHeaderLen"
  | .arpAddrLengths => "ArpAddrLengths"

/-- a length error of the limited reader against the length error `e` of the slice decoder (offsets of
    `e` relative to `base`): same limit, source, layer and offset; the same `required_len` except on an
    IPv6 raw extension header with fewer than 8 bytes left (the reader asks for 2 bytes first, the slice
    decoder for 8) -/
def LenErrAgrees (src : String) (base : Nat) (e : Dec.LenError) (le : LenErr) : Prop :=
  le.len = e.len ∧ le.src = src ∧ le.layer = layerText e.layer ∧ le.off = base + e.off ∧
  le.len < le.required ∧ (8 ≤ e.len ∨ e.layer ≠ .ipv6ExtHeader → le.required = e.req)

/-- outcome of the struct-mode chain walk of the slice decoder (`out`) against the outcome of the limited
    chain reader (`res`) that stands at offset `o` of `b` -/
def LChainRel (b : Bytes) (src : String) (base o : Nat) (got : List (ExtKind × Bytes)) (out : Dec.ExtsOut)
    (res : Except LErr Reads.ExtsRead × Nat × LSt) : Prop :=
  match out.stop with
  | none =>
    ∃ got', res.1 = .ok { got := got', next := out.next } ∧ o + res.2.1 = out.rest.o ∧
      GotMatch b got' out.slots ∧ gathered got' = gathered got ++ sub b o res.2.1
  | some (.len e, _) => ∃ le, res.1 = .error (.len le) ∧ LenErrAgrees src base e le
  | some (.hopByHop, _) => res.1 = .error (.other "err(hbhnotatstart)")
  | some (.authZero, _) => res.1 = .error (.other "err(zeropayloadlen)")

theorem LChainRel.lift (src : String) (base o len : Nat) (got : List (ExtKind × Bytes))
    (k : ExtKind) (out : Dec.ExtsOut) (r : Except LErr Reads.ExtsRead × Nat × LSt)
    (h : LChainRel b src base (o + len) (got ++ [(k, sub b o len)]) out r) :
    LChainRel b src base o got out (r.1, len + r.2.1, r.2.2) := by
  unfold LChainRel at h ⊢
  cases hs : out.stop with
  | none =>
    rw [hs] at h
    obtain ⟨got', h1, h2, h3, h4⟩ := h
    refine ⟨got', h1, by simp only; omega, h3, ?_⟩
    rw [h4, gathered_snoc, List.append_assoc, sub_append_sub _ _ _ _ _ rfl]
  | some x =>
    rw [hs] at h
    obtain ⟨e, ly⟩ := x
    cases e <;> exact h

theorem bAt_sub_zero (o len : Nat) (h : 0 < len) : bAt (sub b o len) 0 = Dec.memOf b o :=
  bAt_sub b o len 0 h

theorem LChainRel.done (src : String) (base o l : Nat) (got : List (ExtKind × Bytes))
    (nh : Nat) (frag : Bool) (sl : Dec.ExtSlots) (st : LSt) (hg : GotMatch b got sl) :
    LChainRel b src base o got (Dec.extsDone nh frag sl o l)
      (evalOnL (.done (.ok { got := got, next := nh })) st (b.drop o)) := by
  unfold LChainRel Dec.extsDone
  simp only [evalOnL]
  exact ⟨got, rfl, rfl, hg, by simp [sub]⟩

theorem LChainRel.lenErr {b : Bytes} {src : String} {base o l nh : Nat} {frag : Bool} {sl : Dec.ExtSlots}
    {got : List (ExtKind × Bytes)} {e : Dec.LenError} {ly : Dec.Layer} {le : LenErr}
    {res : Except LErr Reads.ExtsRead × Nat × LSt} (h1 : res.1 = .error (.len le))
    (h2 : LenErrAgrees src base e le) :
    LChainRel b src base o got (Dec.extsFail nh frag sl o l (.len e) ly) res := ⟨le, h1, h2⟩

theorem LChainRel.step (src : String) (base o len : Nat) (hlen : 0 < len)
    (got : List (ExtKind × Bytes)) (k : ExtKind) (free : List ExtKind) (out : Dec.ExtsOut) (st : LSt)
    (h : LChainRel b src base (o + len) (got ++ [(k, sub b o len)]) out
      (evalOnL (LReads.extsLoop (Dec.memOf b o) free (got ++ [(k, sub b o len)])) st (b.drop (o + len)))) :
    LChainRel b src base o got out
      (shiftReadL len (evalOnL (LReads.extsLoop (bAt (sub b o len) 0) free (got ++ [(k, sub b o len)])) st
        (b.drop (o + len)))) := by
  rw [bAt_sub_zero b o len hlen]
  exact LChainRel.lift b src base o len got k out _ h

theorem LimWindow.lenErr {b : Bytes} {base l0 o l : Nat} {st : LSt} (h : LimWindow b base l0 o l st) {lay : String}
    {le : LenErr} (hle : LimitErr st lay le) (e : Dec.LenError) (hlen : e.len = l)
    (hlay : lay = layerText e.layer) (hoff : o = base + e.off)
    (hreq : 8 ≤ e.len ∨ e.layer ≠ .ipv6ExtHeader → le.required = e.req) :
    LenErrAgrees st.src base e le := by
  obtain ⟨e1, e2, e3, e4, e5⟩ := hle
  exact ⟨e1.trans (h.lim.trans hlen.symm), e2, e3.trans hlay, by rw [e4, h.off]; exact hoff, e5, hreq⟩

theorem lchain_rel (base l0 nh : Nat) (frag : Bool) (sl : Dec.ExtSlots) (o l : Nat) :
    ∀ (free : List ExtKind) (got : List (ExtKind × Bytes)) (st : LSt),
      FreeInvW free sl → GotMatch b got sl → LimWindow b base l0 o l st →
      LChainRel b st.src base o got (Dec.extsLoop (Dec.memOf b) true l0 nh frag sl o l)
        (evalOnL (LReads.extsLoop nh free got) st (b.drop o)) := by
  fun_induction Dec.extsLoop (Dec.memOf b) true l0 nh frag sl o l
  all_goals intro free got st hi hg hv
  case case1 frag sl o l =>
    rw [lextsLoop_zero]
    simp only [LChainRel, Dec.extsFail, evalOnL]
  case case2 nh frag sl o l h0 hn hfit =>
    rw [lextsLoop_stop hi h0 (by rw [extSlotFor_raw sl hn, if_neg (by simpa using hfit.2)])]
    exact LChainRel.done b _ base o l got nh frag sl st hg
  case case3 nh frag sl o l h0 hn hfit h8 =>
    rw [(lextsLoop_go hi h0 (by rw [extSlotFor_raw sl hn, if_pos (by simpa using hfit)]) got).1, lextProg_rawKind]
    obtain ⟨le, c, st', he, hle, hreq⟩ := (lrawext_step _ hv _ rfl).1 (by omega)
    exact .lenErr (by rw [he]) (hv.lenErr hle _ rfl rfl hv.base fun h =>
      h.elim (fun h => absurd h (Nat.not_le_of_lt h8)) (absurd rfl))
  case case4 nh frag sl o l h0 hn hfit h8 hl =>
    rw [(lextsLoop_go hi h0 (by rw [extSlotFor_raw sl hn, if_pos (by simpa using hfit)]) got).1, lextProg_rawKind]
    obtain ⟨le, c, st', he, hle, hreq⟩ := (lrawext_step _ hv _ rfl).1 hl
    exact .lenErr (by rw [he]) (hv.lenErr hle _ rfl rfl hv.base fun _ => hreq (by omega))
  case case5 nh frag sl o l h0 hn hfit h8 hl ih =>
    obtain ⟨he, hk, hnone⟩ := lextsLoop_go hi h0 (by rw [extSlotFor_raw sl hn, if_pos (by simpa using hfit)]) got
    rw [he, lextProg_rawKind, (lrawext_step _ hv _ rfl).2 (by omega)]
    exact .step b st.src base o _ (by omega) got _ _ _ _ (ih _ _ _
      (hi.store _ _ (slotOf_rawStore nh hn sl _))
      (hg.store (rawKind nh sl) ⟨o, _⟩ hnone (slotOf_rawStore nh hn sl _)) (hv.after _ _ (by omega)))
  case case6 frag sl o l hfs _ _ =>
    rw [lextsLoop_stop hi (by decide) (by simp [extSlotFor, slotFilled, slotOf, hfs.2])]
    exact LChainRel.done b _ base o l got 44 frag sl st hg
  case case7 frag sl o l hfs h8 _ _ =>
    have hn : sl.frag = none := by simpa using hfs
    rw [(lextsLoop_go hi (n := 44) (by decide) (k := .frag) (by simp [extSlotFor, slotFilled, slotOf, hn]) got).1, show lextProg .frag = LReads.ipv6frag from rfl]
    obtain ⟨le, c, st', he, hle, hreq⟩ := (lfrag_step _ hv).1 h8
    exact .lenErr (by rw [he]) (hv.lenErr hle _ rfl rfl hv.base fun _ => hreq)
  case case8 frag sl o l hfs h8 _ _ ih =>
    have hnone : sl.frag = none := by simpa using hfs
    rw [(lextsLoop_go hi (n := 44) (by decide) (k := .frag) (by simp [extSlotFor, slotFilled, slotOf, hnone]) got).1, show lextProg .frag = LReads.ipv6frag from rfl,
      (lfrag_step _ hv).2 (by omega)]
    exact .step b st.src base o 8 (by omega) got _ _ _ _ (ih _ _ _
      (hi.store _ _ (slotOf_fragStore sl _)) (hg.store .frag ⟨o, 8⟩ hnone (slotOf_fragStore sl _))
      (hv.after _ _ (by omega)))
  case case9 frag sl o l has _ _ _ =>
    rw [lextsLoop_stop hi (by decide) (by simp [extSlotFor, slotFilled, slotOf, has.2])]
    exact LChainRel.done b _ base o l got 51 frag sl st hg
  case case10 frag sl o l has h12 _ _ _ =>
    have hn : sl.auth = none := by simpa using has
    rw [(lextsLoop_go hi (n := 51) (by decide) (k := .auth) (by simp [extSlotFor, slotFilled, slotOf, hn]) got).1, show lextProg .auth = LReads.auth from rfl]
    obtain ⟨le, c, st', he, hle, hreq⟩ := (lauth_step _ hv _ rfl).1 h12
    exact .lenErr (by rw [he]) (hv.lenErr hle _ rfl rfl hv.base fun _ => hreq)
  case case11 frag sl o l has h12 hz _ _ _ =>
    have hn : sl.auth = none := by simpa using has
    rw [(lextsLoop_go hi (n := 51) (by decide) (k := .auth) (by simp [extSlotFor, slotFilled, slotOf, hn]) got).1, show lextProg .auth = LReads.auth from rfl]
    obtain ⟨st', he⟩ := (lauth_step _ hv _ rfl).2.1 (by omega) hz
    rw [he]
    simp only [LChainRel, Dec.extsFail]
  case case12 frag sl o l has h12 hz hl _ _ _ =>
    have hn : sl.auth = none := by simpa using has
    rw [(lextsLoop_go hi (n := 51) (by decide) (k := .auth) (by simp [extSlotFor, slotFilled, slotOf, hn]) got).1, show lextProg .auth = LReads.auth from rfl]
    obtain ⟨le, c, st', he, hle, hreq⟩ := (lauth_step _ hv _ rfl).2.2.1 (by omega) hz hl
    exact .lenErr (by rw [he]) (hv.lenErr hle _ rfl rfl hv.base fun _ => hreq)
  case case13 frag sl o l has h12 hz hl _ _ _ ih =>
    have hnone : sl.auth = none := by simpa using has
    rw [(lextsLoop_go hi (n := 51) (by decide) (k := .auth) (by simp [extSlotFor, slotFilled, slotOf, hnone]) got).1, show lextProg .auth = LReads.auth from rfl,
      (lauth_step _ hv _ rfl).2.2.2 (by omega) hz (by omega)]
    exact .step b st.src base o _ (by omega) got _ _ _ _ (ih _ _ _
      (hi.store _ _ (slotOf_authStore sl _)) (hg.store .auth ⟨o, _⟩ hnone (slotOf_authStore sl _))
      (hv.after _ _ (by omega)))
  case case14 nh frag sl o l h0 hn h44 h51 =>
    rw [lextsLoop_stop hi h0 (by
      simp only [extSlotFor, if_neg (fun h => hn (.inl h)), if_neg (fun h => hn (.inr h)), if_neg h44, if_neg h51])]
    exact LChainRel.done b _ base o l got nh frag sl st hg

theorem gotMatch_nil : GotMatch b [] Dec.ExtSlots.none := by
  intro k; cases k <;> rfl

/-- `Ipv6Extensions::read_limited` against `Ipv6Extensions::from_slice` (struct mode) on the window
    `(o, l)` of `b`: the optional hop-by-hop header, then the loop -/
theorem lwalk_rel (nh o l : Nat) (st : LSt) (hv : LimWindow b o l o l st) :
    LChainRel b st.src o o [] (Dec.extsWalk (Dec.memOf b) true nh o l)
      (evalOnL (LReads.ipv6exts nh) st (b.drop o)) := by
  unfold Dec.extsWalk LReads.ipv6exts
  by_cases hs : nh = 0
  · subst hs
    simp only [if_true]
    unfold Dec.rawExtFromSlice
    have hoff : o = o + 0 := rfl
    by_cases h8 : l < 8
    · simp only [if_pos h8]
      obtain ⟨le, c, st', he, hle, hreq⟩ := (lrawext_step _ hv _ rfl).1 (by omega)
      exact ⟨le, by rw [he], hv.lenErr hle _ rfl rfl hoff fun h =>
        h.elim (fun h => absurd h (Nat.not_le_of_lt h8)) (absurd rfl)⟩
    · simp only [if_neg h8]
      by_cases hl : l < (Dec.memOf b (o + 1) + 1) * 8
      · simp only [if_pos hl]
        obtain ⟨le, c, st', he, hle, hreq⟩ := (lrawext_step _ hv _ rfl).1 hl
        exact ⟨le, by rw [he], hv.lenErr hle _ rfl rfl hoff fun _ => hreq (by omega)⟩
      · simp only [if_neg hl]
        rw [(lrawext_step _ hv _ rfl).2 (by omega)]
        exact .step b st.src o o _ (by omega) [] .hbh _ _ _ (lchain_rel b o l _ false _ _ _ _ _ _
          (FreeInvW.init _) (fun k => by cases k <;> rfl) (hv.after _ _ (by omega)))
  · simp only [if_neg hs]
    exact lchain_rel b o l nh false _ o l _ [] st (FreeInvW.init none) (gotMatch_nil b) hv

theorem liftErr_run {α : Type} (p : LProg α) (pre b : Bytes) (m : Nat) (st : LSt) (hm : m ≤ b.length)
    (hst : st.readLen ≤ st.maxLen) :
    liftErr (p.run (limitedAdv pre b m st)) =
      (readerAdv pre b (m + (evalOnL p st (b.drop m)).2.1), (evalOnL p st (b.drop m)).1) := by
  rw [runL_adv p pre b m st hm hst]; rfl

/-- bookkeeping of the `LimitedReader` `IpHeaders::read` creates behind an IPv4 / IPv6 header -/
def st4 (hl tl : Nat) : LSt :=
  { maxLen := tl - hl, readLen := 0, layerOffset := hl, layer := "Ipv4Header", src := "Ipv4HeaderTotalLen" }
def st6 (pl : Nat) : LSt :=
  { maxLen := pl, readLen := 0, layerOffset := 40, layer := "Ipv6Header", src := "Ipv6HeaderPayloadLen" }

theorem ipHeadersRead_empty (h : b.length < 1) :
    ipHeadersRead (readerAt pre b) = (readerAdv pre b b.length, .error (.io .unexpectedEof)) := by
  unfold ipHeadersRead readerAt
  rw [readExact_adv pre b 0 1 (Nat.zero_le _), if_neg (by simp only [List.drop_zero]; omega)]

theorem ipHeadersRead_first (h : 1 ≤ b.length) :
    (readerAdv pre b 0).readExact 1 = (readerAdv pre b 1, .ok (b.take 1)) := by
  rw [readExact_adv pre b 0 1 (Nat.zero_le _), if_pos (by simp only [List.drop_zero]; omega)]
  simp

theorem ipHeadersRead_fail (h : 1 ≤ b.length) (s : String)
    (hp : ipHeadersPlan (b.take 1) = .fail s) :
    ipHeadersRead (readerAt pre b) = (readerAdv pre b 1, .error (.other s)) := by
  unfold ipHeadersRead readerAt
  rw [ipHeadersRead_first pre b h]
  simp only [hp]

theorem ipHeadersRead_v4_short (h : 1 ≤ b.length) (rest : Nat)
    (hp : ipHeadersPlan (b.take 1) = .v4 rest) (hs : b.length < 1 + rest) :
    ipHeadersRead (readerAt pre b) = (readerAdv pre b b.length, .error (.io .unexpectedEof)) := by
  unfold ipHeadersRead readerAt
  rw [ipHeadersRead_first pre b h]
  simp only [hp]
  rw [readExact_adv pre b 1 rest h, if_neg (by simp only [List.length_drop]; omega)]

theorem ipHeadersRead_v4_total (h : 1 ≤ b.length) (rest : Nat)
    (hp : ipHeadersPlan (b.take 1) = .v4 rest) (hs : 1 + rest ≤ b.length) (ht : be16 b 2 < 1 + rest)
    (h4 : 4 ≤ 1 + rest) :
    ipHeadersRead (readerAt pre b) =
      (readerAdv pre b (1 + rest),
        .error (.len { required := 1 + rest, len := be16 b 2, src := "Ipv4HeaderTotalLen",
                       layer := "Ipv4Packet", off := 0 })) := by
  unfold ipHeadersRead readerAt
  rw [ipHeadersRead_first pre b h]
  simp only [hp]
  rw [readExact_adv pre b 1 rest h, if_pos (by simp only [List.length_drop]; omega)]
  simp only [← List.take_add]
  rw [be16_take b (1 + rest) 2 (by omega), if_pos (by omega)]
  simp only [Nat.add_comm rest 1]

theorem ipHeadersRead_v4_exts (h : 1 ≤ b.length) (rest : Nat)
    (hp : ipHeadersPlan (b.take 1) = .v4 rest) (hs : 1 + rest ≤ b.length) (ht : ¬ be16 b 2 < 1 + rest)
    (h10 : 10 ≤ 1 + rest) :
    ipHeadersRead (readerAt pre b) =
      (readerAdv pre b (1 + rest +
          (evalOnL (LReads.ipv4exts (bAt b 9)) (st4 (1 + rest) (be16 b 2)) (b.drop (1 + rest))).2.1),
        match (evalOnL (LReads.ipv4exts (bAt b 9)) (st4 (1 + rest) (be16 b 2)) (b.drop (1 + rest))).1 with
        | .ok (a, next) => .ok (.v4 (b.take (1 + rest)) a next)
        | .error e => .error e) := by
  unfold ipHeadersRead readerAt
  rw [ipHeadersRead_first pre b h]
  simp only [hp]
  rw [readExact_adv pre b 1 rest h, if_pos (by simp only [List.length_drop]; omega)]
  simp only [← List.take_add]
  rw [be16_take b (1 + rest) 2 (by omega), bAt_take b (1 + rest) 9 (by omega), if_neg (by omega)]
  have hnew : Limited.new (readerAdv pre b (1 + rest)) (be16 b 2 - (rest + 1)) "Ipv4HeaderTotalLen" (rest + 1)
      "Ipv4Header" = limitedAdv pre b (1 + rest) (st4 (1 + rest) (be16 b 2)) := by
    simp only [Limited.new, limitedAdv, st4, Nat.add_comm rest 1]
  rw [hnew, liftErr_run _ pre b (1 + rest) _ hs (by simp [st4])]
  cases (evalOnL (LReads.ipv4exts (bAt b 9)) (st4 (1 + rest) (be16 b 2)) (b.drop (1 + rest))).1 with
  | ok x => rfl
  | error e => rfl

theorem ipHeadersRead_v6_short (h : 1 ≤ b.length)
    (hp : ipHeadersPlan (b.take 1) = .v6) (hs : b.length < 40) :
    ipHeadersRead (readerAt pre b) = (readerAdv pre b b.length, .error (.io .unexpectedEof)) := by
  unfold ipHeadersRead readerAt
  rw [ipHeadersRead_first pre b h]
  simp only [hp]
  rw [readExact_adv pre b 1 39 h, if_neg (by simp only [List.length_drop]; omega)]

theorem ipHeadersRead_v6_exts (h : 1 ≤ b.length)
    (hp : ipHeadersPlan (b.take 1) = .v6) (hs : 40 ≤ b.length) :
    ipHeadersRead (readerAt pre b) =
      (readerAdv pre b (40 + (evalOnL (LReads.ipv6exts (bAt b 6)) (st6 (be16 b 4)) (b.drop 40)).2.1),
        match (evalOnL (LReads.ipv6exts (bAt b 6)) (st6 (be16 b 4)) (b.drop 40)).1 with
        | .ok e => .ok (.v6 (b.take 40) e)
        | .error e => .error e) := by
  unfold ipHeadersRead readerAt
  rw [ipHeadersRead_first pre b h]
  simp only [hp]
  rw [readExact_adv pre b 1 39 h, if_pos (by simp only [List.length_drop]; omega)]
  simp only [← List.take_add]
  rw [be16_take b (1 + 39) 4 (by omega), bAt_take b (1 + 39) 6 (by omega)]
  have hnew : Limited.new (readerAdv pre b (1 + 39)) (be16 b 4) "Ipv6HeaderPayloadLen" 40 "Ipv6Header" =
      limitedAdv pre b 40 (st6 (be16 b 4)) := rfl
  rw [hnew, liftErr_run _ pre b 40 _ hs (by simp [st6])]
  cases (evalOnL (LReads.ipv6exts (bAt b 6)) (st6 (be16 b 4)) (b.drop 40)).1 with
  | ok x => rfl
  | error e => rfl

/-- the slice holds the packet its IP header announces, and the announced length is what bounds the
    payload: the two rules of `IpHeaders::from_slice` that need the end of the slice (total_len /
    payload_length against the slice length; payload_length 0 = "to the end of the slice") do not fire -/
def HoldsAnnounced (b : Bytes) : Prop :=
  (bAt b 0 / 16 = 4 → be16 b 2 ≤ b.length) ∧
  (bAt b 0 / 16 = 6 → 40 + be16 b 4 ≤ b.length ∧ ¬ (be16 b 4 = 0 ∧ 40 < b.length))

instance (b : Bytes) : Decidable (HoldsAnnounced b) := by unfold HoldsAnnounced; infer_instance

/-- what `IpHeaders::read` returned against the struct-mode result of `IpHeaders::from_slice` (windows of
    `b`): same header bytes, same extension headers in the same slots, same next ip number -/
def IpViewMatch (b : Bytes) (r : Dec.IpR) : IpRead → Prop
  | .v4 h a next =>
    r.v4 = true ∧ h = sub b r.hdr.o r.hdr.l ∧ a = r.auth.map (fun w => sub b w.o w.l) ∧ next = r.pl.num
  | .v6 h e =>
    r.v4 = false ∧ h = sub b r.hdr.o r.hdr.l ∧ e.next = r.pl.num ∧ GotMatch b e.got r.slots ∧
      gathered e.got = sub b 40 (r.pl.w.o - 40)

/-- the error of `IpHeaders::from_slice` against the error of `IpHeaders::read` -/
def IpErrAgrees (b : Bytes) : Dec.PErr → LErr → Prop
  | .len e, le =>
    if e.src = .slice then
      -- the header itself is cut by the end of the slice: the reader runs dry - or, on fewer than 20
      -- bytes, has already seen the bad IHL in the first byte
      le = .io .unexpectedEof ∨ (b.length < 20 ∧ le = .other s!"err(ihl({bAt b 0 % 16}))")
    else ∃ l', le = .len l' ∧ LenErrAgrees (srcText e.src) 0 e l'
  | .ipVersion v, le => le = .other s!"err(version({v}))"
  | .ipIhl i, le => le = .other s!"err(ihl({i}))"
  | .ipv4ExtsZeroLen, le => le = .other "err(zeropayloadlen)"
  | .ipv6ExtsAuthZeroLen, le => le = .other "err(zeropayloadlen)"
  | .ipv6HopByHop, le => le = .other "err(hbhnotatstart)"
  | _, _ => False

theorem g16_memOf (b : Bytes) (i : Nat) : Dec.g16 (Dec.memOf b) i = be16 b i := rfl

theorem and15' (x : Nat) : x &&& 0xf = x % 16 := Nat.and_two_pow_sub_one_eq_mod x 4
theorem shr4 (x : Nat) : x >>> 4 = x / 16 := Nat.shiftRight_eq_div_pow x 4

theorem plan_take :
    ipHeadersPlan (b.take 1) =
      if bAt b 0 / 16 = 4 then
        (if bAt b 0 % 16 < 5 then .fail s!"err(ihl({bAt b 0 % 16}))" else .v4 (bAt b 0 % 16 * 4 - 1))
      else if bAt b 0 / 16 = 6 then .v6
      else .fail s!"err(version({bAt b 0 / 16}))" := by
  unfold ipHeadersPlan
  simp only [bAt_take b 1 0 (by omega), and15', shr4]

/-- IPv4: the part behind the header (`hl ≤ total_len ≤ slice length`) -/
theorem ipv4_after (hl : Nat) (h20 : 20 ≤ hl) (hfit : hl ≤ b.length)
    (hp : ipHeadersPlan (b.take 1) = .v4 (hl - 1)) (htl : be16 b 2 ≤ b.length) :
    Table (Dec.ipv4AfterHeaderStrict (Dec.memOf b) 0 b.length hl)
      (fun r => ∃ v, ipHeadersRead (readerAt pre b) = (readerAdv pre b r.pl.w.o, .ok v) ∧ IpViewMatch b r v)
      (fun e => ∃ n le, ipHeadersRead (readerAt pre b) = (readerAdv pre b n, .error le) ∧ IpErrAgrees b e le) := by
  have h1 : 1 ≤ b.length := by omega
  have hrest : 1 + (hl - 1) = hl := by omega
  unfold Dec.ipv4AfterHeaderStrict Dec.ipv4BoundStrict
  simp only [g16_memOf, Nat.zero_add]
  by_cases ht : be16 b 2 < hl
  · simp only [if_pos ht]
    have := ipHeadersRead_v4_total pre b h1 (hl - 1) hp (by omega) (by omega) (by omega)
    rw [hrest] at this
    refine ⟨_, _, this, ?_⟩
    simp only [IpErrAgrees, show ¬ (Dec.LenSource.ipv4HeaderTotalLen = Dec.LenSource.slice) by decide, if_false]
    exact ⟨_, rfl, rfl, rfl, rfl, rfl, ht, fun _ => rfl⟩
  · simp only [if_neg ht, if_neg (show ¬ b.length < be16 b 2 by omega)]
    have hr := ipHeadersRead_v4_exts pre b h1 (hl - 1) hp (by omega) (by omega) (by omega)
    rw [hrest] at hr
    have hproto : Dec.memOf b 9 = bAt b 9 := rfl
    rw [hproto]
    have hv : LimWindow b 0 (be16 b 2) hl (be16 b 2 - hl) (st4 hl (be16 b 2)) :=
      ⟨rfl, Nat.zero_le _, rfl, by omega, Nat.sub_le _ _, by omega⟩
    have hsrc : ∀ e : Dec.LenError,
        ¬ ((e.withSrc Dec.LenSource.ipv4HeaderTotalLen).addOffset hl).src = Dec.LenSource.slice := fun e => by
      simp [Dec.LenError.withSrc, Dec.LenError.addOffset]
    by_cases h51 : bAt b 9 = 51
    · simp only [if_pos h51]
      have hprog : LReads.ipv4exts (bAt b 9) =
          LReads.auth.bind fun g => .done (.ok (some g, bAt g 0)) := by
        unfold LReads.ipv4exts CodecNet.ipNumberAuth; rw [if_pos h51.symm]
      rw [hprog] at hr
      have hstep := lauth_step (fun g => (.done (.ok (some g, bAt g 0)) : LProg (Option Bytes × Nat))) hv _ rfl
      unfold Dec.ahFromSlice
      by_cases c12 : be16 b 2 - hl < 12
      · simp only [if_pos c12]
        obtain ⟨le, c, st', he, hle, hreq⟩ := hstep.1 c12
        rw [he] at hr
        refine ⟨_, _, hr, ?_⟩
        simp only [IpErrAgrees, if_neg (hsrc _)]
        exact ⟨le, rfl,
          hv.lenErr hle _ rfl rfl (by simp [Dec.LenError.withSrc, Dec.LenError.addOffset]) fun _ => hreq⟩
      · simp only [if_neg c12]
        by_cases cz : Dec.memOf b (hl + 1) < 1
        · simp only [if_pos cz]
          obtain ⟨st', he⟩ := hstep.2.1 (by omega) cz
          rw [he] at hr
          exact ⟨_, _, hr, rfl⟩
        · simp only [if_neg cz]
          by_cases cl : be16 b 2 - hl < (Dec.memOf b (hl + 1) + 2) * 4
          · simp only [if_pos cl]
            obtain ⟨le, c, st', he, hle, hreq⟩ := hstep.2.2.1 (by omega) cz cl
            rw [he] at hr
            refine ⟨_, _, hr, ?_⟩
            simp only [IpErrAgrees, if_neg (hsrc _)]
            exact ⟨le, rfl,
              hv.lenErr hle _ rfl rfl (by simp [Dec.LenError.withSrc, Dec.LenError.addOffset]) fun _ => hreq⟩
          · simp only [if_neg cl]
            rw [hstep.2.2.2 (by omega) cz (by omega)] at hr
            simp only [evalOnL, shiftReadL, Nat.add_zero] at hr
            refine ⟨_, hr, ?_⟩
            simp only [IpViewMatch, Dec.mkV4, sub_zero, Option.map_some, true_and]
            exact bAt_sub_zero b hl _ (by omega)
    · simp only [if_neg h51]
      have hprog : LReads.ipv4exts (bAt b 9) = .done (.ok (none, bAt b 9)) := by
        unfold LReads.ipv4exts CodecNet.ipNumberAuth; rw [if_neg (fun h => h51 h.symm)]
      rw [hprog] at hr
      simp only [evalOnL, Nat.add_zero] at hr
      refine ⟨_, hr, ?_⟩
      simp only [IpViewMatch, Dec.mkV4, sub_zero, Option.map_none, true_and]

theorem lenErrAgrees_wrap (src : Dec.LenSource) (e : Dec.LenError) (le : LenErr)
    (h : LenErrAgrees (srcText src) 40 e le) :
    LenErrAgrees (srcText ((e.withSrc src).addOffset 40).src) 0 ((e.withSrc src).addOffset 40) le := by
  obtain ⟨h1, h2, h3, h4, h5, h6⟩ := h
  exact ⟨h1, h2, h3, by simp only [Dec.LenError.withSrc, Dec.LenError.addOffset]; omega, h5, h6⟩

/-- IPv6: the part behind the header (`40 + payload_length ≤ slice length`, payload_length not the
    "to the end of the slice" zero) -/
theorem ipv6_after (h40 : 40 ≤ b.length) (hp : ipHeadersPlan (b.take 1) = .v6)
    (hpl : 40 + be16 b 4 ≤ b.length) (hz : ¬ (be16 b 4 = 0 ∧ 40 < b.length)) :
    Table (Dec.ipv6AfterHeaderStrict (Dec.memOf b) true 0 b.length)
      (fun r => ∃ v, ipHeadersRead (readerAt pre b) = (readerAdv pre b r.pl.w.o, .ok v) ∧ IpViewMatch b r v)
      (fun e => ∃ n le, ipHeadersRead (readerAt pre b) = (readerAdv pre b n, .error le) ∧ IpErrAgrees b e le) := by
  have h1 : 1 ≤ b.length := by omega
  have hr := ipHeadersRead_v6_exts pre b h1 hp h40
  have hw := lwalk_rel b (bAt b 6) 40 (be16 b 4) (st6 (be16 b 4))
    ⟨rfl, Nat.zero_le _, rfl, hpl, Nat.le_refl _, by omega⟩
  unfold Dec.ipv6AfterHeaderStrict Dec.ipv6BoundStrict
  simp only [g16_memOf, Nat.zero_add]
  rw [if_neg (by omega), if_neg (by omega)]
  simp only [Dec.ipv6ChainStrict, Dec.extsWalkStrict]
  have hnh : Dec.memOf b 6 = bAt b 6 := rfl
  simp only [Nat.zero_add, hnh]
  unfold LChainRel at hw
  cases hstop : (Dec.extsWalk (Dec.memOf b) true (bAt b 6) 40 (be16 b 4)).stop with
  | none =>
    rw [hstop] at hw
    obtain ⟨got', w1, w2, w3, w4⟩ := hw
    simp only
    rw [w1, w2] at hr
    refine ⟨_, hr, ?_⟩
    simp only [IpViewMatch, Dec.mkV6, sub_zero, if_true, true_and]
    refine ⟨w3, ?_⟩
    rw [w4, ← w2]
    simp [gathered]
  | some x =>
    obtain ⟨e, ly⟩ := x
    rw [hstop] at hw
    simp only
    cases e with
    | len e =>
      obtain ⟨le, w1, w2⟩ := hw
      rw [w1] at hr
      refine ⟨_, _, hr, ?_⟩
      have hsrc : ¬ (((e.withSrc Dec.LenSource.ipv6HeaderPayloadLen).addOffset 40).src = Dec.LenSource.slice) := by
        simp [Dec.LenError.withSrc, Dec.LenError.addOffset]
      simp only [IpErrAgrees, if_neg hsrc]
      exact ⟨le, rfl, lenErrAgrees_wrap _ e le w2⟩
    | hopByHop =>
      rw [hw] at hr
      exact ⟨_, _, hr, rfl⟩
    | authZero =>
      rw [hw] at hr
      exact ⟨_, _, hr, rfl⟩

/-- `IpHeaders::read` against `IpHeaders::from_slice` for every byte string that holds the packet its
    header announces -/
theorem ipheaders_table (hH : HoldsAnnounced b) :
    Table (Dec.ipHeadersFromSlice (Dec.memOf b) 0 b.length)
      (fun r => ∃ v, ipHeadersRead (readerAt pre b) = (readerAdv pre b r.pl.w.o, .ok v) ∧ IpViewMatch b r v)
      (fun e => ∃ n le, ipHeadersRead (readerAt pre b) = (readerAdv pre b n, .error le) ∧ IpErrAgrees b e le) := by
  have hg0 : Dec.memOf b 0 = bAt b 0 := rfl
  unfold Dec.ipHeadersFromSlice Dec.ipDispatchHeader
  simp only [hg0]
  by_cases h0 : b.length = 0
  · simp only [if_pos h0]
    refine ⟨_, _, ipHeadersRead_empty pre b (by omega), ?_⟩
    simp [IpErrAgrees]
  · simp only [if_neg h0]
    have h1 : 1 ≤ b.length := by omega
    have hplan := plan_take b
    by_cases hv4 : bAt b 0 / 16 = 4
    · simp only [if_pos hv4] at hplan ⊢
      by_cases hl20 : b.length < 20
      · simp only [hl20, and_self, if_true]
        by_cases hi : bAt b 0 % 16 < 5
        · rw [if_pos hi] at hplan
          refine ⟨_, _, ipHeadersRead_fail pre b h1 _ hplan, ?_⟩
          simp only [IpErrAgrees, if_true]
          exact .inr ⟨hl20, trivial⟩
        · rw [if_neg hi] at hplan
          refine ⟨_, _, ipHeadersRead_v4_short pre b h1 _ hplan (by omega), ?_⟩
          simp [IpErrAgrees]
      · simp only [hl20, and_false, if_false]
        by_cases hi : bAt b 0 % 16 < 5
        · rw [if_pos hi] at hplan
          simp only [if_pos hi]
          exact ⟨_, _, ipHeadersRead_fail pre b h1 _ hplan, rfl⟩
        · rw [if_neg hi] at hplan
          simp only [if_neg hi]
          by_cases hs : b.length < bAt b 0 % 16 * 4
          · simp only [if_pos hs]
            refine ⟨_, _, ipHeadersRead_v4_short pre b h1 _ hplan (by omega), ?_⟩
            simp [IpErrAgrees]
          · simp only [if_neg hs]
            exact ipv4_after pre b (bAt b 0 % 16 * 4) (by omega) (by omega) hplan (hH.1 hv4)
    · simp only [if_neg hv4] at hplan ⊢
      by_cases hv6 : bAt b 0 / 16 = 6
      · simp only [if_pos hv6] at hplan ⊢
        by_cases hl40 : b.length < 40
        · simp only [if_pos hl40]
          refine ⟨_, _, ipHeadersRead_v6_short pre b h1 hplan hl40, ?_⟩
          simp [IpErrAgrees]
        · simp only [if_neg hl40]
          exact ipv6_after pre b (by omega) hplan (hH.2 hv6).1 (hH.2 hv6).2
      · simp only [if_neg hv6] at hplan ⊢
        exact ⟨_, _, ipHeadersRead_fail pre b h1 _ hplan, rfl⟩

/-- a successful `IpHeaders::from_slice` already says that the slice holds the announced packet; what is
    left of the hypothesis is the IPv6 "payload_length 0 = to the end of the slice" rule -/
theorem holdsAnnounced_of_ok (r : Dec.IpR)
    (hd : Dec.ipHeadersFromSlice (Dec.memOf b) 0 b.length = .ok r)
    (hz : bAt b 0 / 16 = 6 → ¬ (be16 b 4 = 0 ∧ 40 < b.length)) : HoldsAnnounced b := by
  have hg0 : Dec.memOf b 0 = bAt b 0 := rfl
  unfold Dec.ipHeadersFromSlice Dec.ipDispatchHeader at hd
  simp only [hg0] at hd
  by_cases h0 : b.length = 0
  · simp only [if_pos h0] at hd; cases hd
  · simp only [if_neg h0] at hd
    refine ⟨fun hv4 => ?_, fun hv6 => ?_⟩
    · simp only [if_pos hv4] at hd
      by_cases hl20 : b.length < 20
      · simp only [hl20, and_self, if_true] at hd; cases hd
      · simp only [hl20, and_false, if_false] at hd
        by_cases hi : bAt b 0 % 16 < 5
        · simp only [if_pos hi] at hd; cases hd
        · simp only [if_neg hi] at hd
          by_cases hs : b.length < bAt b 0 % 16 * 4
          · simp only [if_pos hs] at hd; cases hd
          · simp only [if_neg hs] at hd
            unfold Dec.ipv4AfterHeaderStrict Dec.ipv4BoundStrict at hd
            simp only [g16_memOf, Nat.zero_add] at hd
            by_cases ht : be16 b 2 < bAt b 0 % 16 * 4
            · simp only [if_pos ht] at hd; cases hd
            · simp only [if_neg ht] at hd
              by_cases hl : b.length < be16 b 2
              · simp only [if_pos hl] at hd; cases hd
              · omega
    · have hv4 : ¬ bAt b 0 / 16 = 4 := by omega
      simp only [if_neg hv4, if_pos hv6] at hd
      by_cases hl40 : b.length < 40
      · simp only [if_pos hl40] at hd; cases hd
      · simp only [if_neg hl40] at hd
        refine ⟨?_, hz hv6⟩
        unfold Dec.ipv6AfterHeaderStrict Dec.ipv6BoundStrict at hd
        simp only [g16_memOf, Nat.zero_add] at hd
        have hz' := hz hv6
        rw [if_neg (by omega)] at hd
        by_cases hl : b.length < 40 + be16 b 4
        · simp only [if_pos hl] at hd; cases hd
        · omega

end LimitedReaders

end EpModel.Lemmas.ReadVsSlice
