import EpModel.Model.Codec.NetCommon
import EpModel.Lemmas.CodecLink
/-
  `Nat` bit operations on bounded values as arithmetic (`|` of disjoint parts is `+`, `&` with a mask
  is `%` or one binary digit), and two fields packed into one number as its digits `hi * m + lo`.
-/
namespace EpModel.Lemmas.CodecNet
open EpModel EpModel.CodecNet EpModel.Lemmas.Codec

theorem and_mask (x n : Nat) : x &&& (2 ^ n - 1) = x % 2 ^ n := Nat.and_two_pow_sub_one_eq_mod x n

theorem or_eq_add {a b : Nat} (i : Nat) (ha : a % 2 ^ i = 0) (hb : b < 2 ^ i) : a ||| b = a + b := by
  have h1 : a = (a / 2 ^ i) <<< i := by
    rw [Nat.shiftLeft_eq]
    have := Nat.div_add_mod a (2 ^ i)
    rw [ha] at this
    rw [Nat.mul_comm]; omega
  rw [h1, ← Nat.shiftLeft_add_eq_or_of_lt hb]

theorem and1 (x : Nat) : x &&& 1 = x % 2 := and_mask x 1
theorem and3 (x : Nat) : x &&& 3 = x % 4 := and_mask x 2
theorem and15 (x : Nat) : x &&& 15 = x % 16 := and_mask x 4
theorem and31 (x : Nat) : x &&& 31 = x % 32 := and_mask x 5
theorem and63 (x : Nat) : x &&& 63 = x % 64 := and_mask x 6
theorem and127 (x : Nat) : x &&& 127 = x % 128 := and_mask x 7

theorem and_pow2 (x k : Nat) : x &&& 2 ^ k = x / 2 ^ k % 2 * 2 ^ k := by
  apply Nat.eq_of_testBit_eq
  intro i
  have h2 : x / 2 ^ k % 2 = x / 2 ^ k % 2 ^ 1 := rfl
  rw [Nat.testBit_and, Nat.testBit_two_pow, Nat.testBit_mul_two_pow, h2, Nat.testBit_mod_two_pow,
    Nat.testBit_div_two_pow]
  by_cases h : k = i
  · subst h; simp
  · simp [h]; omega

theorem and64 (x : Nat) : x &&& 64 = x / 64 % 2 * 64 := and_pow2 x 6
theorem and32 (x : Nat) : x &&& 32 = x / 32 % 2 * 32 := and_pow2 x 5
theorem and249 : ∀ x : Nat, x < 256 → x &&& 249 = x / 8 * 8 + x % 2 := by decide +kernel

theorem pack_div {hi lo m : Nat} (h : lo < m) : (hi * m + lo) / m = hi := (mul_add_div_mod h).1

theorem pack_mod {hi lo m : Nat} (h : lo < m) : (hi * m + lo) % m = lo := by
  rw [(mul_add_div_mod h).2, Nat.mod_eq_of_lt h]

theorem pack_lt {hi lo m k : Nat} (hh : hi < k) (hl : lo < m) : hi * m + lo < k * m :=
  Nat.lt_of_lt_of_le (Nat.add_lt_add_left hl _) (by rw [← Nat.succ_mul]; exact Nat.mul_le_mul_right m hh)

theorem shl8_four (x : Nat) : shl8 x 4 = x % 16 * 16 := by
  unfold shl8; rw [Nat.shiftLeft_eq]; exact Nat.mul_mod_mul_right 16 x 16

theorem hi_lo16 {x : Nat} (h : x < 65536) : x / 256 % 256 * 256 + x % 256 = x := by
  rw [Nat.mod_eq_of_lt (Nat.div_lt_of_lt_mul h), Nat.div_add_mod']

theorem digits3 (x : Nat) : x / 65536 * 65536 + x / 256 % 256 * 256 + x % 256 = x := by omega
theorem digits3_hi {a b c : Nat} (hb : b < 256) (hc : c < 256) : (a * 65536 + b * 256 + c) / 65536 = a := by
  omega
theorem digits3_mid {a b c : Nat} (hb : b < 256) (hc : c < 256) :
    (a * 65536 + b * 256 + c) / 256 % 256 = b := by omega
theorem digits3_lo {a b c : Nat} (hc : c < 256) : (a * 65536 + b * 256 + c) % 256 = c := by omega

theorem u8_eq_of {n : Nat} {x : UInt8} (h : n % 256 = x.toNat) : u8 n = x := by
  apply UInt8.toNat_inj.mp; rw [u8_toNat]; exact h

theorem u8_hi_lo (x y : UInt8) :
    u8 ((x.toNat * 256 + y.toNat) / 256) = x ∧ u8 (x.toNat * 256 + y.toNat) = y :=
  ⟨u8_eq_of (by rw [pack_div y.toNat_lt, Nat.mod_eq_of_lt x.toNat_lt]),
    u8_eq_of (by rw [Nat.mul_add_mod_self_right, Nat.mod_eq_of_lt y.toNat_lt])⟩

end EpModel.Lemmas.CodecNet
