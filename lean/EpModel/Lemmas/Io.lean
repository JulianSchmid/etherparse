import EpModel.Model.Io
/- helper lemmas for C16: what `read_exact` of the failing reader returns, read programs against a
   failing and a never failing reader, the `LimitedReader` invariant, the two slice writers -/
namespace EpModel.Lemmas.Io
open EpModel EpModel.Io

theorem readExact_zero (r : Reader) : r.readExact 0 = (r, .ok []) := by simp [Reader.readExact]

theorem readExact_ok (r : Reader) (n : Nat) (h : n ≠ 0) (h2 : r.pos + n ≤ r.limit) :
    r.readExact n = ({ data := r.data, pos := r.pos + n, failAt := r.failAt }, .ok (sub r.data r.pos n)) := by
  simp [Reader.readExact, h, h2]

theorem readExact_err (r : Reader) (n : Nat) (h : n ≠ 0) (h2 : ¬ r.pos + n ≤ r.limit) :
    r.readExact n = ({ data := r.data, pos := max r.pos r.limit, failAt := r.failAt }, .error r.dryError) := by
  simp [Reader.readExact, h, h2]

theorem readExact_cases (r : Reader) (n : Nat) :
    (r.readExact n = (r, .ok []) ∧ n = 0) ∨
    (n ≠ 0 ∧ r.pos + n ≤ r.limit ∧
      r.readExact n = ({ data := r.data, pos := r.pos + n, failAt := r.failAt }, .ok (sub r.data r.pos n))) ∨
    (n ≠ 0 ∧ ¬ r.pos + n ≤ r.limit ∧
      r.readExact n = ({ data := r.data, pos := max r.pos r.limit, failAt := r.failAt }, .error r.dryError)) := by
  by_cases h : n = 0
  · left; subst h; exact ⟨readExact_zero r, rfl⟩
  · by_cases h2 : r.pos + n ≤ r.limit
    · right; left; exact ⟨h, h2, readExact_ok r n h h2⟩
    · right; right; exact ⟨h, h2, readExact_err r n h h2⟩

theorem readExact_ok_inv {r r' : Reader} {n : Nat} {b : Bytes} (h : r.readExact n = (r', .ok b)) :
    r'.limit = r.limit ∧ r'.pos = r.pos + n ∧ (n ≠ 0 ∨ r.pos ≤ r.limit → r'.pos ≤ r'.limit) := by
  unfold Reader.readExact at h
  split at h
  · next hn => cases h; exact ⟨rfl, by rw [hn]; rfl, fun hh => hh.resolve_left (fun h0 => h0 hn)⟩
  · split at h
    · cases h; exact ⟨rfl, rfl, fun _ => ‹_›⟩
    · cases h

theorem readExact_err_inv {r r' : Reader} {n : Nat} {e : IoError} (h : r.readExact n = (r', .error e)) :
    r'.limit = r.limit ∧ r'.pos = max r.pos r.limit ∧ r.limit < r.pos + n := by
  unfold Reader.readExact at h
  split at h
  · cases h
  · split at h
    · cases h
    · cases h; exact ⟨rfl, rfl, Nat.lt_of_not_le ‹_›⟩

theorem readExact_same (r : Reader) (n : Nat) :
    (r.readExact n).1.data = r.data ∧ (r.readExact n).1.failAt = r.failAt ∧
    (r.readExact n).1.limit = r.limit ∧ r.pos ≤ (r.readExact n).1.pos ∧
    (r.pos ≤ r.limit → (r.readExact n).1.pos ≤ r.limit) := by
  rcases readExact_cases r n with ⟨h, _⟩ | ⟨_, h2, h⟩ | ⟨_, h2, h⟩
  · rw [h]
    exact ⟨rfl, rfl, rfl, Nat.le_refl _, id⟩
  · rw [h]
    exact ⟨rfl, rfl, rfl, Nat.le_add_right _ _, fun _ => h2⟩
  · rw [h]
    exact ⟨rfl, rfl, rfl, Nat.le_max_left _ _, fun hp => Nat.max_le.2 ⟨hp, Nat.le_refl _⟩⟩

theorem run_same {α : Type} (p : RProg α) (r : Reader) :
    (p.run r).1.data = r.data ∧ (p.run r).1.failAt = r.failAt ∧ r.pos ≤ (p.run r).1.pos ∧
    (r.pos ≤ r.limit → (p.run r).1.pos ≤ r.limit) := by
  induction p generalizing r with
  | done res => cases res <;> simp [RProg.run]
  | read n k ih =>
    have hs := readExact_same r n
    simp only [RProg.run]
    cases h : r.readExact n with
    | mk r' res =>
      rw [h] at hs
      simp only at hs
      obtain ⟨h1, h2, h3, h4, h5⟩ := hs
      cases res with
      | error e => simp only; exact ⟨h1, h2, h4, h5⟩
      | ok b =>
        simp only
        obtain ⟨i1, i2, i3, i4⟩ := ih b r'
        refine ⟨i1.trans h1, i2.trans h2, Nat.le_trans h4 i3, ?_⟩
        intro hl
        have := i4 (by rw [h3]; exact h5 hl)
        rw [h3] at this; exact this

theorem run_compare {α : Type} (p : RProg α) (data : Bytes) (k pos : Nat)
    (hk : pos ≤ k) (hl : pos ≤ data.length) :
    (k < (p.run { data := data, pos := pos, failAt := none }).1.pos →
      (p.run { data := data, pos := pos, failAt := some k }).2 = .error (.io .injected) ∧
      (p.run { data := data, pos := pos, failAt := some k }).1.pos = k) ∧
    ((p.run { data := data, pos := pos, failAt := none }).1.pos ≤ k →
      (∀ e, (p.run { data := data, pos := pos, failAt := none }).2 ≠ .error (.io e)) →
      (p.run { data := data, pos := pos, failAt := some k }).2 =
        (p.run { data := data, pos := pos, failAt := none }).2 ∧
      (p.run { data := data, pos := pos, failAt := some k }).1.pos =
        (p.run { data := data, pos := pos, failAt := none }).1.pos) := by
  induction p generalizing pos with
  | done res => cases res <;> simp [RProg.run] <;> omega
  | read n kont ih =>
    by_cases hn : n = 0
    · subst hn
      simp only [RProg.run, readExact_zero]
      exact ih [] pos hk hl
    · by_cases h1 : pos + n ≤ min k data.length
      · have h1' : pos + n ≤ data.length := by omega
        simp only [RProg.run, readExact_ok ⟨data, pos, none⟩ n hn h1', readExact_ok ⟨data, pos, some k⟩ n hn h1]
        exact ih _ (pos + n) (by omega) h1'
      · by_cases h2 : pos + n ≤ data.length
        · -- the unlimited reader goes on, the failing one fails here
          have hkk : k < pos + n := by omega
          simp only [RProg.run, readExact_ok ⟨data, pos, none⟩ n hn h2, readExact_err ⟨data, pos, some k⟩ n hn h1,
            Reader.limit, Reader.dryError]
          have hm := (run_same (kont (sub data pos n))
            { data := data, pos := pos + n, failAt := none }).2.2.1
          simp only at hm
          have hkl : k ≤ data.length := by omega
          refine ⟨fun _ => ⟨by simp [hkl], by omega⟩, fun h => by omega⟩
        · simp only [RProg.run, readExact_err ⟨data, pos, none⟩ n hn h2, readExact_err ⟨data, pos, some k⟩ n hn h1,
            Reader.limit, Reader.dryError]
          refine ⟨fun h => ?_, fun _ h => absurd rfl (h .unexpectedEof)⟩
          have hkl : k ≤ data.length := by omega
          exact ⟨by simp [hkl], by omega⟩

/-- the invariant of a `LimitedReader` created with limit `max0` over a reader at position `p0`. -/
structure LInv (max0 p0 : Nat) (l : Limited) : Prop where
  noPanic : l.panicked = false
  readLe : l.readLen ≤ l.maxLen
  posLe : l.inner.pos ≤ l.inner.limit
  p0Le : p0 ≤ l.inner.pos
  budget : (l.inner.pos - p0) + (l.maxLen - l.readLen) ≤ max0 ∨
    (l.inner.pos = l.inner.limit ∧ l.inner.pos - p0 ≤ max0)

theorem LInv.new (inner : Reader) (h : inner.pos ≤ inner.limit) (max0 : Nat) (src : String)
    (off : Nat) (layer : String) : LInv max0 inner.pos (Limited.new inner max0 src off layer) := by
  refine ⟨rfl, ?_, h, Nat.le_refl _, ?_⟩ <;> simp [Limited.new]

theorem LInv.pulled {max0 p0 : Nat} {l : Limited} (h : LInv max0 p0 l) : l.inner.pos - p0 ≤ max0 := by
  rcases h.budget with hb | hb <;> omega

theorem startLayer_inv {max0 p0 : Nat} {l : Limited} (h : LInv max0 p0 l) (layer : String) :
    LInv max0 p0 (l.startLayer layer) := by
  obtain ⟨h1, h2, h3, h4, h5⟩ := h
  unfold Limited.startLayer
  rw [if_pos h2]
  refine ⟨h1, by simp, h3, h4, ?_⟩
  simp only
  rcases h5 with hb | hb
  · left; omega
  · right; exact hb

/-- `n` bytes move from the budget to the bytes pulled -/
theorem budget_shift {maxLen readLen n pos p0 : Nat} (hn : n ≤ maxLen - readLen) (h4 : p0 ≤ pos) :
    pos + n - p0 + (maxLen - (readLen + n)) = pos - p0 + (maxLen - readLen) := by
  rw [Nat.sub_add_eq, Nat.add_comm pos n, Nat.add_sub_assoc h4, Nat.add_comm n, Nat.add_assoc,
    Nat.add_sub_cancel' hn]

theorem readExact_inv {max0 p0 : Nat} {l : Limited} (h : LInv max0 p0 l) (n : Nat) :
    LInv max0 p0 (l.readExact n).1 ∧ (l.readExact n).2 ≠ .error .panic := by
  unfold Limited.readExact
  rw [if_neg (Nat.not_lt.2 h.readLe)]
  split
  · exact ⟨h, nofun⟩
  · rename_i hn
    have hb := h.budget
    have h4 := h.p0Le
    split
    · rename_i r' b he
      obtain ⟨hl, hp, hq⟩ := readExact_ok_inv he
      refine ⟨⟨h.noPanic, ?_, hq (Or.inr h.posLe), ?_, ?_⟩, nofun⟩
      · show l.readLen + n ≤ l.maxLen
        have := h.readLe
        omega
      · show p0 ≤ r'.pos
        rw [hp]; exact Nat.le_trans h4 (Nat.le_add_right _ _)
      · show r'.pos - p0 + (l.maxLen - (l.readLen + n)) ≤ max0 ∨ r'.pos = r'.limit ∧ r'.pos - p0 ≤ max0
        rcases hb with hb | ⟨hb1, hb2⟩
        · left; rw [hp, budget_shift (Nat.le_of_not_lt hn) h4]; exact hb
        · -- the reader is dry: nothing was read
          have hle := hq (Or.inr h.posLe)
          have hn0 : n = 0 := by omega
          rw [hn0] at hp
          right; rw [hp, hl]; exact ⟨hb1, hb2⟩
    · rename_i r' e he
      obtain ⟨hl, hp, hlt⟩ := readExact_err_inv he
      have h3 := h.posLe
      have hpos : r'.pos = r'.limit := by rw [hp, hl]; exact Nat.max_eq_right h3
      refine ⟨⟨h.noPanic, h.readLe, Nat.le_of_eq hpos, ?_, Or.inr ⟨hpos, ?_⟩⟩, nofun⟩
      · show p0 ≤ r'.pos
        rw [hp]; exact Nat.le_trans h4 (Nat.le_max_left _ _)
      · show r'.pos - p0 ≤ max0
        rw [hpos, hl]
        rcases hb with hb | ⟨hb1, hb2⟩
        · generalize l.maxLen - l.readLen = budget at hn hb
          omega
        · rw [← hb1]; exact hb2

theorem lrun_inv {α : Type} (p : LProg α) {max0 p0 : Nat} {l : Limited} (h : LInv max0 p0 l) :
    LInv max0 p0 (p.run l).1 ∧ (p.run l).2 ≠ .error .panic := by
  induction p generalizing l with
  | done res => cases res <;> simp [LProg.run, h]
  | read n k ih =>
    have hr := readExact_inv h n
    simp only [LProg.run]
    cases hx : l.readExact n with
    | mk l' res =>
      rw [hx] at hr
      simp only at hr
      cases res with
      | error e => simp only; exact ⟨hr.1, fun hc => hr.2 (by cases hc; rfl)⟩
      | ok b => simp only; exact ih b hr.1
  | start layer k ih =>
    have hs := startLayer_inv h layer
    simp only [LProg.run]
    rw [if_neg (by rw [hs.noPanic]; simp)]
    exact ih hs

theorem headerWriteToSlice_spec (len : Nat) (layer : String) (bytes buf : Bytes) (hb : bytes.length = len) :
    (buf.length < len →
      headerWriteToSlice len layer bytes buf =
        (buf, .error { required := bytes.length, len := buf.length, layer := layer, off := 0 })) ∧
    (len ≤ buf.length →
      (headerWriteToSlice len layer bytes buf).1 = bytes ++ buf.drop len ∧
      (headerWriteToSlice len layer bytes buf).1.length = buf.length ∧
      (headerWriteToSlice len layer bytes buf).2 = .ok (buf.length - len)) := by
  unfold headerWriteToSlice
  refine ⟨fun h => by rw [if_pos h, hb], fun h => ?_⟩
  rw [if_neg (Nat.not_lt.2 h)]
  refine ⟨rfl, ?_, rfl⟩
  rw [List.length_append, List.length_drop, hb]
  omega

theorem writeAll_append (a c p : Bytes) :
    ({ buf := a ++ c, pos := a.length } : SliceWriter).writeAll p =
      if p.length ≤ c.length then
        ({ buf := a ++ p ++ c.drop p.length, pos := (a ++ p).length }, .ok ())
      else ({ buf := a ++ c, pos := a.length },
            .error { required := a.length + p.length, len := (a ++ c).length }) := by
  unfold SliceWriter.writeAll
  simp only [List.length_append, Nat.add_sub_cancel_left, Nat.le_add_right, true_and,
    List.take_left', List.drop_length_add_append]

theorem sliceParts_append (parts : List Bytes) (a c : Bytes) :
    ∃ w, w <+: parts.flatten ∧ w.length ≤ c.length ∧
      (sliceParts parts { buf := a ++ c, pos := a.length }).1 =
        { buf := a ++ w ++ c.drop w.length, pos := (a ++ w).length } ∧
      (match (sliceParts parts { buf := a ++ c, pos := a.length }).2 with
       | .ok () => w = parts.flatten
       | .error e => e.len = (a ++ c).length ∧ (a ++ c).length < e.required ∧
                     e.required ≤ a.length + parts.flatten.length) := by
  induction parts generalizing a c with
  | nil => exact ⟨[], List.prefix_refl _, Nat.zero_le _, by simp [sliceParts], rfl⟩
  | cons p ps ih =>
    unfold sliceParts
    rw [writeAll_append]
    by_cases hfit : p.length ≤ c.length
    · rw [if_pos hfit]
      obtain ⟨w, hw, hl, hb, hr⟩ := ih (a ++ p) (c.drop p.length)
      rw [List.length_drop] at hl
      refine ⟨p ++ w, (List.prefix_append_right_inj p).2 hw, by rw [List.length_append]; omega, ?_, ?_⟩
      · rw [hb, List.drop_drop, ← List.length_append, List.append_assoc a p w]
      · generalize (sliceParts ps { buf := a ++ p ++ c.drop p.length, pos := (a ++ p).length }).2 = res
          at hr ⊢
        cases res with
        | ok u => exact congrArg (p ++ ·) hr
        | error e =>
          simp only [List.length_append, List.length_drop, List.flatten_cons] at hr ⊢
          omega
    · rw [if_neg hfit]
      exact ⟨[], List.nil_prefix, Nat.zero_le _, by simp, rfl, by simp only [List.length_append]; omega,
        by simp only [List.flatten_cons, List.length_append]; omega⟩

end EpModel.Lemmas.Io
