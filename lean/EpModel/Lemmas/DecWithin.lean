import EpModel.Lemmas.DecLax
/- Every window handed out by the decode model lies inside the input (C01).  The lax decoders are
   treated directly; what a strict decoder accepts is a result of its lax twin (DecLax). -/
namespace EpModel.Lemmas.Dec
open EpModel EpModel.Dec

-- implicit in a lemma one of whose hypotheses mentions them; lemmas that other files call bind them explicitly
variable {g : Mem} {o l : Nat}

/-- window `w` lies inside the window `(o, l)` -/
def WIn (w : Win) (o l : Nat) : Prop := o ≤ w.o ∧ w.o + w.l ≤ o + l

theorem WIn.trans {w : Win} {o l O L : Nat} (h : WIn w o l) (hw : WIn ⟨o, l⟩ O L) : WIn w O L := by
  unfold WIn at *
  simp only at hw
  omega

theorem WIn.refl (o l : Nat) : WIn ⟨o, l⟩ o l := ⟨Nat.le_refl _, Nat.le_refl _⟩

theorem WIn.sub {o l a b : Nat} (h : a + b ≤ l) : WIn ⟨o + a, b⟩ o l := by
  unfold WIn; simp only; omega

theorem WIn.take {o l k : Nat} (h : k ≤ l) : WIn ⟨o, k⟩ o l := by
  unfold WIn; simp only; omega

theorem WIn.drop {o l k : Nat} (h : k ≤ l) : WIn ⟨o + k, l - k⟩ o l := WIn.sub (by omega)

def OptIn (w : Option Win) (o l : Nat) : Prop := ∀ x, w = some x → WIn x o l

def SlotsIn (s : ExtSlots) (o l : Nat) : Prop :=
  OptIn s.hbh o l ∧ OptIn s.dest o l ∧ OptIn s.routing o l ∧ OptIn s.finalDest o l ∧ OptIn s.frag o l ∧ OptIn s.auth o l

def IpIn (r : IpR) (o l : Nat) : Prop :=
  WIn r.hdr o l ∧ OptIn r.auth o l ∧ WIn r.exts o l ∧ SlotsIn r.slots o l ∧ WIn r.pl.w o l

def LinkIn : LinkR → Nat → Nat → Prop
  | .eth2 w, o, l => WIn w o l ∧ 14 ≤ w.l
  | .sll w, o, l => WIn w o l ∧ 16 ≤ w.l
  | .etherPayload _ w, o, l => WIn w o l

def ExtIn : ExtR → Nat → Nat → Prop
  | .vlan w, o, l => WIn w o l ∧ 4 ≤ w.l
  | .macsec h p _ _, o, l => WIn h o l ∧ WIn p o l ∧ 6 ≤ h.l

def NetIn : NetR → Nat → Nat → Prop
  | .arp w, o, l => WIn w o l ∧ 8 ≤ w.l
  | .ip r, o, l => IpIn r o l

def TpIn : TpR → Nat → Nat → Prop
  | .udp w, o, l => WIn w o l ∧ 8 ≤ w.l
  | .tcp w hl, o, l => WIn w o l ∧ 20 ≤ hl ∧ hl ≤ w.l
  | .icmp4 w, o, l => WIn w o l ∧ 8 ≤ w.l
  | .icmp6 w, o, l => WIn w o l ∧ 8 ≤ w.l

/-- every slice a (lax) sliced packet hands out lies inside `(o, l)` and is long enough for the
    unchecked accessors of its type -/
def PacketIn (p : Packet) (o l : Nat) : Prop :=
  (∀ x, p.link = some x → LinkIn x o l) ∧ (∀ x ∈ p.exts, ExtIn x o l) ∧
    (∀ x, p.net = some x → NetIn x o l) ∧ (∀ x, p.tp = some x → TpIn x o l)

theorem optIn_none (o l : Nat) : OptIn none o l := nofun

theorem optIn_some {w : Win} {O L : Nat} (h : WIn w O L) : OptIn (some w) O L := by
  intro x hx; cases hx; exact h

theorem slotsIn_none (o l : Nat) : SlotsIn ExtSlots.none o l :=
  ⟨optIn_none o l, optIn_none o l, optIn_none o l, optIn_none o l, optIn_none o l, optIn_none o l⟩

section trans
variable {O L : Nat}

theorem OptIn.trans {w : Option Win} (h : OptIn w o l) (hw : WIn ⟨o, l⟩ O L) : OptIn w O L := fun x hx => (h x hx).trans hw

theorem SlotsIn.trans {s : ExtSlots} (h : SlotsIn s o l) (hw : WIn ⟨o, l⟩ O L) : SlotsIn s O L :=
  ⟨h.1.trans hw, h.2.1.trans hw, h.2.2.1.trans hw, h.2.2.2.1.trans hw, h.2.2.2.2.1.trans hw, h.2.2.2.2.2.trans hw⟩

theorem IpIn.trans {r : IpR} (h : IpIn r o l) (hw : WIn ⟨o, l⟩ O L) : IpIn r O L :=
  ⟨h.1.trans hw, h.2.1.trans hw, h.2.2.1.trans hw, h.2.2.2.1.trans hw, h.2.2.2.2.trans hw⟩

theorem LinkIn.trans {x : LinkR} (h : LinkIn x o l) (hw : WIn ⟨o, l⟩ O L) : LinkIn x O L := by
  cases x
  · exact ⟨h.1.trans hw, h.2⟩
  · exact ⟨h.1.trans hw, h.2⟩
  · exact WIn.trans h hw

theorem ExtIn.trans {x : ExtR} (h : ExtIn x o l) (hw : WIn ⟨o, l⟩ O L) : ExtIn x O L := by
  cases x
  · exact ⟨h.1.trans hw, h.2⟩
  · exact ⟨h.1.trans hw, h.2.1.trans hw, h.2.2⟩

theorem NetIn.trans {x : NetR} (h : NetIn x o l) (hw : WIn ⟨o, l⟩ O L) : NetIn x O L := by
  cases x
  · exact ⟨h.1.trans hw, h.2⟩
  · exact IpIn.trans h hw

theorem TpIn.trans {x : TpR} (h : TpIn x o l) (hw : WIn ⟨o, l⟩ O L) : TpIn x O L := by
  cases x <;> exact ⟨h.1.trans hw, h.2⟩

theorem PacketIn.trans {p : Packet} (h : PacketIn p o l) (hw : WIn ⟨o, l⟩ O L) : PacketIn p O L :=
  ⟨fun x hx => (h.1 x hx).trans hw, fun x hx => (h.2.1 x hx).trans hw, fun x hx => (h.2.2.1 x hx).trans hw,
    fun x hx => (h.2.2.2 x hx).trans hw⟩

end trans

theorem udpLax_in (g : Mem) (o l : Nat) (w : Win) (h : udpFromSliceLax g o l = .ok w) : WIn w o l ∧ 8 ≤ w.l := by
  simp only [udpFromSliceLax, guard_ok] at h
  obtain ⟨h8, h⟩ := h
  by_cases hc : l < g16 g (o + 4) ∨ g16 g (o + 4) < 8
  · rw [if_pos hc] at h
    cases h
    exact ⟨WIn.refl o l, Nat.le_of_not_lt h8⟩
  · rw [if_neg hc] at h
    cases h
    exact ⟨WIn.take (by omega), Nat.le_of_not_lt fun h => hc (.inr h)⟩

theorem udp_in (g : Mem) (o l : Nat) (w : Win) (h : udpFromSlice g o l = .ok w) : WIn w o l ∧ 8 ≤ w.l :=
  udpLax_in g o l w (udp_strict_ok_lax_same g o l w h)

theorem icmp4_tpIn {g : Mem} {o l : Nat} {w : Win} (h : icmp4FromSlice g o l = .ok w) : TpIn (.icmp4 w) o l := by
  obtain ⟨rfl, h8⟩ := icmp4_ok g o l w h
  exact ⟨WIn.refl o l, h8⟩

theorem icmp6_tpIn {o l : Nat} {w : Win} (h : icmp6FromSlice o l = .ok w) : TpIn (.icmp6 w) o l := by
  obtain ⟨rfl, h8⟩ := icmp6_ok o l w h
  exact ⟨WIn.refl o l, h8⟩

theorem tcp_tpIn {g : Mem} {o l hl : Nat} (h : tcpFromSlice g o l = .ok hl) : TpIn (.tcp ⟨o, l⟩ hl) o l :=
  ⟨WIn.refl o l, tcp_ok g o l hl h⟩

theorem arp_in (g : Mem) (o l : Nat) (w : Win) (h : arpFromSlice g o l = .ok w) : WIn w o l ∧ 8 ≤ w.l := by
  simp only [arpFromSlice, guard_ok, Except.ok.injEq] at h
  obtain ⟨_, hm, rfl⟩ := h
  exact ⟨WIn.take (Nat.le_of_not_lt hm), by simp only; omega⟩

theorem laxMacsec_in (g : Mem) (o l : Nat) (x : ExtR) (h : laxMacsecFromSlice g o l = .ok x) : ExtIn x o l := by
  unfold laxMacsecFromSlice at h
  cases hh : macsecHeaderFromSlice g o l with
  | error e => rw [hh] at h; contradiction
  | ok hl =>
    rw [hh] at h
    obtain ⟨rfl, hle⟩ := macsecHeader_ok hl hh
    have hb := (macsecHeaderLen_bounds (g o)).1
    simp only at h
    generalize macsecExpectedPayloadLen g o = e at h
    cases e with
    | none => cases h; exact ⟨WIn.take hle, WIn.drop hle, hb⟩
    | some pl =>
      simp only at h
      by_cases hc : l < macsecHeaderLen (g o) + pl
      · rw [if_pos hc] at h
        cases h
        exact ⟨WIn.take hle, WIn.drop hle, hb⟩
      · rw [if_neg hc] at h
        cases h
        exact ⟨WIn.take hle, WIn.sub (Nat.le_of_not_lt hc), hb⟩

theorem macsec_in (g : Mem) (o l : Nat) (x : ExtR) (h : macsecFromSlice g o l = .ok x) : ExtIn x o l :=
  laxMacsec_in g o l x (macsec_strict_ok_lax_same g o l x h)

theorem mkV4_in {o l hl : Nat} {a : Option Win} {pl : IpPl} (hle : hl ≤ l) (ha : OptIn a (o + hl) (l - hl))
    (hpl : WIn pl.w (o + hl) (l - hl)) :
    IpIn (mkV4 o hl a pl) o l ∧ (mkV4 o hl a pl).hdr = ⟨o, hl⟩ ∧ WIn (mkV4 o hl a pl).pl.w (o + hl) (l - hl) :=
  have hd : WIn ⟨o + hl, l - hl⟩ o l := WIn.drop hle
  ⟨⟨WIn.take hle, ha.trans hd, WIn.take (Nat.zero_le l), slotsIn_none o l, hpl.trans hd⟩, rfl, hpl⟩

theorem ipv4BoundLax_in (o l hl tl : Nat) : WIn (ipv4BoundLax o l hl tl).1 (o + hl) (l - hl) := by
  unfold ipv4BoundLax
  by_cases h1 : tl < hl
  · rw [if_pos h1]; exact WIn.refl _ _
  rw [if_neg h1]
  by_cases h2 : l < tl
  · rw [if_pos h2]; exact WIn.refl _ _
  rw [if_neg h2]
  exact WIn.take (by omega)

theorem ipv4AfterHeaderLax_in (g : Mem) (o l hl : Nat) (hle : hl ≤ l) :
    IpIn (ipv4AfterHeaderLax g o l hl).1 o l ∧ (ipv4AfterHeaderLax g o l hl).1.hdr = ⟨o, hl⟩ ∧
      WIn (ipv4AfterHeaderLax g o l hl).1.pl.w (o + hl) (l - hl) := by
  have hb := ipv4BoundLax_in o l hl (g16 g (o + 2))
  unfold ipv4AfterHeaderLax
  simp only
  generalize ipv4BoundLax o l hl (g16 g (o + 2)) = b at hb ⊢
  obtain ⟨hp, src, inc⟩ := b
  simp only at hb ⊢
  by_cases h51 : g (o + 9) = 51
  · rw [if_pos h51]
    cases ha : ahFromSlice g hp.o hp.l with
    | error e => exact mkV4_in hle (optIn_none _ _) hb
    | ok al =>
      have hal := (ah_ok g hp.o hp.l al ha).2.1
      exact mkV4_in hle (optIn_some ((WIn.take hal).trans hb)) ((WIn.drop hal).trans hb)
  · rw [if_neg h51]
    exact mkV4_in hle (optIn_none _ _) hb

theorem ipv4AfterHeaderStrict_in (hl : Nat) (r : IpR) (hle : hl ≤ l)
    (h : ipv4AfterHeaderStrict g o l hl = .ok r) :
    IpIn r o l ∧ r.hdr = ⟨o, hl⟩ ∧ WIn r.pl.w (o + hl) (l - hl) := by
  have := ipv4AfterHeaderLax_in g o l hl hle
  rwa [(ipv4After_strict_lax hl r h).1] at this

theorem rawStore_in (nh : Nat) (slots : ExtSlots) (w : Win) (O L : Nat) (hs : SlotsIn slots O L)
    (hw : WIn w O L) : SlotsIn (rawStore nh slots w) O L := by
  obtain ⟨h1, h2, h3, h4, h5, h6⟩ := hs
  unfold rawStore
  split
  · split
    · exact ⟨h1, h2, h3, optIn_some hw, h5, h6⟩
    · exact ⟨h1, optIn_some hw, h3, h4, h5, h6⟩
  · exact ⟨h1, h2, optIn_some hw, h4, h5, h6⟩

theorem extsLoop_in (g : Mem) (sm : Bool) (l0 nh : Nat) (frag : Bool) (slots : ExtSlots) (o l O L : Nat)
    (hs : SlotsIn slots O L) (hw : WIn ⟨o, l⟩ O L) :
    SlotsIn (extsLoop g sm l0 nh frag slots o l).slots O L := by
  fun_induction extsLoop g sm l0 nh frag slots o l
  -- cases as in `extsLoop_suffix`
  case case5 _ _ _ _ hl ih =>
    exact ih (rawStore_in _ _ _ O L hs ((WIn.take (Nat.le_of_not_lt hl)).trans hw))
      ((WIn.drop (Nat.le_of_not_lt hl)).trans hw)
  case case8 _ h8 _ _ ih =>
    exact ih ⟨hs.1, hs.2.1, hs.2.2.1, hs.2.2.2.1, optIn_some ((WIn.take (Nat.le_of_not_lt h8)).trans hw), hs.2.2.2.2.2⟩
      ((WIn.drop (Nat.le_of_not_lt h8)).trans hw)
  case case13 _ _ _ hl _ _ _ ih =>
    exact ih ⟨hs.1, hs.2.1, hs.2.2.1, hs.2.2.2.1, hs.2.2.2.2.1, optIn_some ((WIn.take (Nat.le_of_not_lt hl)).trans hw)⟩
      ((WIn.drop (Nat.le_of_not_lt hl)).trans hw)
  all_goals exact hs

theorem extsWalk_in (g : Mem) (sm : Bool) (nh o l : Nat) :
    SlotsIn (extsWalk g sm nh o l).slots o l ∧ WIn (extsWalk g sm nh o l).rest o l := by
  have hsuf := extsWalk_suffix g sm nh o l
  refine ⟨?_, by unfold WIn; omega⟩
  by_cases hnh : nh = 0
  · subst hnh
    cases hok : rawExtFromSlice g o l with
    | error e => rw [extsWalk_err sm hok]; exact slotsIn_none o l
    | ok hl =>
      rw [extsWalk_hbh sm hok]
      have hle := (rawExt_ok hl hok).2.1
      exact extsLoop_in g sm l (g o) false _ (o + hl) (l - hl) o l
        ⟨optIn_some (WIn.take hle), optIn_none o l, optIn_none o l, optIn_none o l, optIn_none o l,
          optIn_none o l⟩ (WIn.drop hle)
  · rw [extsWalk_of_ne g sm o l hnh]
    exact extsLoop_in g sm l nh false ExtSlots.none o l o l (slotsIn_none o l) (WIn.refl o l)

theorem ipv6BoundLax_in (o l pl : Nat) (h40 : 40 ≤ l) : WIn (ipv6BoundLax o l pl).1 o l := by
  unfold ipv6BoundLax
  by_cases h1 : pl = 0 ∧ l > 40
  · rw [if_pos h1]; exact WIn.drop h40
  rw [if_neg h1]
  by_cases h2 : l < 40 + pl
  · rw [if_pos h2]; exact WIn.drop h40
  rw [if_neg h2]
  exact WIn.sub (Nat.le_of_not_lt h2)

theorem mkV6_in (g : Mem) (sm : Bool) (o l nh : Nat) (hp : Win) (src : LenSource) (inc : Bool)
    (h40 : 40 ≤ l) (hh : WIn hp o l) :
    IpIn (mkV6 sm o nh hp (extsWalk g sm nh hp.o hp.l) src inc) o l := by
  obtain ⟨hs, hr⟩ := extsWalk_in g sm nh hp.o hp.l
  refine ⟨WIn.take h40, optIn_none o l, (WIn.take (Nat.sub_le _ _)).trans hh, ?_, hr.trans hh⟩
  unfold mkV6
  cases sm
  · exact slotsIn_none o l
  · exact hs.trans hh

theorem ipv6AfterHeaderLax_in (g : Mem) (sm : Bool) (o l : Nat) (h40 : 40 ≤ l) :
    IpIn (ipv6AfterHeaderLax g sm o l).1 o l :=
  mkV6_in g sm o l _ _ _ _ h40 (ipv6BoundLax_in o l (g16 g (o + 4)) h40)

theorem ipv6AfterHeaderStrict_in (sm : Bool) (o l : Nat) (r : IpR) (h40 : 40 ≤ l)
    (h : ipv6AfterHeaderStrict g sm o l = .ok r) : IpIn r o l := by
  have := ipv6AfterHeaderLax_in g sm o l h40
  rwa [(ipv6After_strict_lax sm o l r h).1] at this

/-- `m`, `sm` both false: `LaxIpSlice::from_slice`; both true: `IpHeaders::from_slice_lax` -/
theorem ipDispatchLax_in (g : Mem) (o l : Nat) (m sm : Bool) (r : IpR) (st : Option (PErr × Layer))
    (h : (match ipDispatchHeader g m o l with
      | .error e => .error e
      | .ok (.inl hl) => .ok (ipv4AfterHeaderLax g o l hl)
      | .ok (.inr _) => .ok (ipv6AfterHeaderLax g sm o l) : Except PErr _) = .ok (r, st)) : IpIn r o l := by
  cases hd : ipDispatchHeader g m o l with
  | error e => rw [hd] at h; contradiction
  | ok x =>
    rw [hd] at h
    cases x with
    | inl hl =>
      have := (ipv4AfterHeaderLax_in g o l hl (ipv4Header_ok g o l hl ((ipDispatch_inl_iff g m o l hl).1 hd)).2.1).1
      rwa [Except.ok.inj h] at this
    | inr u =>
      have := ipv6AfterHeaderLax_in g sm o l ((ipv6Header_ok_iff g o l).1 ((ipDispatch_inr_iff g m o l).1 hd)).2
      rwa [Except.ok.inj h] at this

theorem laxIpSlice_in (g : Mem) (o l : Nat) (r : IpR) (st : Option (PErr × Layer))
    (h : laxIpSliceFromSlice g o l = .ok (r, st)) : IpIn r o l :=
  ipDispatchLax_in g o l false false r st h

theorem ipHeadersLax_in (g : Mem) (o l : Nat) (r : IpR) (st : Option (PErr × Layer))
    (h : ipHeadersFromSliceLax g o l = .ok (r, st)) : IpIn r o l :=
  ipDispatchLax_in g o l true true r st h

theorem ipSlice_in (g : Mem) (o l : Nat) (r : IpR) (h : ipSliceFromSlice g o l = .ok r) : IpIn r o l :=
  laxIpSlice_in g o l r none (ipSlice_strict_lax g o l r h).1

theorem ipv4Slice_in (g : Mem) (o l : Nat) (r : IpR) (h : ipv4SliceFromSlice g o l = .ok r) : IpIn r o l :=
  laxIpSlice_in g o l r none (ipv4Slice_strict_lax g o l r h).1

theorem ipv6Slice_in (g : Mem) (o l : Nat) (r : IpR) (h : ipv6SliceFromSlice g o l = .ok r) : IpIn r o l :=
  laxIpSlice_in g o l r none (ipv6Slice_strict_lax g o l r h).1

theorem ipHeaders_in (g : Mem) (o l : Nat) (r : IpR) (h : ipHeadersFromSlice g o l = .ok r) : IpIn r o l :=
  ipHeadersLax_in g o l r none (ipHeaders_strict_lax g o l r h).1

theorem ipHeadersV4_in (g : Mem) (o l : Nat) (r : IpR) (h : ipHeadersFromIpv4Slice g o l = .ok r) : IpIn r o l :=
  ipv4Slice_in g o l r h

theorem ipHeadersV6_in (g : Mem) (o l : Nat) (r : IpR) (h : ipHeadersFromIpv6Slice g o l = .ok r) : IpIn r o l := by
  unfold ipHeadersFromIpv6Slice at h
  cases hh : ipv6HeaderFromSlice g o l with
  | error e => rw [hh] at h; contradiction
  | ok u =>
    rw [hh] at h
    exact ipv6AfterHeaderStrict_in true o l r ((ipv6Header_ok_iff g o l).1 hh).2 h

theorem packetIn_empty (o l : Nat) : PacketIn Packet.empty o l := by
  simp [PacketIn, Packet.empty]

theorem packetIn_setLink {p : Packet} {x : LinkR} {o l : Nat} (h : PacketIn p o l) (hx : LinkIn x o l) :
    PacketIn (p.setLink x) o l := by
  obtain ⟨_, h2, h3, h4⟩ := h
  refine ⟨?_, h2, h3, h4⟩
  intro y hy; simp [Packet.setLink] at hy; subst hy; exact hx

theorem packetIn_pushExt {p : Packet} {x : ExtR} {o l : Nat} (h : PacketIn p o l) (hx : ExtIn x o l) :
    PacketIn (p.pushExt x) o l := by
  obtain ⟨h1, h2, h3, h4⟩ := h
  refine ⟨h1, ?_, h3, h4⟩
  intro y hy
  simp [Packet.pushExt] at hy
  rcases hy with hy | hy
  · exact h2 y hy
  · subst hy; exact hx

theorem packetIn_setNet {p : Packet} {x : NetR} {o l : Nat} (h : PacketIn p o l) (hx : NetIn x o l) :
    PacketIn (p.setNet x) o l := by
  obtain ⟨h1, h2, _, h4⟩ := h
  refine ⟨h1, h2, ?_, h4⟩
  intro y hy; simp [Packet.setNet] at hy; subst hy; exact hx

theorem packetIn_setTp {p : Packet} {x : TpR} {o l : Nat} (h : PacketIn p o l) (hx : TpIn x o l) :
    PacketIn (p.setTp x) o l := by
  obtain ⟨h1, h2, h3, _⟩ := h
  refine ⟨h1, h2, h3, ?_⟩
  intro y hy; simp [Packet.setTp] at hy; subst hy; exact hx

theorem packetIn_setStop {p : Packet} {e : PErr} {ly : Layer} {o l : Nat} (h : PacketIn p o l) :
    PacketIn (p.setStop e ly) o l := h

theorem laxSliceTransport_in (c : Cur) (g : Mem) (pl : IpPl) (O L : Nat) (hc : PacketIn c.r O L)
    (hw : WIn pl.w O L) : PacketIn (c.laxSliceTransport g pl) O L := by
  unfold Cur.laxSliceTransport
  by_cases h0 : pl.frag = true ∨ c.r.stop.isSome = true
  · rw [if_pos h0]; exact hc
  rw [if_neg h0]
  refine ite4 (P := fun r => PacketIn r O L) ?_ ?_ ?_ ?_ hc
  · cases hd : icmp4FromSlice g pl.w.o pl.w.l with
    | error e => exact hc
    | ok w => exact packetIn_setTp hc ((icmp4_tpIn hd).trans hw)
  · cases hd : udpFromSliceLax g pl.w.o pl.w.l with
    | error e => exact hc
    | ok w => exact packetIn_setTp hc (TpIn.trans (x := .udp w) (udpLax_in g _ _ w hd) hw)
  · cases hd : tcpFromSlice g pl.w.o pl.w.l with
    | error e => cases e <;> exact hc
    | ok hl => exact packetIn_setTp hc ((tcp_tpIn hd).trans hw)
  · cases hd : icmp6FromSlice pl.w.o pl.w.l with
    | error e => exact hc
    | ok w => exact packetIn_setTp hc ((icmp6_tpIn hd).trans hw)

theorem laxSliceIp_in (c : Cur) (g : Mem) (o l O L : Nat) (hc : PacketIn c.r O L)
    (hw : WIn ⟨o, l⟩ O L) : PacketIn (c.laxSliceIp g o l) O L := by
  unfold Cur.laxSliceIp
  split
  · exact hc
  · exact hc
  · rename_i ip stop hip
    have hin := (laxIpSlice_in g o l ip stop hip).trans hw
    have hnet : PacketIn (c.r.setNet (.ip ip)) O L := packetIn_setNet hc hin
    apply laxSliceTransport_in _ g ip.pl O L _ hin.2.2.2.2
    simp only
    split
    · exact hnet
    · exact hnet
    · exact hnet

theorem laxSliceArp_in (c : Cur) (g : Mem) (o l O L : Nat) (hc : PacketIn c.r O L)
    (hw : WIn ⟨o, l⟩ O L) : PacketIn (c.laxSliceArp g o l) O L := by
  unfold Cur.laxSliceArp
  split
  · exact hc
  · rename_i w hw'
    have := arp_in g o l w hw'
    exact packetIn_setNet hc ⟨this.1.trans hw, this.2⟩

theorem laxSliceEtherType_in (c : Cur) (g : Mem) (n et o l O L : Nat) (hc : PacketIn c.r O L)
    (hw : WIn ⟨o, l⟩ O L) : PacketIn (c.laxSliceEtherType g n et o l) O L := by
  fun_induction Cur.laxSliceEtherType c g n et o l
  case case3 c et o l het n w hv ih =>
    obtain ⟨rfl, h4⟩ := vlan_ok o l w hv
    exact ih (packetIn_pushExt hc ⟨hw, h4⟩) ((WIn.drop h4).trans hw)
  case case7 c o l n hdr pl src inc hm r' et' hn hne ih =>
    have hin := (laxMacsec_in g o l _ hm).trans hw
    exact ih (packetIn_pushExt hc hin) hin.2.1
  case case8 c o l n hdr pl src inc hm r' hn hne =>
    exact packetIn_pushExt hc ((laxMacsec_in g o l _ hm).trans hw)
  case case10 => exact laxSliceArp_in _ g _ _ O L hc hw
  case case11 => exact laxSliceIp_in _ g _ _ O L hc hw
  all_goals exact hc

theorem laxSlicedFromEthernet_in (n : Nat) (p : Packet) (h : laxSlicedFromEthernet g n = .ok p) :
    PacketIn p 0 n := by
  unfold laxSlicedFromEthernet at h
  cases hw : eth2FromSlice 0 n with
  | error e => rw [hw] at h; contradiction
  | ok w =>
    rw [hw] at h
    obtain ⟨rfl, h14⟩ := eth2_ok w hw
    cases h
    exact laxSliceEtherType_in _ g 3 _ 14 (n - 14) 0 n
      (packetIn_setLink (packetIn_empty 0 n) ⟨WIn.refl 0 n, h14⟩) (WIn.drop h14)

theorem laxSlicedFromEtherType_in (g : Mem) (et n : Nat) : PacketIn (laxSlicedFromEtherType g et n) 0 n :=
  laxSliceEtherType_in _ g 3 et 0 n 0 n
    (packetIn_setLink (x := .etherPayload et ⟨0, n⟩) (packetIn_empty 0 n) (WIn.refl 0 n)) (WIn.refl 0 n)

theorem laxSlicedFromIp_in (n : Nat) (p : Packet) (h : laxSlicedFromIp g n = .ok p) :
    PacketIn p 0 n := by
  cases hip : laxIpSliceFromSlice g 0 n with
  | error e => unfold laxSlicedFromIp at h; rw [hip] at h; contradiction
  | ok y =>
    rw [laxSlicedFromIp_ok g n y hip] at h
    cases h
    exact laxSliceIp_in Cur.new g 0 n 0 n (packetIn_empty 0 n) (WIn.refl 0 n)

theorem slicedFromEthernet_in (g : Mem) (n : Nat) (p : Packet) (h : slicedFromEthernet g n = .ok p) :
    PacketIn p 0 n :=
  laxSlicedFromEthernet_in n p (sliced_ethernet_strict_lax g n p h).1

end EpModel.Lemmas.Dec
