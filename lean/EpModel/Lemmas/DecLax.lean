import EpModel.Lemmas.Dec
/- strict ⊑ lax on the decode model (C05). -/
namespace EpModel.Lemmas.Dec
open EpModel EpModel.Dec

-- implicit in a lemma one of whose hypotheses mentions them; lemmas that other files call bind them explicitly
variable {g : Mem} {o l : Nat}

theorem udp_strict_ok_lax_same (g : Mem) (o l : Nat) (w : Win) (h : udpFromSlice g o l = .ok w) :
    udpFromSliceLax g o l = .ok w := by
  simp only [udpFromSlice, guard_ok] at h
  obtain ⟨h8, hlen, h⟩ := h
  unfold udpFromSliceLax
  rw [if_neg h8]
  by_cases hz : g16 g (o + 4) = 0
  · rw [if_pos hz] at h
    rw [← h]
    exact if_pos (.inr (by omega))
  · rw [if_neg hz, guard_ok] at h
    rw [← h.2]
    exact if_neg (by omega)

theorem macsec_ok_form (x : ExtR) (h : macsecFromSlice g o l = .ok x) :
    ∃ hdr pl src, x = .macsec hdr pl src false := by
  unfold macsecFromSlice at h
  split at h
  · contradiction
  · split at h
    · simp only [guard_ok, Except.ok.injEq] at h
      exact ⟨_, _, _, h.2.symm⟩
    · cases h; exact ⟨_, _, _, rfl⟩

theorem macsec_strict_ok_lax_same (g : Mem) (o l : Nat) (x : ExtR) (h : macsecFromSlice g o l = .ok x) :
    laxMacsecFromSlice g o l = .ok x := by
  unfold macsecFromSlice at h
  unfold laxMacsecFromSlice
  split at h
  · contradiction
  · rename_i hl hh
    simp only
    split at h
    · rename_i pl hp
      simp only at h ⊢
      split at h
      · contradiction
      · rename_i hlt
        cases h
        simp [hlt]
    · cases h; rfl

theorem ipv4Bound_strict_lax (hl tl : Nat) (hp : Win) (h : ipv4BoundStrict o l hl tl = .ok hp) :
    ipv4BoundLax o l hl tl = (hp, .ipv4HeaderTotalLen, false) := by
  unfold ipv4BoundStrict at h
  unfold ipv4BoundLax
  split at h
  · contradiction
  · rename_i h1
    split at h
    · contradiction
    · rename_i h2
      cases h
      simp [h1, h2]

theorem ipv4After_strict_lax (hl : Nat) (r : IpR) (h : ipv4AfterHeaderStrict g o l hl = .ok r) :
    ipv4AfterHeaderLax g o l hl = (r, none) ∧ r.pl.inc = false := by
  unfold ipv4AfterHeaderStrict at h
  unfold ipv4AfterHeaderLax
  simp only at h ⊢
  split at h
  · contradiction
  · rename_i hp hb
    rw [ipv4Bound_strict_lax hl _ hp hb]
    simp only
    split at h
    · rename_i h51
      simp only [h51, if_true]
      split at h
      · contradiction
      · contradiction
      · rename_i al ha
        cases h
        simp [ha, mkV4]
    · rename_i h51
      cases h
      simp [h51, mkV4]

theorem ipv6Bound_strict_lax (pl : Nat) (hp : Win) (src : LenSource) (h : ipv6BoundStrict o l pl = .ok (hp, src)) :
    ipv6BoundLax o l pl = (hp, src, false) := by
  unfold ipv6BoundStrict at h
  unfold ipv6BoundLax
  split at h
  · rename_i h1
    cases h
    simp [h1]
  · rename_i h1
    split at h
    · contradiction
    · rename_i h2
      cases h
      simp [h1, h2]

theorem ipv6ChainStrict_ok (sm : Bool) (o : Nat) (hp : Win) (src : LenSource) (r : IpR)
    (h : ipv6ChainStrict g sm o hp src = .ok r) :
    r = mkV6 sm o (g (o + 6)) hp (extsWalk g sm (g (o + 6)) hp.o hp.l) src false ∧
      (extsWalk g sm (g (o + 6)) hp.o hp.l).stop = none := by
  unfold ipv6ChainStrict at h
  split at h
  · contradiction
  · contradiction
  · rename_i r' hr'
    obtain ⟨rfl, hs⟩ := extsWalkStrict_ok g sm _ _ _ r' hr'
    cases h
    exact ⟨rfl, hs⟩

theorem ipv6After_strict_lax (sm : Bool) (o l : Nat) (r : IpR) (h : ipv6AfterHeaderStrict g sm o l = .ok r) :
    ipv6AfterHeaderLax g sm o l = (r, none) ∧ r.pl.inc = false := by
  unfold ipv6AfterHeaderStrict at h
  unfold ipv6AfterHeaderLax
  simp only at h ⊢
  split at h
  · contradiction
  · rename_i hp src hb
    rw [ipv6Bound_strict_lax _ hp src hb]
    simp only
    have := ipv6ChainStrict_ok sm o hp src r h
    rw [this.1]
    simp [this.2, mkV6]

theorem ipSlice_strict_lax (g : Mem) (o l : Nat) (r : IpR) (h : ipSliceFromSlice g o l = .ok r) :
    laxIpSliceFromSlice g o l = .ok (r, none) ∧ r.pl.inc = false := by
  unfold ipSliceFromSlice at h
  unfold laxIpSliceFromSlice
  split at h
  · contradiction
  · rename_i hl hh
    have := ipv4After_strict_lax hl r h
    simp [this.1, this.2]
  · rename_i hh
    have := ipv6After_strict_lax false o l r h
    simp [this.1, this.2]

theorem ipv4Slice_strict_lax (g : Mem) (o l : Nat) (r : IpR) (h : ipv4SliceFromSlice g o l = .ok r) :
    laxIpSliceFromSlice g o l = .ok (r, none) ∧ laxIpv4SliceFromSlice g o l = .ok (r, none) ∧ r.pl.inc = false := by
  unfold ipv4SliceFromSlice at h
  unfold laxIpSliceFromSlice laxIpv4SliceFromSlice
  split at h
  · contradiction
  · rename_i hl hh
    have := ipv4After_strict_lax hl r h
    simp [(ipDispatch_inl_iff g false o l hl).2 hh, this.1, this.2]

theorem ipv6Slice_strict_lax (g : Mem) (o l : Nat) (r : IpR) (h : ipv6SliceFromSlice g o l = .ok r) :
    laxIpSliceFromSlice g o l = .ok (r, none) ∧ laxIpv6SliceFromSlice g o l = .ok (r, none) ∧ r.pl.inc = false := by
  unfold ipv6SliceFromSlice at h
  unfold laxIpSliceFromSlice laxIpv6SliceFromSlice
  split at h
  · contradiction
  · rename_i hh
    have := ipv6After_strict_lax false o l r h
    simp [(ipDispatch_inr_iff g false o l).2 hh, this.1, this.2]

theorem ipHeaders_strict_lax (g : Mem) (o l : Nat) (r : IpR) (h : ipHeadersFromSlice g o l = .ok r) :
    ipHeadersFromSliceLax g o l = .ok (r, none) ∧ r.pl.inc = false := by
  unfold ipHeadersFromSlice at h
  unfold ipHeadersFromSliceLax
  split at h
  · contradiction
  · rename_i hl hh
    have := ipv4After_strict_lax hl r h
    simp [this.1, this.2]
  · rename_i hh
    have := ipv6After_strict_lax true o l r h
    simp [this.1, this.2]

def NoInc (p : Packet) : Prop :=
  (∀ hdr pl src inc, ExtR.macsec hdr pl src inc ∈ p.exts → inc = false) ∧
    (∀ r, p.net = some (.ip r) → r.pl.inc = false)

theorem noInc_setTp {p : Packet} {x : TpR} (h : NoInc p) : NoInc (p.setTp x) := h
theorem noInc_setLink {p : Packet} {x : LinkR} (h : NoInc p) : NoInc (p.setLink x) := h
theorem noInc_empty : NoInc Packet.empty := by simp [NoInc, Packet.empty]

theorem noInc_setNet_ip {p : Packet} {ip : IpR} (h : NoInc p) (hip : ip.pl.inc = false) : NoInc (p.setNet (.ip ip)) :=
  ⟨h.1, fun r hr => by cases hr; exact hip⟩

theorem noInc_setNet_arp {p : Packet} {w : Win} (h : NoInc p) : NoInc (p.setNet (.arp w)) :=
  ⟨h.1, fun r hr => by simp [Packet.setNet] at hr⟩

theorem noInc_pushExt {p : Packet} {x : ExtR} (h : NoInc p)
    (hx : ∀ hdr pl src inc, x = .macsec hdr pl src inc → inc = false) : NoInc (p.pushExt x) := by
  refine ⟨fun hdr pl src inc hm => ?_, h.2⟩
  rcases List.mem_append.1 hm with hm | hm
  · exact h.1 _ _ _ _ hm
  · exact hx _ _ _ _ (List.mem_singleton.1 hm).symm

/-- Where the strict cursor accepts, the lax cursor (on the same result so far, `c'.r = c.r`, nothing
    stopped, nothing incomplete) produces the same packet; these three facts are kept along the way. -/
theorem sliceTransport_strict_lax (c c' : Cur) (g : Mem) (pl : IpPl) (p : Packet)
    (hr : c'.r = c.r) (hs : c.r.stop = none) (hn : NoInc c.r) (hf : pl.frag = false)
    (h : c.sliceTransport g pl.num pl.w.o pl.w.l = .ok p) :
    c'.laxSliceTransport g pl = p ∧ p.stop = none ∧ NoInc p := by
  unfold Cur.sliceTransport at h
  unfold Cur.laxSliceTransport
  rw [if_neg (by simp [hf, hr, hs]), hr]
  revert h
  refine ite4₂ (P := fun (a : Except PErr Packet) b => a = .ok p → b = p ∧ p.stop = none ∧ NoInc p)
    ?_ ?_ ?_ ?_ ?_ <;> intro h
  · cases hd : icmp4FromSlice g pl.w.o pl.w.l with
    | error e => rw [hd] at h; contradiction
    | ok w => rw [hd] at h; cases h; exact ⟨rfl, hs, hn⟩
  · cases hd : udpFromSlice g pl.w.o pl.w.l with
    | error e => rw [hd] at h; contradiction
    | ok w => rw [hd] at h; cases h; rw [udp_strict_ok_lax_same g _ _ w hd]; exact ⟨rfl, hs, hn⟩
  · cases hd : tcpFromSlice g pl.w.o pl.w.l with
    | error e => rw [hd] at h; cases e <;> contradiction
    | ok hl => rw [hd] at h; cases h; exact ⟨rfl, hs, hn⟩
  · cases hd : icmp6FromSlice pl.w.o pl.w.l with
    | error e => rw [hd] at h; contradiction
    | ok w => rw [hd] at h; cases h; exact ⟨rfl, hs, hn⟩
  · cases h; exact ⟨rfl, hs, hn⟩

theorem laxSliceTransport_src (off : Nat) (a b : LenSource) (r : Packet) (g : Mem) (pl : IpPl) :
    ({ off := off, src := a, r := r } : Cur).laxSliceTransport g pl =
      ({ off := off, src := b, r := r } : Cur).laxSliceTransport g pl := by
  unfold Cur.laxSliceTransport; rfl

theorem srcIfSlice_slice (e : LenError) : (e.addOffset 0).srcIfSlice .slice = e := by
  unfold LenError.srcIfSlice LenError.addOffset LenError.withSrc
  cases e
  simp only [Nat.add_zero]
  split
  · simp_all
  · rfl

theorem laxSlicedFromIp_ok (g : Mem) (n : Nat) (y : IpR × Option (PErr × Layer))
    (h : laxIpSliceFromSlice g 0 n = .ok y) : laxSlicedFromIp g n = .ok (Cur.new.laxSliceIp g 0 n) := by
  unfold laxSlicedFromIp Cur.laxSliceIp
  rw [h]
  obtain ⟨ip, stop⟩ := y
  simp only [Cur.new, Except.ok.injEq, Nat.zero_add, Nat.sub_zero]
  cases stop with
  | none => exact laxSliceTransport_src _ _ _ _ g ip.pl
  | some st =>
    obtain ⟨e, ly⟩ := st
    cases e with
    | len le => simp only [srcIfSlice_slice]; exact laxSliceTransport_src _ _ _ _ g ip.pl
    | _ => exact laxSliceTransport_src _ _ _ _ g ip.pl

theorem afterIp_strict_lax (c c' : Cur) (g : Mem) (o l : Nat) (ip : IpR) (p : Packet)
    (hr : c'.r = c.r) (hs : c.r.stop = none) (hn : NoInc c.r)
    (hlax : laxIpSliceFromSlice g o l = .ok (ip, none) ∧ ip.pl.inc = false)
    (h : c.afterIp g o ip = .ok p) : c'.laxSliceIp g o l = p ∧ p.stop = none ∧ NoInc p := by
  unfold Cur.laxSliceIp
  rw [hlax.1]
  simp only
  rw [hr]
  have hn' := noInc_setNet_ip hn hlax.2
  unfold Cur.afterIp at h
  simp only at h
  by_cases hf : ip.pl.frag = true
  · rw [if_pos hf] at h
    cases h
    unfold Cur.laxSliceTransport
    exact ⟨if_pos (.inl hf), hs, hn'⟩
  · rw [if_neg hf] at h
    exact sliceTransport_strict_lax { off := c.off + (ip.pl.w.o - o), src := ip.pl.src, r := c.r.setNet (.ip ip) } _
      g ip.pl p rfl hs hn' (by simpa using hf) h

theorem sliceArp_strict_lax (c c' : Cur) (g : Mem) (o l : Nat) (p : Packet)
    (hr : c'.r = c.r) (hs : c.r.stop = none) (hn : NoInc c.r) (h : c.sliceArp g o l = .ok p) :
    c'.laxSliceArp g o l = p ∧ p.stop = none ∧ NoInc p := by
  unfold Cur.sliceArp at h
  unfold Cur.laxSliceArp
  rw [hr]
  cases hd : arpFromSlice g o l with
  | error e => rw [hd] at h; contradiction
  | ok w => rw [hd] at h; cases h; exact ⟨rfl, hs, noInc_setNet_arp hn⟩

theorem sliceEtherType_strict_lax (c c' : Cur) (g : Mem) (n et o l : Nat) (p : Packet)
    (hr : c'.r = c.r) (hs : c.r.stop = none) (hn : NoInc c.r) (h : c.sliceEtherType g n et o l = .ok p) :
    c'.laxSliceEtherType g n et o l = p ∧ p.stop = none ∧ NoInc p := by
  fun_induction Cur.sliceEtherType c g n et o l generalizing c'
  all_goals try contradiction
  case case1 c et o l het =>
    cases h
    rw [Cur.laxSliceEtherType, if_pos het]
    exact ⟨hr, hs, hn⟩
  case case3 c et o l het n w hv ih =>
    rw [Cur.laxSliceEtherType, if_pos het]
    simp only [hv]
    exact ih _ (by rw [hr]) hs (noInc_pushExt hn fun _ _ _ _ e => ExtR.noConfusion e) h
  case case4 c o l hne =>
    cases h
    rw [Cur.laxSliceEtherType, if_neg hne, if_pos rfl]
    exact ⟨hr, hs, hn⟩
  case case7 c o l n hdr pl src inc hm cc et' hn' hne ih =>
    obtain ⟨_, _, _, hx⟩ := macsec_ok_form _ hm
    rw [Cur.laxSliceEtherType, if_neg hne, if_pos rfl]
    simp only [macsec_strict_ok_lax_same g o l _ hm, hn']
    exact ih _ (by rw [hr]) hs (noInc_pushExt hn fun _ _ _ _ e => by cases hx.symm.trans e; rfl) h
  case case8 c o l n hdr pl src inc hm cc hn' hne =>
    obtain ⟨_, _, _, hx⟩ := macsec_ok_form _ hm
    cases h
    rw [Cur.laxSliceEtherType, if_neg hne, if_pos rfl]
    simp only [macsec_strict_ok_lax_same g o l _ hm, hn', hr]
    exact ⟨rfl, hs, noInc_pushExt hn fun _ _ _ _ e => by cases hx.symm.trans e; rfl⟩
  case case9 c o l n a hna hm hne =>
    obtain ⟨_, _, _, hx⟩ := macsec_ok_form _ hm
    exact absurd hx (hna _ _ _ _)
  case case10 t c o l h1 h2 =>
    rw [Cur.laxSliceEtherType.eq_def, if_neg h1, if_neg h2, if_pos rfl]
    exact sliceArp_strict_lax c c' g o l p hr hs hn h
  case case11 t c o l h1 h2 h3 =>
    rw [Cur.laxSliceEtherType.eq_def, if_neg h1, if_neg h2, if_neg h3, if_pos (.inl rfl)]
    unfold Cur.sliceIpv4 at h
    cases hip : ipv4SliceFromSlice g o l with
    | error e => rw [hip] at h; contradiction
    | ok ip =>
      rw [hip] at h
      have := ipv4Slice_strict_lax g o l ip hip
      exact afterIp_strict_lax c c' g o l ip p hr hs hn ⟨this.1, this.2.2⟩ h
  case case12 t c o l h1 h2 h3 h4 =>
    rw [Cur.laxSliceEtherType.eq_def, if_neg h1, if_neg h2, if_neg h3, if_pos (.inr rfl)]
    unfold Cur.sliceIpv6 at h
    cases hip : ipv6SliceFromSlice g o l with
    | error e => rw [hip] at h; contradiction
    | ok ip =>
      rw [hip] at h
      have := ipv6Slice_strict_lax g o l ip hip
      exact afterIp_strict_lax c c' g o l ip p hr hs hn ⟨this.1, this.2.2⟩ h
  case case13 t c et o l h1 h2 h3 h4 h5 =>
    cases h
    rw [Cur.laxSliceEtherType.eq_def, if_neg h1, if_neg h2, if_neg h3, if_neg (by omega)]
    exact ⟨hr, hs, hn⟩

theorem sliced_ethernet_strict_lax (g : Mem) (n : Nat) (p : Packet) (h : slicedFromEthernet g n = .ok p) :
    laxSlicedFromEthernet g n = .ok p ∧ p.stop = none ∧ NoInc p := by
  unfold slicedFromEthernet at h
  unfold laxSlicedFromEthernet
  cases hw : eth2FromSlice 0 n with
  | error e => rw [hw] at h; contradiction
  | ok w =>
    rw [hw] at h
    have k := sliceEtherType_strict_lax _ { off := 14, src := .slice, r := Packet.empty.setLink (.eth2 w) } g 3 _ 14
      (n - 14) p rfl rfl (noInc_setLink (x := .eth2 w) noInc_empty) h
    exact ⟨congrArg _ k.1, k.2⟩

theorem sliced_ether_type_strict_lax (g : Mem) (et n : Nat) (p : Packet) (h : slicedFromEtherType g et n = .ok p) :
    laxSlicedFromEtherType g et n = p ∧ p.stop = none ∧ NoInc p :=
  sliceEtherType_strict_lax _
    { off := 0, src := .slice, r := Packet.empty.setLink (.etherPayload et ⟨0, n⟩) } g 3 et 0 n p rfl rfl
    (noInc_setLink (x := .etherPayload et ⟨0, n⟩) noInc_empty) h

theorem sliced_ip_strict_lax (g : Mem) (n : Nat) (p : Packet) (h : slicedFromIp g n = .ok p) :
    laxSlicedFromIp g n = .ok p ∧ p.stop = none ∧ NoInc p := by
  unfold slicedFromIp Cur.sliceIp at h
  cases hip : ipSliceFromSlice g 0 n with
  | error e => rw [hip] at h; contradiction
  | ok ip =>
    rw [hip] at h
    have hl := ipSlice_strict_lax g 0 n ip hip
    have k := afterIp_strict_lax Cur.new Cur.new g 0 n ip p rfl rfl noInc_empty hl h
    rw [laxSlicedFromIp_ok g n _ hl.1]
    exact ⟨congrArg _ k.1, k.2⟩

end EpModel.Lemmas.Dec
