import EpModel.Model.Builder
import EpModel.Lemmas.CodecNetAuth
import EpModel.Lemmas.CodecNetRawExt
import EpModel.Lemmas.CodecNetIpv4
import EpModel.Lemmas.CodecNetIpv6
import EpModel.Lemmas.CodecNetIpv6Frag
import EpModel.Props.C08Link
/- C10: `set_next_headers` in closed form, the closed forms of what the PacketBuilder model writes
   (`buildOk`, `buildFail`) with the lengths of their parts, and `build` equal to them. -/
namespace EpModel.Lemmas.Builder
open EpModel EpModel.Codec EpModel.CodecNet EpModel.Builder EpModel.Checksum

section Exts
open Ipv6Exts

theorem writeLoop_done (e : Ipv6Exts) (x : Nat) (rw : Bool) (out : Bytes) :
    writeLoop e x rw { hbh := false, dest := false, routing := false, fragment := false,
                       auth := false, finalDest := false } out = (out, none) := by
  rw [writeLoop]
  simp [notWritten]

theorem writeLoop_43 (e : Ipv6Exts) (rw : Bool) (n : Needs) (out : Bytes) (r : Ipv6Routing)
    (he : e.routing = some r) (hn : n.routing = true) :
    writeLoop e 43 rw n out
      = writeLoop e r.routing.nextHeader true { n with routing := false } (out ++ r.routing.toBytes) := by
  rw [writeLoop]; simp [he, hn]

theorem writeLoop_44 (e : Ipv6Exts) (rw : Bool) (n : Needs) (out : Bytes) (h : Ipv6FragmentHeader)
    (he : e.fragment = some h) (hn : n.fragment = true) :
    writeLoop e 44 rw n out
      = writeLoop e h.nextHeader rw { n with fragment := false } (out ++ h.toBytes) := by
  rw [writeLoop]; simp [he, hn]

theorem writeLoop_51 (e : Ipv6Exts) (rw : Bool) (n : Needs) (out : Bytes) (h : IpAuthHeader)
    (he : e.auth = some h) (hn : n.auth = true) :
    writeLoop e 51 rw n out
      = writeLoop e h.nextHeader rw { n with auth := false } (out ++ h.toBytes) := by
  rw [writeLoop]; simp [he, hn]

theorem writeLoop_60_dest (e : Ipv6Exts) (n : Needs) (out : Bytes) (h : Ipv6RawExtHeader)
    (he : e.dest = some h) (hn : n.dest = true) :
    writeLoop e 60 false n out
      = writeLoop e h.nextHeader false { n with dest := false } (out ++ h.toBytes) := by
  rw [writeLoop]; simp [he, hn]

theorem writeLoop_60_final (e : Ipv6Exts) (n : Needs) (out : Bytes) (h : Ipv6RawExtHeader)
    (he : e.finalDest = some h) (hn : n.finalDest = true) :
    writeLoop e 60 true n out
      = writeLoop e h.nextHeader true { n with finalDest := false } (out ++ h.toBytes) := by
  rw [writeLoop]; simp [he, hn]

/-- the headers of an extension set in the order `set_next_headers` chains them (RFC 8200 4.1) -/
def stdBytes (e : Ipv6Exts) : Bytes :=
  (match e.hbh with | some h => h.toBytes | none => []) ++
  (match e.dest with | some h => h.toBytes | none => []) ++
  (match e.routing with | some r => r.routing.toBytes | none => []) ++
  (match e.fragment with | some h => h.toBytes | none => []) ++
  (match e.auth with | some h => h.toBytes | none => []) ++
  (match e.finalDest with | some h => h.toBytes | none => [])

/-- after `set_next_headers`, `write_internal` started at the returned number writes every present
    header, in the standard order, and reports no error — for every extension set and every
    last protocol number (also 0, 43, 44, 51, 60). -/
theorem write_after_set (e : Ipv6Exts) (last : Nat) :
    writeInternal (e.setNextHeaders last).1 (e.setNextHeaders last).2
      = (stdBytes (e.setNextHeaders last).1, none) := by
  obtain ⟨hbh, dest, routing, fragment, auth⟩ := e
  cases hbh <;> cases dest <;> cases fragment <;> cases auth <;>
    rcases routing with _ | ⟨r, _ | fd⟩ <;>
    simp [setNextHeaders, writeInternal, finalDest, stdBytes, rawWithNext, fragWithNext, authWithNext,
      writeLoop_done, writeLoop_43, writeLoop_44, writeLoop_51, writeLoop_60_dest, writeLoop_60_final]

theorem rawWithNext_wf (h : Ipv6RawExtHeader) (n : Nat) (wf : h.WF) (hn : n < 256) : (rawWithNext h n).WF := by
  obtain ⟨_, a, b, c⟩ := wf; exact ⟨hn, a, b, c⟩
theorem fragWithNext_wf (h : Ipv6FragmentHeader) (n : Nat) (wf : h.WF) (hn : n < 256) : (fragWithNext h n).WF := by
  obtain ⟨_, a, b⟩ := wf; exact ⟨hn, a, b⟩
theorem authWithNext_wf (h : IpAuthHeader) (n : Nat) (wf : h.WF) (hn : n < 256) : (authWithNext h n).WF := by
  obtain ⟨_, a, b, c, d⟩ := wf; exact ⟨hn, a, b, c, d⟩

def optB {α} (f : α → Bytes) : Option α → Bytes
  | some h => f h
  | none => []

theorem optB_some {α} (f : α → Bytes) (a : α) : optB f (some a) = f a := rfl

theorem stdBytes_eq (e : Ipv6Exts) :
    stdBytes e = optB Ipv6RawExtHeader.toBytes e.hbh ++ optB Ipv6RawExtHeader.toBytes e.dest
      ++ optB (·.routing.toBytes) e.routing ++ optB Ipv6FragmentHeader.toBytes e.fragment
      ++ optB IpAuthHeader.toBytes e.auth ++ optB Ipv6RawExtHeader.toBytes e.finalDest := by
  unfold stdBytes
  congr 1; congr 1; congr 1; congr 1; congr 1
  · cases e.hbh <;> rfl
  · cases e.dest <;> rfl
  · cases e.routing <;> rfl
  · cases e.fragment <;> rfl
  · cases e.auth <;> rfl
  · cases e.finalDest <;> rfl

theorem optB_length {α} {f : α → Bytes} {l : α → Nat} {P : α → Prop} (hl : ∀ a, P a → (f a).length = l a)
    {x : Option α} (h : optP P x) : (optB f x).length = optLen l x := by
  cases x
  · rfl
  · exact hl _ h

theorem optP_map {α} {P : α → Prop} {g : α → α} (hg : ∀ a, P a → P (g a)) {x : Option α} (h : optP P x) :
    optP P (x.map g) := by
  cases x
  · trivial
  · exact hg _ h

theorem optP_some {α} {P : α → Prop} {x : Option α} {a : α} (h : optP P x) (hx : x = some a) : P a := by
  subst hx; exact h

/-- one stage of `set_next_headers`: a present header announces itself by `tag`, an absent one
    passes on the number `n` of what follows -/
def optNum (present : Bool) (tag n : Nat) : Nat := if present then tag else n

theorem optNum_ind (P : Nat → Prop) (b : Bool) {tag n : Nat} (ht : P tag) (hn : P n) : P (optNum b tag n) := by
  unfold optNum; split <;> assumption

/-- the protocol numbers `set_next_headers` hands backwards through the chain -/
def nFd (e : Ipv6Exts) (num : Nat) : Nat := optNum e.finalDest.isSome 60 num
def nAuth (e : Ipv6Exts) (num : Nat) : Nat := optNum e.auth.isSome 51 (nFd e num)
def nFrag (e : Ipv6Exts) (num : Nat) : Nat := optNum e.fragment.isSome 44 (nAuth e num)
def nRoute (e : Ipv6Exts) (num : Nat) : Nat := optNum e.routing.isSome 43 (nFrag e num)
def nDest (e : Ipv6Exts) (num : Nat) : Nat := optNum e.dest.isSome 60 (nRoute e num)
def nHbh (e : Ipv6Exts) (num : Nat) : Nat := optNum e.hbh.isSome 0 (nDest e num)

theorem nums_ind (P : Nat → Prop) (e : Ipv6Exts) (num : Nat) (h60 : P 60) (h51 : P 51) (h44 : P 44) (h43 : P 43)
    (hn : P num) : P (nFd e num) ∧ P (nAuth e num) ∧ P (nFrag e num) ∧ P (nRoute e num) ∧ P (nDest e num) := by
  have h1 := optNum_ind P e.finalDest.isSome h60 hn
  have h2 := optNum_ind P e.auth.isSome h51 h1
  have h3 := optNum_ind P e.fragment.isSome h44 h2
  have h4 := optNum_ind P e.routing.isSome h43 h3
  exact ⟨h1, h2, h3, h4, optNum_ind P e.dest.isSome h60 h4⟩

theorem setNextHeaders_eq (e : Ipv6Exts) (num : Nat) :
    e.setNextHeaders num =
      ({ hbh := e.hbh.map (rawWithNext · (nDest e num)),
         dest := e.dest.map (rawWithNext · (nRoute e num)),
         routing := e.routing.map fun r =>
           { routing := rawWithNext r.routing (nFrag e num), finalDest := r.finalDest.map (rawWithNext · num) },
         fragment := e.fragment.map (fragWithNext · (nAuth e num)),
         auth := e.auth.map (authWithNext · (nFd e num)) }, nHbh e num) := by
  obtain ⟨hbh, dest, routing, fragment, auth⟩ := e
  cases hbh <;> cases dest <;> cases fragment <;> cases auth <;> rcases routing with _ | ⟨r, _ | fd⟩ <;> rfl

theorem setNextHeaders_wf (e : Ipv6Exts) (last : Nat) (wf : e.WF) (hl : last < 256) :
    (e.setNextHeaders last).1.WF ∧ (e.setNextHeaders last).2 < 256 := by
  obtain ⟨h5, h4, h3, h2, h1⟩ :=
    nums_ind (· < 256) e last (by decide) (by decide) (by decide) (by decide) hl
  obtain ⟨w1, w2, w3, w4, w5⟩ := wf
  rw [setNextHeaders_eq]
  exact ⟨⟨optP_map (fun a w => rawWithNext_wf a _ w h1) w1, optP_map (fun a w => rawWithNext_wf a _ w h2) w2,
    optP_map (fun r w => ⟨rawWithNext_wf _ _ w.1 h3, optP_map (fun a w => rawWithNext_wf a _ w hl) w.2⟩) w3,
    optP_map (fun a w => fragWithNext_wf a _ w h4) w4, optP_map (fun a w => authWithNext_wf a _ w h5) w5⟩,
    optNum_ind (· < 256) _ (by decide) h1⟩

theorem setNextHeaders_headerLen (e : Ipv6Exts) (last : Nat) :
    (e.setNextHeaders last).1.headerLen = e.headerLen := by
  rw [setNextHeaders_eq]
  obtain ⟨hbh, dest, routing, fragment, auth⟩ := e
  unfold headerLen
  dsimp only
  congr 1; congr 1; congr 1; congr 1
  · cases hbh <;> rfl
  · cases dest <;> rfl
  · rcases routing with _ | ⟨r, _ | fd⟩ <;> rfl
  · cases fragment <;> rfl
  · cases auth <;> rfl

theorem rawExt_len (h : Ipv6RawExtHeader) (wf : h.WF) : h.toBytes.length = h.headerLen := by
  rw [CodecNet.RawExt.toBytes_length h wf, CodecNet.RawExt.headerLen_eq h wf]
theorem auth_len (h : IpAuthHeader) (wf : h.WF) : h.toBytes.length = h.headerLen := by
  rw [CodecNet.Auth.toBytes_length h wf, CodecNet.Auth.headerLen_eq h wf]

theorem stdBytes_length (e : Ipv6Exts) (wf : e.WF) : (stdBytes e).length = e.headerLen := by
  obtain ⟨w1, w2, w3, w4, w5⟩ := wf
  obtain ⟨hbh, dest, routing, fragment, auth⟩ := e
  rw [stdBytes_eq]
  unfold headerLen finalDest
  simp only [List.length_append, optB_length rawExt_len w1, optB_length rawExt_len w2,
    optB_length (l := Ipv6FragmentHeader.headerLen) (fun a _ => CodecNet.Ipv6Frag.toBytes_length a) w4,
    optB_length auth_len w5]
  rcases routing with _ | r
  · rfl
  · simp only [optB_some, rawExt_len _ w3.1, optB_length rawExt_len w3.2]
    omega

end Exts

theorem eth2_len (h : Eth2) (hd : h.dst.length = 6) (hs : h.src.length = 6) : (Eth2.toBytes h).length = 14 := by
  simp [Eth2.toBytes, hd, hs]
theorem sll_len (h : Sll) (ha : h.addr.length = 8) : (Sll.toBytes h).length = 16 := by
  simp [Sll.toBytes, ha]
theorem vlan_len (h : Vlan) : (Vlan.toBytes h).length = 4 := by simp [Vlan.toBytes]
theorem udp_len (h : Udp) : (Udp.toBytes h).length = 8 := by simp [Udp.toBytes]
theorem tcp_len (h : Tcp) (hb : h.opts.buf.length = 40) (hl : h.opts.len ≤ 40) :
    (Tcp.toBytes h).length = 20 + h.opts.len := by
  rw [EpModel.Props.C08Link.Tcp.toBytes_eq]
  simp [EpModel.Props.C08Link.Tcp.fixed_length, hb]; omega
theorem icmp4_len (h : Icmp4) (ok : icmp4LenOk h.ty) : (Icmp4.toBytes h).length = h.headerLen := by
  obtain ⟨ty, ck⟩ := h
  cases ty <;> simp_all [Icmp4.toBytes, Icmp4.headerLen, icmp4LenOk, Icmp4.re4u8, Icmp4.re2u16, Icmp4.reZero,
    Icmp4.reTimestamp, Codec.zeros] <;> (try split) <;> simp
theorem icmp6_len (h : Icmp6) (ok : icmp6LenOk h.ty) : (Icmp6.toBytes h).length = 8 := by
  obtain ⟨ty, ck⟩ := h
  cases ty <;> simp_all [Icmp6.toBytes, icmp6LenOk, Icmp6.return4u8, Icmp6.returnTrivial, Codec.zeros,
    Icmp6.raBytes, Icmp6.naBytes]
theorem arp_len (h : Arp) (wf : h.WF) : (Arp.toBytes h).length = h.headerLen := by
  obtain ⟨_, _, _, a, b, c, d⟩ := wf
  simp [Arp.toBytes, Arp.headerLen, Arp.hwSize, Arp.protoSize]
  omega
theorem ipv4_len (h : Ipv4Header) (hs : h.source.length = 4) (hd : h.destination.length = 4)
    (ho : h.options.length ≤ 40) : h.toBytes.length = 20 + h.options.length := by
  simp [Ipv4Header.toBytes, Ipv4Header.optBuf, Ipv4Header.headerLen, hs, hd, CodecNet.zeros]
  omega
theorem ipv4_options_le {h : Ipv4Header} (wf : h.WF) : h.options.length ≤ 40 := by
  obtain ⟨_, _, _, _, _, _, _, _, _, _, ho, _⟩ := wf
  exact ho

theorem tcp_opts_wf {h : Tcp} (wf : h.WF) : h.opts.WF := by
  obtain ⟨_, _, _, _, _, _, _, wo⟩ := wf
  exact wo

theorem ipv6_len (h : Ipv6Header) (hs : h.source.length = 16) (hd : h.destination.length = 16) :
    h.toBytes.length = 40 := by
  simp [Ipv6Header.toBytes, hs, hd]

def endNum (c : Cfg) : Nat := match c.tp with | some t => t.ipNumber | none => c.last

def firstEt (vlan : Option VlanH) (netEt : Nat) : Nat :=
  match vlan with
  | some (.single _) => 0x8100
  | some (.double _ _) => 0x88a8
  | none => netEt

/-- the link header as emitted -/
def outLinkOf (link : Option Link) (vlan : Option VlanH) (netEt : Nat) : Bytes :=
  match link with
  | none => []
  | some (.eth2 h) => Eth2.toBytes { dst := h.dst, src := h.src, et := firstEt vlan netEt }
  | some (.sll s) =>
    Sll.toBytes { ptype := s.ptype, hrd := s.hrd, alen := s.alen, addr := s.addr,
                  proto := sllChangeValue s.proto netEt }

def outLink (c : Cfg) : Bytes := outLinkOf c.link c.vlan c.net.etherType

def outVlan (c : Cfg) : Bytes := vlanBytes c.vlan c.net.etherType

/-- IPv4 header as emitted: total length, protocol, checksum derived -/
def ipv4Out (ip : Ipv4Header) (e : Ipv4Extensions) (num inner : Nat) : Ipv4Header :=
  let h : Ipv4Header :=
    { ip with totalLen := (ip.headerLen + inner) % 65536, protocol := (ipv4ExtsSetNextHeaders e num).2 }
  { h with headerChecksum := h.calcHeaderChecksum }

def ipv4ExtsOut (e : Ipv4Extensions) (num : Nat) : Bytes :=
  match e.auth with
  | some h => (Ipv6Exts.authWithNext h num).toBytes
  | none => []

/-- IPv6 header as emitted -/
def ipv6Out (ip : Ipv6Header) (e : Ipv6Exts) (num inner : Nat) : Ipv6Header :=
  { ip with payloadLength := inner % 65536, nextHeader := (e.setNextHeaders num).2 }

def ipv6ExtsOut (e : Ipv6Exts) (num : Nat) : Bytes := stdBytes (e.setNextHeaders num).1

theorem linkBytes_ok (link : Option Link) (vlan : Option VlanH) (et : Nat) (wf : optP Link.WF link) :
    linkBytes link vlan et = .ok (outLinkOf link vlan et) := by
  unfold linkBytes outLinkOf firstEt
  rcases link with _ | ⟨h | s⟩
  · rfl
  · rcases vlan with _ | ⟨v | ⟨o, i⟩⟩ <;> rfl
  · have : s.hrd = 1 := wf.2
    simp [this]

/-- checksum the builder stores into the transport header over IPv4 -/
def ck4 (t : Tp) (ip : Ipv4Header) (p : Bytes) : Nat :=
  match t with
  | .udp h => udpPostIp h [ip.source, ip.destination, [0, 17], enc16 h.len] p
  | .tcp h => tcpPostIp h [ip.source, ip.destination, [0, 6], enc16 (h.headerLen + p.length)] p
  | .icmp4 h => icmp4Checksum h.ty p
  | .icmp6 h => h.ck

/-- checksum the builder stores into the transport header over IPv6 -/
def ck6 (t : Tp) (ip : Ipv6Header) (p : Bytes) : Nat :=
  match t with
  | .udp h => udpPostIp h (split16 ip.source ++ split16 ip.destination ++ [[0, 17], enc16 h.len]) p
  | .tcp h =>
    tcpPostIp h (split16 ip.source ++ split16 ip.destination ++ [enc32 (h.headerLen + p.length), [0, 6]]) p
  | .icmp4 h => icmp4Checksum h.ty p
  | .icmp6 h =>
    swap16 (onesComplement64 (addSlice64
      (addParts 0 (split16 ip.source ++ split16 ip.destination ++ [[0, 58], enc32 (p.length + 8)]
                    ++ icmp6Parts h.ty)) p))

theorem updateChecksumIpv4_ok (t : Tp) (ip : Ipv4Header) (p : Bytes)
    (h6 : isIcmp6 (some t) = false) (hlen : t.headerLen + p.length ≤ 65535) (wf : t.WF) :
    updateChecksumIpv4 t ip p = .ok (withCk t (ck4 t ip p)) := by
  cases t with
  | udp h =>
    have : ¬ (65535 - 8 < p.length) := by simp [Tp.headerLen, Udp.headerLen] at hlen; omega
    simp [updateChecksumIpv4, udpChecksumIpv4, this, ck4]
  | tcp h =>
    simp only [Tp.headerLen] at hlen
    have h1 : ¬ (65535 - h.headerLen < p.length) := by omega
    have h2 : h.headerLen % 65536 + p.length % 65536 = h.headerLen + p.length := by omega
    have h3 : ¬ (65536 ≤ h.headerLen + p.length) := by omega
    simp [updateChecksumIpv4, tcpChecksumIpv4, h1, h2, h3, ck4]
  | icmp4 h => simp [updateChecksumIpv4, ck4]
  | icmp6 h => simp [isIcmp6] at h6

theorem updateChecksumIpv6_ok (t : Tp) (ip : Ipv6Header) (p : Bytes)
    (hlen : t.headerLen + p.length ≤ 65535) :
    updateChecksumIpv6 t ip p = .ok (withCk t (ck6 t ip p)) := by
  cases t with
  | udp h =>
    have : ¬ (4294967295 - 8 < p.length) := by simp [Tp.headerLen, Udp.headerLen] at hlen; omega
    simp [updateChecksumIpv6, udpChecksumIpv6, this, ck6]
  | tcp h =>
    simp only [Tp.headerLen] at hlen
    have h1 : ¬ (4294967295 - h.headerLen < p.length) := by omega
    have h2 : h.headerLen % 65536 + p.length % 4294967296 = h.headerLen + p.length := by omega
    have h3 : ¬ (4294967296 ≤ h.headerLen + p.length) := by omega
    simp [updateChecksumIpv6, tcpChecksumIpv6, h1, h2, h3, ck6]
  | icmp4 h => simp [updateChecksumIpv6, ck6]
  | icmp6 h =>
    simp only [Tp.headerLen, Icmp6.headerLen] at hlen
    have h1 : ¬ (4294967295 - 8 < p.length) := by omega
    have h2 : (p.length + 8) % 4294967296 = p.length + 8 := by omega
    simp [updateChecksumIpv6, icmp6Checksum, h1, h2, ck6]

/-- the net layer as emitted (header with derived fields, then the extension headers) -/
def outNet (c : Cfg) (n : Nat) : Bytes :=
  match c.net with
  | .arp a => a.toBytes
  | .ipv4 ip e => (ipv4Out ip e (endNum c) (innerLen c n)).toBytes ++ ipv4ExtsOut e (endNum c)
  | .ipv6 ip e => (ipv6Out ip e (endNum c) (innerLen c n)).toBytes ++ ipv6ExtsOut e (endNum c)

/-- the transport header as emitted (UDP length set, checksum computed) -/
def outTpHeader (c : Cfg) (p : Bytes) : Option Tp :=
  match setUdpLen c.tp p.length with
  | none => none
  | some t =>
    match c.net with
    | .arp _ => some t
    | .ipv4 ip e => some (withCk t (ck4 t (ipv4Out ip e (endNum c) (innerLen c p.length)) p))
    | .ipv6 ip e => some (withCk t (ck6 t (ipv6Out ip e (endNum c) (innerLen c p.length)) p))

def buildOk (c : Cfg) (p : Bytes) : Bytes :=
  outLink c ++ outVlan c ++ outNet c p.length ++ tpBytes (outTpHeader c p) ++ p

theorem setUdpLen_headerLen (tp : Option Tp) (n : Nat) : tpHeaderLen (setUdpLen tp n) = tpHeaderLen tp := by
  rcases tp with _ | ⟨h | h | h | h⟩ <;> rfl

theorem setUdpLen_isIcmp6 (tp : Option Tp) (n : Nat) : isIcmp6 (setUdpLen tp n) = isIcmp6 tp := by
  rcases tp with _ | ⟨h | h | h | h⟩ <;> rfl

theorem ipv4ExtsSet_headerLen (e : Ipv4Extensions) (num : Nat) :
    (ipv4ExtsSetNextHeaders e num).1.headerLen = e.headerLen := by
  rcases e with ⟨_ | h⟩ <;> rfl

theorem ipv4Exts_write (e : Ipv4Extensions) (num : Nat) :
    (ipv4ExtsSetNextHeaders e num).1.writeOut (ipv4ExtsSetNextHeaders e num).2 = .ok (ipv4ExtsOut e num) := by
  rcases e with ⟨_ | h⟩ <;> simp [ipv4ExtsSetNextHeaders, Ipv4Extensions.writeOut, ipv4ExtsOut, ipNumberAuth]

/-- `udp.length = (8 + n) as u16` on a transport header -/
def setLenT (t : Tp) (n : Nat) : Tp :=
  match t with
  | .udp u => .udp { sp := u.sp, dp := u.dp, len := (8 + n) % 65536, ck := u.ck }
  | x => x

theorem setUdpLen_some (t : Tp) (n : Nat) : setUdpLen (some t) n = some (setLenT t n) := by
  cases t <;> rfl
theorem setLenT_headerLen (t : Tp) (n : Nat) : (setLenT t n).headerLen = t.headerLen := by cases t <;> rfl
theorem setLenT_ipNumber (t : Tp) (n : Nat) : (setLenT t n).ipNumber = t.ipNumber := by cases t <;> rfl
theorem setLenT_isIcmp6 (t : Tp) (n : Nat) : isIcmp6 (some (setLenT t n)) = isIcmp6 (some t) := by cases t <;> rfl
theorem setLenT_wf (t : Tp) (n : Nat) (wf : t.WF) : (setLenT t n).WF := by
  cases t with
  | udp u => obtain ⟨a, b, _, d⟩ := wf; exact ⟨a, b, Nat.mod_lt _ (by omega), d⟩
  | _ => exact wf

theorem ipv4Arm_some (pre : Bytes) (ip : Ipv4Header) (e : Ipv4Extensions) (t : Tp) (p : Bytes)
    (hopt : ip.options.length ≤ 40)
    (hmax : 20 + ip.options.length + (e.headerLen + t.headerLen + p.length) ≤ 65535)
    (h6 : isIcmp6 (some t) = false) (wt : t.WF) :
    ipv4Arm pre ip e (some t) p
      = .ok (pre ++ (ipv4Out ip e t.ipNumber (e.headerLen + t.headerLen + p.length)).toBytes
              ++ ipv4ExtsOut e t.ipNumber
              ++ (withCk t (ck4 t (ipv4Out ip e t.ipNumber (e.headerLen + t.headerLen + p.length)) p)).toBytes
              ++ p) := by
  have hm : ¬ (e.headerLen + t.headerLen + p.length > 65535 - ip.options.length % 256 - 20) := by omega
  have hlen : t.headerLen + p.length ≤ 65535 := by omega
  simp [ipv4Arm, ipv4SetPayloadLen, Ipv4Header.optLenU8, tpHeaderLen, hm, ipv4Exts_write,
    updateChecksumIpv4_ok _ _ _ h6 hlen wt, ipv4Out, Ipv4Header.headerLen]

theorem ipv6Arm_some (pre : Bytes) (ip : Ipv6Header) (e : Ipv6Exts) (t : Tp) (p : Bytes)
    (hmax : e.headerLen + t.headerLen + p.length ≤ 65535) :
    ipv6Arm pre ip e (some t) p
      = .ok (pre ++ (ipv6Out ip e t.ipNumber (e.headerLen + t.headerLen + p.length)).toBytes
              ++ ipv6ExtsOut e t.ipNumber
              ++ (withCk t (ck6 t (ipv6Out ip e t.ipNumber (e.headerLen + t.headerLen + p.length)) p)).toBytes
              ++ p) := by
  have hm : ¬ (65535 < e.headerLen + t.headerLen + p.length) := by omega
  have hlen : t.headerLen + p.length ≤ 65535 := by omega
  simp [ipv6Arm, ipv6SetPayloadLength, tpHeaderLen, hm, write_after_set,
    updateChecksumIpv6_ok _ _ _ hlen, ipv6Out, ipv6ExtsOut]

/-- the failure of a configuration that is not encodable: which error, and what has been handed
    to the writer before it (link and VLAN header; for ICMPv6 in IPv4 also the IPv4 header and its
    extension header, because the transport checksum is computed after they are written). -/
def buildFail (c : Cfg) (p : Bytes) : BuildFail :=
  match c.net with
  | .arp _ => { err := .panic "ARP is always encodable", written := [] }
  | .ipv4 ip _ =>
    if 20 + ip.options.length + innerLen c p.length ≤ 65535 then
      { err := .icmpv6InIpv4, written := outLink c ++ outVlan c ++ outNet c p.length }
    else
      { err := .payloadLen { actual := innerLen c p.length, maxAllowed := 65535 - ip.options.length - 20,
                             ty := "Ipv4PayloadLength" },
        written := outLink c ++ outVlan c }
  | .ipv6 _ _ =>
    { err := .payloadLen { actual := innerLen c p.length, maxAllowed := 65535, ty := "Ipv6PayloadLength" },
      written := outLink c ++ outVlan c }

section
-- the closed-form definitions that `build_ok` and `build_err` unfold
attribute [local simp] build finalWriteWithNet rawPrep Net.etherType buildOk buildFail outNet outTpHeader
  outVlan outLink endNum innerLen Net.extsLen tpBytes tpHeaderLen

theorem build_ok (c : Cfg) (p : Bytes) (wf : c.WF) (enc : Encodable c p.length) :
    build c p = .ok (buildOk c p) := by
  obtain ⟨wl, wv, wn, wt, wlast⟩ := wf
  obtain ⟨link, vlan, net, tp, last⟩ := c
  simp only at wl wv wn wt wlast
  cases net with
  | arp a =>
    have hp : rawPrep { link := link, vlan := vlan, net := .arp a, tp := tp, last := last }
        = { link := link, vlan := vlan, net := .arp a, tp := tp, last := last } := by
      cases tp <;> rfl
    unfold build finalWriteWithNet
    rw [hp]
    simp only []
    rw [linkBytes_ok _ _ _ wl]
    simp only [buildOk, outNet, outTpHeader, outVlan, outLink]
    cases setUdpLen tp p.length <;> simp
  | ipv4 ip e =>
    simp only [Encodable, innerLen, Net.extsLen] at enc
    obtain ⟨enc1, enc2⟩ := enc
    have hmax : ¬ (e.headerLen + tpHeaderLen tp + p.length > 65535 - ip.options.length % 256 - 20) := by
      have := ipv4_options_le wn.1
      omega
    cases tp with
    | none =>
      have hmax' : ¬ (e.headerLen + p.length > 65535 - ip.options.length % 256 - 20) := by
        simpa [tpHeaderLen] using hmax
      have hx := ipv4ExtsSet_headerLen e last
      simp [linkBytes_ok _ _ _ wl, ipv4Arm, setUdpLen, ipv4SetPayloadLen, Ipv4Header.optLenU8, hmax', hx,
        ipv4Exts_write, ipv4Out, Ipv4Header.headerLen]
    | some t =>
      have hopt := ipv4_options_le wn.1
      have h := ipv4Arm_some (outLinkOf link vlan 2048 ++ vlanBytes vlan 2048) ip e (setLenT t p.length) p hopt
        (by rw [setLenT_headerLen]; simpa [tpHeaderLen] using enc1)
        (by rw [setLenT_isIcmp6]; exact enc2) (setLenT_wf _ _ wt)
      simp only [setLenT_headerLen, setLenT_ipNumber] at h
      simp [linkBytes_ok _ _ _ wl, setUdpLen_some, h]
  | ipv6 ip e =>
    simp only [Encodable, innerLen, Net.extsLen] at enc
    cases tp with
    | none =>
      have hm : ¬ (65535 < e.headerLen + p.length) := by simpa [tpHeaderLen] using enc
      simp [linkBytes_ok _ _ _ wl, ipv6Arm, setUdpLen, ipv6SetPayloadLength, hm, setNextHeaders_headerLen,
        write_after_set, ipv6Out, ipv6ExtsOut]
    | some t =>
      have h := ipv6Arm_some (outLinkOf link vlan 0x86dd ++ vlanBytes vlan 0x86dd) ip e (setLenT t p.length) p
        (by rw [setLenT_headerLen]; simpa [tpHeaderLen] using enc)
      simp only [setLenT_headerLen, setLenT_ipNumber] at h
      simp [linkBytes_ok _ _ _ wl, setUdpLen_some, h]

theorem rawPrep_some (c : Cfg) (t : Tp) (h : c.tp = some t) : rawPrep c = c := by
  obtain ⟨link, vlan, net, tp, last⟩ := c
  simp only at h; subst h
  cases net <;> rfl

theorem build_err (c : Cfg) (p : Bytes) (wf : c.WF) (nenc : ¬ Encodable c p.length) :
    build c p = .error (buildFail c p) := by
  obtain ⟨wl, wv, wn, wt, wlast⟩ := wf
  obtain ⟨link, vlan, net, tp, last⟩ := c
  simp only at wl wv wn wt wlast
  cases net with
  | arp a => exact absurd trivial nenc
  | ipv4 ip e =>
    simp only [Encodable, innerLen, Net.extsLen] at nenc
    have hopt := ipv4_options_le wn.1
    by_cases hfit : 20 + ip.options.length + (e.headerLen + tpHeaderLen tp + p.length) ≤ 65535
    · -- fits: the transport header is ICMPv6
      have h6 : isIcmp6 tp = true := by
        cases hh : isIcmp6 tp
        · exact absurd ⟨hfit, hh⟩ nenc
        · rfl
      rcases tp with _ | ⟨h | h | h | h⟩ <;> simp [isIcmp6] at h6
      have hfit' : 20 + ip.options.length + (e.headerLen + 8 + p.length) ≤ 65535 := by
        simpa [tpHeaderLen, Tp.headerLen, Icmp6.headerLen] using hfit
      have hm : ¬ (e.headerLen + 8 + p.length > 65535 - ip.options.length % 256 - 20) := by omega
      simp [linkBytes_ok _ _ _ wl, setUdpLen, ipv4Arm, ipv4SetPayloadLen, Ipv4Header.optLenU8, Tp.headerLen,
        Icmp6.headerLen, hm, ipv4Exts_write, updateChecksumIpv4, hfit', ipv4Out, Ipv4Header.headerLen]
    · have hx := ipv4ExtsSet_headerLen e last
      cases tp with
      | none =>
        have hfit' : ¬ 20 + ip.options.length + (e.headerLen + p.length) ≤ 65535 := by
          simpa [tpHeaderLen] using hfit
        have e1 : ip.options.length % 256 = ip.options.length := by omega
        have hm : 65535 - ip.options.length - 20 < e.headerLen + p.length := by omega
        simp [linkBytes_ok _ _ _ wl, setUdpLen, ipv4Arm, ipv4SetPayloadLen, Ipv4Header.optLenU8, e1, hm, hx, hfit']
      | some t =>
        have hfit' : ¬ 20 + ip.options.length + (e.headerLen + t.headerLen + p.length) ≤ 65535 := by
          simpa [tpHeaderLen] using hfit
        have e1 : ip.options.length % 256 = ip.options.length := by omega
        have hm : 65535 - ip.options.length - 20 < e.headerLen + t.headerLen + p.length := by omega
        simp [linkBytes_ok _ _ _ wl, setUdpLen_some, ipv4Arm, ipv4SetPayloadLen, Ipv4Header.optLenU8,
          setLenT_headerLen, e1, hm, hfit']
  | ipv6 ip e =>
    simp only [Encodable, innerLen, Net.extsLen] at nenc
    cases tp with
    | none =>
      have hm : 65535 < e.headerLen + p.length := by simp at nenc; omega
      simp [linkBytes_ok _ _ _ wl, setUdpLen, ipv6Arm, ipv6SetPayloadLength, hm, setNextHeaders_headerLen]
    | some t =>
      have hm : 65535 < e.headerLen + t.headerLen + p.length := by simp at nenc; omega
      simp [linkBytes_ok _ _ _ wl, setUdpLen_some, ipv6Arm, ipv6SetPayloadLength, setLenT_headerLen, hm]

end

theorem withCk_len (t : Tp) (ck : Nat) (wf : t.WF) : (withCk t ck).toBytes.length = t.headerLen := by
  cases t with
  | udp h => simp [withCk, Tp.toBytes, Tp.headerLen, udp_len, Udp.headerLen]
  | tcp h =>
    obtain ⟨_, _, _, _, _, _, _, ho1, _, ho3, _⟩ := wf
    simp only [withCk, Tp.toBytes, Tp.headerLen, Tcp.headerLen]
    exact tcp_len _ ho3 ho1
  | icmp4 h => simp [withCk, Tp.toBytes, Tp.headerLen]; exact icmp4_len _ wf
  | icmp6 h => simp [withCk, Tp.toBytes, Tp.headerLen, Icmp6.headerLen]; exact icmp6_len _ wf

theorem tp_len (t : Tp) (wf : t.WF) : t.toBytes.length = t.headerLen := by
  cases t with
  | udp h => exact withCk_len (.udp h) h.ck wf
  | tcp h => exact withCk_len (.tcp h) h.ck wf
  | icmp4 h => exact withCk_len (.icmp4 h) h.ck wf
  | icmp6 h => exact withCk_len (.icmp6 h) h.ck wf

theorem outTp_len (c : Cfg) (p : Bytes) (wf : optP Tp.WF c.tp) :
    (tpBytes (outTpHeader c p)).length = tpHeaderLen c.tp := by
  unfold outTpHeader
  rcases htp : c.tp with _ | t
  · simp [setUdpLen, tpBytes, tpHeaderLen]
  · rw [htp] at wf
    have w := setLenT_wf t p.length wf
    rw [setUdpLen_some]
    cases c.net <;> simp [tpBytes, tpHeaderLen, withCk_len _ _ w, tp_len _ w, setLenT_headerLen]

end EpModel.Lemmas.Builder

namespace EpModel.Lemmas.BuilderParse
open EpModel.Codec EpModel.CodecNet EpModel.Builder

def netLen (c : Cfg) : Nat :=
  match c.net with
  | .ipv4 h e => 20 + h.options.length + e.headerLen
  | .ipv6 _ e => 40 + e.headerLen
  | .arp a => a.headerLen

def vlanLen (c : Cfg) : Nat :=
  match c.vlan with
  | some (.single _) => 4
  | some (.double _ _) => 8
  | none => 0

def linkLen (c : Cfg) : Nat :=
  match c.link with
  | some (.eth2 _) => 14
  | some (.sll _) => 16
  | none => 0

end EpModel.Lemmas.BuilderParse

namespace EpModel.Lemmas.Builder
open EpModel EpModel.Codec EpModel.CodecNet EpModel.Builder EpModel.Checksum EpModel.Lemmas.BuilderParse

theorem outLink_len (c : Cfg) (wf : optP Link.WF c.link) : (outLink c).length = linkLen c := by
  unfold outLink outLinkOf linkLen
  rcases hl : c.link with _ | ⟨h | s⟩
  · rfl
  · rw [hl] at wf
    exact eth2_len _ wf.1 wf.2.1
  · rw [hl] at wf
    obtain ⟨⟨_, _, _, ha, _⟩, _⟩ := wf
    exact sll_len _ ha

theorem outVlan_len (c : Cfg) : (outVlan c).length = vlanLen c := by
  unfold outVlan vlanBytes vlanLen
  rcases c.vlan with _ | ⟨v | ⟨o, i⟩⟩ <;> simp [vlan_len]

theorem ipv4ExtsOut_len (e : Ipv4Extensions) (num : Nat) (wf : optP IpAuthHeader.WF e.auth) (hn : num < 256) :
    (ipv4ExtsOut e num).length = e.headerLen := by
  rcases e with ⟨_ | h⟩
  · rfl
  · have w := authWithNext_wf h num wf hn
    simp only [ipv4ExtsOut, Ipv4Extensions.headerLen, CodecNet.Auth.headerLen_eq _ wf]
    exact CodecNet.Auth.toBytes_length _ w

theorem endNum_lt (c : Cfg) (wf : c.WF) : endNum c < 256 := by
  unfold endNum
  rcases c.tp with _ | ⟨h | h | h | h⟩ <;> simp [Tp.ipNumber, wf.2.2.2.2]

theorem netEt_lt (c : Cfg) : c.net.etherType < 65536 := by cases c.net <;> simp [Net.etherType]

theorem firstEt_lt (c : Cfg) : firstEt c.vlan c.net.etherType < 65536 := by
  unfold firstEt
  rcases c.vlan with _ | ⟨v | ⟨o, i⟩⟩
  · exact netEt_lt c
  · exact (by decide : 0x8100 < 65536)
  · exact (by decide : 0x88a8 < 65536)

theorem outNet_len (c : Cfg) (n : Nat) (wf : c.WF) : (outNet c n).length = netLen c := by
  have hn := endNum_lt c wf
  obtain ⟨_, _, wn, _, _⟩ := wf
  unfold outNet netLen
  cases hnet : c.net with
  | arp a => rw [hnet] at wn; simp [arp_len a wn]
  | ipv4 ip e =>
    rw [hnet] at wn
    obtain ⟨⟨_, _, _, _, _, _, _, _, hs, hd, ho, _⟩, we⟩ := wn
    simp only [List.length_append, ipv4ExtsOut_len e _ we hn]
    rw [ipv4_len (ipv4Out ip e (endNum c) (innerLen c n)) hs hd ho]
    rfl
  | ipv6 ip e =>
    rw [hnet] at wn
    obtain ⟨⟨_, _, _, _, _, hs, hd⟩, we⟩ := wn
    simp only [List.length_append, ipv6ExtsOut, stdBytes_length _ (setNextHeaders_wf e (endNum c) we hn).1,
      setNextHeaders_headerLen]
    rw [ipv6_len (ipv6Out ip e (endNum c) (innerLen c n)) hs hd]

/-- `tpHeaderLen` in the form `size` spells it out -/
theorem tpHeaderLen_eq (tp : Option Tp) :
    tpHeaderLen tp = match tp with
      | some (.icmp4 h) => h.headerLen | some (.icmp6 h) => h.headerLen | some (.udp _) => 8
      | some (.tcp h) => h.headerLen | none => 0 := by
  rcases tp with _ | ⟨h | h | h | h⟩ <;> rfl

theorem buildOk_length (c : Cfg) (p : Bytes) (wf : c.WF) : (buildOk c p).length = size c p.length := by
  unfold buildOk size
  simp only [List.length_append, outLink_len c wf.1, outVlan_len c, outNet_len c p.length wf,
    outTp_len c p wf.2.2.2.1, tpHeaderLen_eq]
  rfl

end EpModel.Lemmas.Builder
