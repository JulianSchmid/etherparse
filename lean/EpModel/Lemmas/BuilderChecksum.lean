import EpModel.Lemmas.Builder
import EpModel.Props.C09
/- C10: the protocol checksum chains of the builder are RFC 1071 checksums (via C09). -/
namespace EpModel.Lemmas.Builder
open EpModel EpModel.Codec EpModel.CodecNet EpModel.Builder EpModel.Checksum EpModel.Spec
open EpModel.Lemmas.Checksum

/-- an `add_2bytes` / `add_4bytes` / `add_8bytes` call is `add_slice` of the same bytes -/
theorem add_eq_slice (s : Nat) (p : Bytes) (h : p.length = 2 ∨ p.length = 4 ∨ p.length = 8) :
    addCarry 64 s (leVal p) = addSlice64 s p := by
  match p, h with
  | [a, b], _ =>
    rw [addSlice64]; simp [tail64, add2_64, sub]
  | [a, b, c, d], _ =>
    rw [addSlice64]; simp [tail64, add4_64]
  | [a, b, c, d, e, f, g, i], _ =>
    rw [addSlice64]; simp [add8_64, addSlice64_nil]
  | [], h | [_], h | [_, _, _], h | [_, _, _, _, _], h | [_, _, _, _, _, _], h
  | [_, _, _, _, _, _, _], h => simp at h
  | _ :: _ :: _ :: _ :: _ :: _ :: _ :: _ :: _ :: _, h => simp at h

def PartOk (p : Bytes) : Prop := p.length = 2 ∨ p.length = 4 ∨ p.length = 8

theorem addParts_eq_foldl (parts : List Bytes) (s : Nat) (h : ∀ p ∈ parts, PartOk p) :
    addParts s parts = parts.foldl addSlice64 s := by
  induction parts generalizing s with
  | nil => rfl
  | cons p ps ih =>
    simp only [addParts, List.foldl_cons]
    rw [add_eq_slice s p (h p (by simp))]
    exact ih _ (fun q hq => h q (by simp [hq]))

theorem partOk_even {p : Bytes} (h : PartOk p) : p.length % 2 = 0 := by
  rcases h with h | h | h <;> omega

/-- a chain of fixed-size adds followed by one slice: the RFC 1071 checksum of the concatenation -/
theorem chain_eq (parts : List Bytes) (last : Bytes) (h : ∀ p ∈ parts, PartOk p) :
    swap16 (onesComplement64 (addSlice64 (addParts 0 parts) last)) = Spec.checksum (parts.flatten ++ last) := by
  rw [addParts_eq_foldl parts 0 h, ← EpModel.Props.C09.parts_even parts last (fun p hp => partOk_even (h p hp))]
  simp [List.foldl_append]

/-- … followed by two slices, the first of even length (TCP: options, payload) -/
theorem chain_eq2 (parts : List Bytes) (mid last : Bytes) (h : ∀ p ∈ parts, PartOk p) (hm : mid.length % 2 = 0) :
    swap16 (onesComplement64 (addSlice64 (addSlice64 (addParts 0 parts) mid) last))
      = Spec.checksum (parts.flatten ++ mid ++ last) := by
  rw [addParts_eq_foldl parts 0 h]
  have := EpModel.Props.C09.parts_even (parts ++ [mid]) last (by
    intro p hp
    simp only [List.mem_append, List.mem_singleton] at hp
    rcases hp with hp | hp
    · exact partOk_even (h p hp)
    · rw [hp]; exact hm)
  simp only [List.foldl_append, List.foldl_cons, List.foldl_nil, List.flatten_append, List.flatten_cons,
    List.flatten_nil, List.append_nil] at this
  exact this

theorem checksum_congr (a b : Bytes) (h : beWords a = beWords b) : Spec.checksum a = Spec.checksum b := by
  unfold Spec.checksum; rw [ocSum_eq_fold, ocSum_eq_fold, h]

/-- a zero 16 bit word at an even offset does not change the checksum (the checksum field itself) -/
theorem checksum_insert_zero (a b : Bytes) (ha : a.length % 2 = 0) :
    Spec.checksum (a ++ [0, 0] ++ b) = Spec.checksum (a ++ b) := by
  apply checksum_congr
  rw [List.append_assoc, beWords_append_even a _ ha, beWords_append_even a _ ha]
  simp [beWords]


theorem swap16_noZero (s : Nat) :
    swap16 (onesComplementNoZero64 s) = noZero (swap16 (onesComplement64 s)) := by
  have hb : onesComplement64 s ≤ 65535 := by unfold onesComplement64; simp only; omega
  unfold onesComplementNoZero64
  generalize onesComplement64 s = v at hb
  by_cases hv : v = 0
  · subst hv; decide
  · have h1 : swap16 v ≠ 0 := by unfold swap16; omega
    simp [noZero, hv, h1]

theorem split16_ok (v : Bytes) (h : v.length = 16) : ∀ p ∈ split16 v, PartOk p := by
  intro p hp
  simp only [split16, List.mem_cons, List.not_mem_nil, or_false] at hp
  rcases hp with hp | hp <;> rw [hp] <;> simp [PartOk, h]

theorem split16_flatten (v : Bytes) : (split16 v).flatten = v := by simp [split16]

theorem split16_flatten_app (a : Bytes) (rest : List Bytes) :
    (split16 a ++ rest).flatten = a ++ rest.flatten := by
  simp only [split16, List.cons_append, List.nil_append, List.flatten_cons]
  rw [← List.append_assoc, List.take_append_drop]

theorem enc16_ok (n : Nat) : PartOk (enc16 n) := .inl rfl
theorem enc32_ok (n : Nat) : PartOk (enc32 n) := .inr (.inl rfl)

/-- pseudo header words the crate adds for IPv4 / IPv6 (the IPv6 form has the same 16 bit words as
    RFC 8200 8.1: the upper half of the 32 bit length and the three zero bytes add nothing) -/
def pseudo4 (ip : Ipv4Header) (num len : Nat) : Bytes := ip.source ++ ip.destination ++ [0, u8 num] ++ enc16 len

/-- UDP over IPv4 in header-byte form: the stored value is the RFC 768 checksum over pseudo header,
    UDP header with a zero checksum field, and payload (0 transmitted as 0xffff). -/
theorem udp4_bytes (h : Udp) (ip : Ipv4Header) (p : Bytes) (hs : ip.source.length = 4)
    (hd : ip.destination.length = 4) :
    ck4 (.udp h) ip p
      = noZero (Spec.checksum (ip.source ++ ip.destination ++ [0, 17] ++ enc16 h.len
                                ++ Udp.toBytes { sp := h.sp, dp := h.dp, len := h.len, ck := 0 } ++ p)) := by
  have e0 : enc16 0 = [0, 0] := by decide
  have := checksum_insert_zero (ip.source ++ ip.destination ++ [0, 17] ++ enc16 h.len
      ++ (enc16 h.sp ++ enc16 h.dp ++ enc16 h.len)) p (by
        simp only [List.length_append, enc16_length, hs, hd, List.length_cons, List.length_nil])
  simp only [ck4, udpPostIp, swap16_noZero, Udp.toBytes, e0]
  rw [chain_eq _ _ (by simp [PartOk, hs, hd])]
  simp only [List.append_assoc] at this ⊢
  rw [this]
  simp

theorem udp6_words (h : Udp) (ip : Ipv6Header) (p : Bytes) (hs : ip.source.length = 16)
    (hd : ip.destination.length = 16) :
    ck6 (.udp h) ip p
      = noZero (Spec.checksum (ip.source ++ ip.destination ++ [0, 17] ++ enc16 h.len
                                ++ (enc16 h.sp ++ enc16 h.dp ++ enc16 h.len) ++ p)) := by
  simp only [ck6, udpPostIp, swap16_noZero]
  rw [chain_eq]
  · simp only [List.append_assoc]
    rw [split16_flatten_app, split16_flatten_app]
    simp
  · simp [PartOk, split16, hs, hd]

theorem tcp4_words (h : Tcp) (ip : Ipv4Header) (p : Bytes) (hs : ip.source.length = 4)
    (hd : ip.destination.length = 4) (ho : h.opts.asSlice.length % 2 = 0) :
    ck4 (.tcp h) ip p
      = Spec.checksum (ip.source ++ ip.destination ++ [0, 6] ++ enc16 (h.headerLen + p.length)
          ++ (enc16 h.sp ++ enc16 h.dp ++ enc32 h.seq ++ enc32 h.ack ++ [u8 h.byte12, u8 h.byte13]
              ++ enc16 h.win ++ enc16 h.urgp) ++ h.opts.asSlice ++ p) := by
  simp only [ck4, tcpPostIp]
  rw [chain_eq2 _ _ _ _ ho]
  · simp
  · simp [PartOk, hs, hd]

theorem tcp6_words (h : Tcp) (ip : Ipv6Header) (p : Bytes) (hs : ip.source.length = 16)
    (hd : ip.destination.length = 16) (ho : h.opts.asSlice.length % 2 = 0) :
    ck6 (.tcp h) ip p
      = Spec.checksum (ip.source ++ ip.destination ++ enc32 (h.headerLen + p.length) ++ [0, 6]
          ++ (enc16 h.sp ++ enc16 h.dp ++ enc32 h.seq ++ enc32 h.ack ++ [u8 h.byte12, u8 h.byte13]
              ++ enc16 h.win ++ enc16 h.urgp) ++ h.opts.asSlice ++ p) := by
  simp only [ck6, tcpPostIp]
  rw [chain_eq2 _ _ _ _ ho]
  · simp only [List.append_assoc]
    rw [split16_flatten_app, split16_flatten_app]
    simp
  · simp [PartOk, split16, hs, hd]

theorem icmp4Parts_ok (t : Icmp4Type) (ok : icmp4LenOk t) : ∀ p ∈ icmp4Parts t, PartOk p := by
  cases t <;> simp only [icmp4Parts] <;> (try split) <;> simp_all [PartOk, icmp4LenOk]

theorem icmp6Parts_ok (t : Icmp6Type) (ok : icmp6LenOk t) : ∀ p ∈ icmp6Parts t, PartOk p := by
  cases t <;> simp_all [icmp6Parts, PartOk, icmp6LenOk, Icmp6.raBytes, Icmp6.naBytes]

/-- ICMPv4 (no pseudo header): RFC 1071 over the header words except the checksum field, then
    the payload -/
theorem icmp4_words (t : Icmp4Type) (p : Bytes) (ok : icmp4LenOk t) :
    icmp4Checksum t p = Spec.checksum ((icmp4Parts t).flatten ++ p) := by
  unfold icmp4Checksum
  exact chain_eq _ _ (icmp4Parts_ok t ok)

/-- ICMPv6: pseudo header (addresses, next header 58, 32 bit length), header words, payload -/
theorem icmp6_words (h : Icmp6) (ip : Ipv6Header) (p : Bytes) (hs : ip.source.length = 16)
    (hd : ip.destination.length = 16) (ok : icmp6LenOk h.ty) :
    ck6 (.icmp6 h) ip p
      = Spec.checksum (ip.source ++ ip.destination ++ [0, 58] ++ enc32 (p.length + 8)
                        ++ (icmp6Parts h.ty).flatten ++ p) := by
  simp only [ck6]
  rw [chain_eq]
  · simp only [List.append_assoc]
    rw [split16_flatten_app, split16_flatten_app]
    simp
  · have := icmp6Parts_ok _ ok
    simp only [List.forall_mem_append]
    refine ⟨⟨?_, ?_⟩, this⟩ <;> simp [PartOk, split16, hs, hd]

/-- IPv4 header checksum: RFC 791 / 1071 over the header words except the checksum field -/
theorem ipv4_header_words (h : Ipv4Header) (hs : h.source.length = 4) (hd : h.destination.length = 4) :
    h.calcHeaderChecksum
      = Spec.checksum ([u8 ((4 <<< 4) ||| h.ihl), u8 (shl8 h.dscp 2 ||| h.ecn)] ++ enc16 h.totalLen
          ++ enc16 h.identification ++ [u8 h.fragAndFlags.1, u8 h.fragAndFlags.2]
          ++ [u8 h.timeToLive, u8 h.protocol] ++ h.source ++ h.destination ++ h.options) := by
  have e : h.calcHeaderChecksum = swap16 (onesComplement64 (addSlice64 (addParts 0
      [[u8 ((4 <<< 4) ||| h.ihl), u8 (shl8 h.dscp 2 ||| h.ecn)], enc16 h.totalLen, enc16 h.identification,
       [u8 h.fragAndFlags.1, u8 h.fragAndFlags.2], [u8 h.timeToLive, u8 h.protocol], h.source,
       h.destination]) h.options)) := rfl
  rw [e, chain_eq]
  · simp
  · simp [PartOk, hs, hd]

end EpModel.Lemmas.Builder
