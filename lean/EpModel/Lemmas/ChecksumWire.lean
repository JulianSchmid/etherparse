import EpModel.Model.ChecksumWire
import EpModel.Lemmas.Checksum
import EpModel.Spec.Rfc1071
/- The `Sum16BitWords` methods as `add_slice`; big endian word sums of appended byte strings; a checksum is 0
   iff the complete sum folds to 0xffff. -/
namespace EpModel.Checksum
open EpModel EpModel.Spec EpModel.Lemmas.Checksum

theorem s16Method_eq (s : Nat) (v : Bytes) : s16Method s v = addSlice64 s v := by
  unfold s16Method
  split
  · rename_i h
    rw [addSlice64_lt8 s v (by omega)]
    simp [tail64, h, sub]
    rw [List.take_of_length_le (by omega)]
  · split
    · rename_i h
      rw [addSlice64_lt8 s v (by omega)]
      simp [tail64, h]
      rw [List.take_of_length_le (by omega)]
    · split
      · rename_i h
        rw [addSlice64]
        simp only [h, Nat.le_refl, if_true]
        rw [addSlice64_lt8 _ _ (by simp [h])]
        have hd : v.drop 8 = [] := List.drop_of_length_le (by omega)
        rw [hd, List.take_of_length_le (by omega)]
        simp [tail64]
      · split
        · rename_i h
          rw [addSlice64]
          simp only [h, show 8 ≤ 16 by omega, if_true]
          rw [addSlice64]
          simp only [List.length_drop, h, show 8 ≤ 16 - 8 by omega, if_true]
          rw [addSlice64_lt8 _ _ (by simp [h])]
          have hd : (v.drop 8).drop 8 = [] := List.drop_of_length_le (by simp [h])
          have ht : (v.drop 8).take 8 = v.drop 8 := List.take_of_length_le (by simp [h])
          rw [hd, ht]
          simp [tail64]
        · rfl

theorem beWords_append_even : ∀ (xs ys : Bytes), xs.length % 2 = 0 → beWords (xs ++ ys) = beWords xs + beWords ys
  | [], ys, _ => by simp [beWords]
  | [a], ys, h => by simp at h
  | a :: b :: rest, ys, h => by
    have h' : rest.length % 2 = 0 := by simp at h; omega
    simp only [List.cons_append, beWords, beWords_append_even rest ys h']
    omega

theorem checksum_zero_iff (b : Bytes) : Spec.checksum b = 0 ↔ fold16 (beWords b) = 65535 := by
  unfold Spec.checksum
  rw [ocSum_eq_fold]
  have := fold16_le (beWords b)
  omega

end EpModel.Checksum
