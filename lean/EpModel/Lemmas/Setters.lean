import EpModel.Model.Setters
import EpModel.Props.C08Link
/-
  `isOk` through the guard chains of the checked constructors and setters (C14): a chain
  `if c₁ then error … else if c₂ then error … else ok …` succeeds iff no guard fires.
-/
namespace EpModel.Setters

variable {ε α β : Type}

theorem isOk_ok (a : α) : isOk (.ok a : Except ε α) = true := rfl

theorem isOk_ite (c : Prop) [Decidable c] (e : ε) (x : Except ε α) :
    isOk (if c then .error e else x) = true ↔ ¬ c ∧ isOk x = true := by
  by_cases h : c <;> simp [h, isOk]

/-- the same for a `&mut self` setter, which returns the header as second component. -/
theorem isOk_ite_fst (c : Prop) [Decidable c] (e : ε) (h : β) (x : Except ε α × β) :
    isOk (if c then (.error e, h) else x).1 = true ↔ ¬ c ∧ isOk x.1 = true := by
  by_cases hc : c <;> simp [hc, isOk]

/-- the header the UDP constructors build for a payload of `n ≤ 65527` bytes, whatever 16 bit
    checksum they put in: the length field is `n + 8` exactly, and the header decodes to itself. -/
theorem udp_built (sp dp n ck : Nat) (tail : Bytes) (hsp : sp < 65536) (hdp : dp < 65536)
    (hck : ck < 65536) (hn : ¬ 65535 - 8 < n) :
    let h : Codec.Udp := { sp := sp, dp := dp, len := (8 + n) % 65536, ck := ck }
    h.len = n + 8 ∧ h.WF ∧ Codec.Udp.fromSlice (h.toBytes ++ tail) = .ok (h, tail) ∧
      be16 h.toBytes 4 = n + 8 := by
  have e : (8 + n) % 65536 = n + 8 := by omega
  simp only [e]
  have wf : Codec.Udp.WF { sp := sp, dp := dp, len := n + 8, ck := ck } :=
    ⟨hsp, hdp, by show n + 8 < 65536; omega, hck⟩
  refine ⟨trivial, wf, Props.C08Link.Udp.decode_encode _ tail wf, ?_⟩
  simp only [Codec.Udp.toBytes, List.append_assoc, Lemmas.Codec.be16_skip_enc16,
    Lemmas.Codec.be16_enc16 _ _ wf.2.2.1]

end EpModel.Setters
