import EpModel.Lemmas.SpecShift
import EpModel.Lemmas.DecRefineEntry
import EpModel.Lemmas.DecRefineLaxEntry
/-
  Transfer of `Spec.walk_eth_eq_ether_shift` to the models of `SlicedPacket::from_ethernet` /
  `from_ether_type` and their lax twins through the proved refinements (C03, C05).  Used by C06.
-/
namespace EpModel.Lemmas.ShiftEntry
open EpModel EpModel.Dec EpModel.Spec EpModel.Lemmas.Refine EpModel.Lemmas.RefineLax

theorem memOf_drop (b : Bytes) (k i : Nat) : memOf (b.drop k) i = memOf b (k + i) := by
  simp [memOf, bAt, List.getD_eq_getElem?_getD, List.getElem?_drop]

theorem memOf_drop_eq (b : Bytes) (k : Nat) : memOf (b.drop k) = shM k (memOf b) := by
  funext i; exact memOf_drop b k i

theorem byteMem_shM (k : Nat) (g : Mem) (hg : ByteMem g) : ByteMem (shM k g) := fun i => hg (k + i)

theorem lenMatch_shift_off {e e' : LenError} {f : Fault} {k : Nat} (h : LenMatch e (shFault k f)) (h' : LenMatch e' f) :
    e.off = k + e'.off ∧ e.len = e'.len ∧ e.req = e'.req := by
  refine ⟨?_, ?_, ?_⟩
  · rw [h.off, h'.off]; rfl
  · rw [h.len, h'.len]; rfl
  · rw [h.req, h'.req]; rfl

theorem walkN_link_eq (lax : Bool) (g : Mem) (n : Nat) (p : Packet) (t : Tag) (c : Ctx)
    (h1 : t ≠ .eth) (h2 : t ≠ .sll) (h3 : c.nExt ≤ 3) : (walkN lax g n p t c).1.link = p.link := by
  exact congrArg (fun r => r.1.link) (walkN_link lax g n p t c p.link h1 h2 h3)

/-- `SlicedPacket::from_ethernet` on `n ≥ 14` bytes against `SlicedPacket::from_ether_type` on the bytes
    behind the Ethernet II header (memory seen from offset 14, `n - 14` bytes), ether type taken from the
    header -/
theorem from_ethernet_vs_ether_type (g : Mem) (hg : ByteMem g) (n : Nat) (h : 14 ≤ n) :
    match slicedFromEthernet g n, slicedFromEtherType (shM 14 g) (g16 g 12) (n - 14) with
    | .ok p, .ok q =>
      p = setLk (some (.eth2 ⟨0, n⟩)) (shPacket 14 q) ∧ q.link = some (.etherPayload (g16 g 12) ⟨0, n - 14⟩)
    | .error e, .error e' => ∃ f, ErrMatch e' f ∧ ErrMatch e (shFault 14 f)
    | _, _ => False := by
  have R1 := from_ethernet_refines g hg n
  have R2 := from_ether_type_refines (shM 14 g) (byteMem_shM 14 g hg) (g16 g 12) (n - 14)
  have L := walkN_link_eq false (shM 14 g) maxSteps (startPacket (n - 14) (.etherType (g16 g 12)))
    (.ether (g16 g 12)) (ctx0 (n - 14)) (by simp) (by simp) (by simp [ctx0])
  unfold ctx0 at R1 R2 L
  rw [walk_eth_eq_ether_shift false g n h] at R1
  revert R1 R2 L
  generalize walkN false (shM 14 g) maxSteps (startPacket (n - 14) (.etherType (g16 g 12))) (.ether (g16 g 12))
    { off := 0, stop := n - 14, lim := .slice, nExt := 0 } = r
  obtain ⟨q', fo⟩ := r
  cases slicedFromEthernet g n <;> cases slicedFromEtherType (shM 14 g) (g16 g 12) (n - 14) <;> cases fo <;>
    simp only [Rel, ethOfEtherType, Option.map, false_imp_iff, imp_false, implies_true]
  · exact fun R1 R2 _ => ⟨_, R2, R1⟩
  · rintro R1 rfl L
    exact ⟨R1, L⟩

/-- `StopLayer` relates each unit to at most one layer; checked by cases -/
theorem stopLayer_inj {ly ly' : Layer} {u : Unit_} (h : StopLayer ly u) (h' : StopLayer ly' u) : ly = ly' := by
  cases u <;> cases ly <;> first | exact h.elim | (cases ly' <;> first | rfl | exact h'.elim)

/-- what a stop error says about a fault, with the short-IPv4 class (`ShortV4`) admitted (as in `RelLaxW`) -/
def StopDescribes (g : Mem) (e : PErr) (ly : Layer) (f : Fault) : Prop :=
  StopMatch e ly f ∨ ShortV4Stop g e ly f

theorem stopDescribes_layer {g : Mem} {e : PErr} {ly : Layer} {f : Fault} (h : StopDescribes g e ly f) :
    StopLayer ly f.unit := by
  rcases h with h | h
  · exact h.1
  · rw [h.2.2.1, h.1]
    trivial

theorem stopDescribes_len {g : Mem} {le : LenError} {ly : Layer} {f : Fault}
    (h : StopDescribes g (.len le) ly f) : le.off = f.off ∧ le.len = f.avail := by
  rcases h with h | h
  · have : LenMatch le f := h.2
    exact ⟨this.off, this.len⟩
  · obtain ⟨_, _, _, _, _, _, _, h | h⟩ := h
    · exact absurd h.2 (by simp)
    · obtain ⟨_, s, _, hs⟩ := h
      cases hs; exact ⟨rfl, rfl⟩

/-- `LaxSlicedPacket::from_ethernet` on `n ≥ 14` bytes against `LaxSlicedPacket::from_ether_type` on the
    bytes behind the Ethernet II header -/
theorem lax_from_ethernet_vs_ether_type (g : Mem) (hg : ByteMem g) (n : Nat) (h : 14 ≤ n) :
    ∃ m, laxSlicedFromEthernet g n = .ok m ∧
      noStop m = setLk (some (.eth2 ⟨0, n⟩))
        (shPacket 14 (noStop (laxSlicedFromEtherType (shM 14 g) (g16 g 12) (n - 14)))) ∧
      (laxSlicedFromEtherType (shM 14 g) (g16 g 12) (n - 14)).link =
        some (.etherPayload (g16 g 12) ⟨0, n - 14⟩) ∧
      match m.stop, (laxSlicedFromEtherType (shM 14 g) (g16 g 12) (n - 14)).stop with
      | none, none => True
      | some (e, ly), some (e', ly') =>
        ly = ly' ∧ ∃ f, StopDescribes (shM 14 g) e' ly' f ∧ StopDescribes g e ly (shFault 14 f)
      | _, _ => False := by
  have R1 := lax_from_ethernet_refinesW g hg n
  have R2 := lax_from_ether_type_refinesW (shM 14 g) (byteMem_shM 14 g hg) (g16 g 12) (n - 14)
  have L := walkN_link_eq true (shM 14 g) maxSteps (startPacket (n - 14) (.etherType (g16 g 12)))
    (.ether (g16 g 12)) (ctx0 (n - 14)) (by simp) (by simp) (by simp [ctx0])
  unfold ctx0 at R1 R2 L
  rw [walk_eth_eq_ether_shift true g n h] at R1
  revert R1 R2 L
  generalize walkN true (shM 14 g) maxSteps (startPacket (n - 14) (.etherType (g16 g 12))) (.ether (g16 g 12))
    { off := 0, stop := n - 14, lim := .slice, nExt := 0 } = r
  generalize laxSlicedFromEtherType (shM 14 g) (g16 g 12) (n - 14) = m'
  obtain ⟨q', fo⟩ := r
  intro R1 ⟨hn2, hs2⟩ L
  cases hm : laxSlicedFromEthernet g n with
  | error e =>
    unfold laxSlicedFromEthernet eth2FromSlice at hm
    simp [Nat.not_lt.2 h] at hm
  | ok m =>
    rw [hm] at R1
    obtain ⟨⟨hn1, hs1⟩, _⟩ := R1
    simp only at hn1 hn2 hs1 hs2 L
    refine ⟨m, rfl, ?_, ?_, ?_⟩
    · rw [hn1, hn2]
      rfl
    · exact (congrArg Packet.link hn2).trans L
    · revert hs1 hs2
      cases m.stop <;> cases m'.stop <;> cases fo <;>
        simp only [ethOfEtherType, Option.map, false_imp_iff, imp_false, not_false_eq_true, implies_true]
      intro hs2 hs1
      have l2 := stopDescribes_layer hs2
      exact ⟨stopLayer_inj (stopDescribes_layer hs1) l2, _, hs2, hs1⟩

end EpModel.Lemmas.ShiftEntry
