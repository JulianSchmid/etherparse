import EpModel.Lemmas.DecRefine
/- The strict cursor against the walk: ARP, the link-extension loop `Cur.sliceEtherType`, the version dispatch
   `Cur.sliceIp`, and the four entry points of `SlicedPacket`. -/
namespace EpModel.Lemmas.Refine
open EpModel EpModel.Dec EpModel.Spec

theorem arp_refines (c : Cur) (g : Mem) (o l : Nat) (ctx : Ctx) (k : Nat) (ht : Tied c ctx o l) :
    Rel (c.sliceArp g o l) (walkN false g (k + 1) c.r (.ether 0x0806) ctx) := by
  have hstep := arp_step false g c.r ctx o l ht.coff ht.stop
  unfold Cur.sliceArp
  cases hd : arpFromSlice g o l with
  | ok w =>
    rw [hd] at hstep
    obtain ⟨c', hs1⟩ := hstep
    exact rel_last k (fun h => Tag.noConfusion h) hs1
  | error e =>
    rw [hd] at hstep
    obtain ⟨f, hf, -, hrel⟩ := hstep
    exact rel_fault k (fun h => Tag.noConfusion h) hf (lenRel_addOff ht.off hrel)

theorem ether_refines (c : Cur) (g : Mem) (hg : ByteMem g) (n et o l : Nat) (ctx : Ctx) (k : Nat)
    (ht : Tied c ctx o l) (hn : ctx.nExt + n = 3) (hk : n + 3 ≤ k) :
    Rel (c.sliceEtherType g n et o l) (walkN false g k c.r (.ether et) ctx) := by
  have hnd : ∀ e, Tag.ether e ≠ .done := fun _ h => Tag.noConfusion h
  fun_induction Cur.sliceEtherType c g n et o l generalizing ctx k
  all_goals obtain ⟨k', rfl⟩ : ∃ k', k = k' + 1 := ⟨k - 1, by omega⟩
  case case1 c et o l het =>
    exact rel_last k' (hnd _) (by rw [step_vlan _ _ _ _ _ het, if_pos (by omega)]; rfl)
  case case2 c et o l het n e hv =>
    obtain ⟨hl4, rfl⟩ := EpModel.Lemmas.Dec.vlan_err hv
    refine rel_fault k' (hnd _)
      (by rw [step_vlan _ _ _ _ _ het, if_neg (by omega), ht.avail, if_pos hl4]; rfl) ?_
    exact lenRel_addOff ht.off (lenRel_slice ht.coff ht.avail (by decide) (by trivial) 4)
  case case3 c et o l het n w hv ih =>
    obtain ⟨rfl, h4⟩ := EpModel.Lemmas.Dec.vlan_ok o l w hv
    rw [walkN_next false g k' _ _ _ _ _ _ (hnd _)
      (by rw [step_vlan _ _ _ _ _ het, if_neg (by omega), ht.avail, if_neg (by omega), ht.coff]; rfl)]
    exact ih _ _ ⟨by simp [ht.off], rfl, by simp [ht.stop]; omega, by simpa using ht.src⟩ (by simp; omega) (by omega)
  case case4 c o l hnv =>
    exact rel_last k' (hnd _) (show macsecStep false g c.r ctx = _ by rw [macsecStep, if_pos (by omega)]; rfl)
  case case5 c o l n e he hnv =>
    have hstep := macsec_step g hg c.r ctx o l ht.coff ht.stop (by omega)
    rw [he] at hstep
    obtain ⟨f, hf, hrel⟩ := hstep
    exact rel_fault k' (hnd _) hf (lenRel_addOff ht.off hrel)
  case case6 c o l n e hnl he hnv =>
    have hstep := macsec_step g hg c.r ctx o l ht.coff ht.stop (by omega)
    rw [he] at hstep
    cases e with
    | len le => exact absurd rfl (hnl le)
    | _ =>
      obtain ⟨f, hf, hrel⟩ := hstep
      exact rel_fault k' (hnd _) hf hrel
  case case7 c o l n hdr pl src inc hm c' et' hnx hnv ih =>
    have hstep := macsec_step g hg c.r ctx o l ht.coff ht.stop (by omega)
    rw [hm] at hstep
    obtain ⟨hs1, hplo, _, _, hiff, hsrc⟩ := hstep
    rw [hnx] at hs1
    rw [walkN_next false g k' _ _ _ _ _ _ (hnd _) hs1]
    apply ih
    · refine ⟨by simp only [c', ht.off]; omega, rfl, rfl, ?_⟩
      simp only [c']
      by_cases h0 : 0 < g (o + 1) % 64
      · simp only [h0, if_true, hiff.mp h0, inherit]; right; simp
      · have hsl : src = .slice := hsrc.elim id (fun h => absurd (hiff.mpr h) h0)
        simp only [h0, if_false, hsl, inherit, if_true]
        exact ht.src
    · simp only; omega
    · omega
  case case8 c o l n hdr pl src inc hm c' hnx hnv =>
    have hstep := macsec_step g hg c.r ctx o l ht.coff ht.stop (by omega)
    rw [hm] at hstep
    obtain ⟨hs1, _⟩ := hstep
    rw [hnx] at hs1
    exact rel_last k' (hnd _) hs1
  case case9 c o l n x hno hx hnv =>
    have hstep := macsec_step g hg c.r ctx o l ht.coff ht.stop (by omega)
    rw [hx] at hstep
    cases x <;> first | exact (hno _ _ _ _ rfl).elim | exact hstep.elim
  case case10 n c o l _ _ =>
    exact arp_refines c g o l ctx k' ht
  case case11 n c o l _ _ _ =>
    obtain ⟨k', rfl⟩ : ∃ k'', k' = k'' + 2 := ⟨k' - 2, by omega⟩
    rw [walkN_next false g (k' + 2) _ _ _ _ _ _ (hnd _) (rfl : Spec.step false g c.r (.ether 0x0800) ctx = .good c.r .ipv4 ctx)]
    exact ipv4_refines c g hg o l ctx k' ht
  case case12 n c o l _ _ _ _ =>
    obtain ⟨k', rfl⟩ : ∃ k'', k' = k'' + 2 := ⟨k' - 2, by omega⟩
    rw [walkN_next false g (k' + 2) _ _ _ _ _ _ (hnd _) (rfl : Spec.step false g c.r (.ether 0x86dd) ctx = .good c.r .ipv6 ctx)]
    exact ipv6_refines c g hg o l ctx k' ht
  case case13 n c et o l h1 h2 h3 h4 h5 =>
    exact rel_last k' (hnd _)
      (step_ether_other false g c.r et ctx h1 h2 h3 h4 h5)


theorem nonstd_eq (v : Nat) : sllNonStandard v = isLinuxNonstandardEtherType v := by
  -- the table of the spec is the union of the intervals the crate tests
  show decide (v ∈ List.range' 1 9 ++ List.range' 0x0c 3 ++ List.range' 0x10 2 ++ List.range' 0x15 8 ++
    List.range' 0xf5 6) = _
  unfold isLinuxNonstandardEtherType
  rw [Bool.eq_iff_iff]
  simp only [List.mem_append, List.mem_range'_1, decide_eq_true_eq]
  omega

def ctx0 (n : Nat) : Ctx := { off := 0, stop := n, lim := .slice, nExt := 0 }

theorem from_ether_type_refines (g : Mem) (hg : ByteMem g) (et n : Nat) :
    Rel (slicedFromEtherType g et n)
      (walkN false g maxSteps (startPacket n (.etherType et)) (.ether et) (ctx0 n)) := by
  unfold slicedFromEtherType
  exact ether_refines _ g hg 3 et 0 n (ctx0 n) maxSteps ⟨rfl, rfl, by simp [ctx0], Or.inl rfl⟩ (by simp [ctx0])
    (by simp [maxSteps])

theorem from_ethernet_refines (g : Mem) (hg : ByteMem g) (n : Nat) :
    Rel (slicedFromEthernet g n) (walkN false g maxSteps Packet.empty .eth (ctx0 n)) := by
  have hnd : Tag.eth ≠ .done := fun h => Tag.noConfusion h
  have hstep := step_eth false g Packet.empty (ctx0 n)
  rw [show (ctx0 n).avail = n from rfl] at hstep
  unfold slicedFromEthernet eth2FromSlice
  -- `maxSteps = 12`: 11 steps of fuel are left behind the link header (9 behind the three steps of an IP start)
  rw [show maxSteps = 11 + 1 from rfl]
  by_cases h : n < 14
  · rw [if_pos h] at hstep ⊢
    exact rel_fault 11 hnd hstep
      (lenRel_addOff (c := Cur.new) rfl (lenRel_slice (ctx := ctx0 n) rfl rfl (by decide) (by trivial) 14))
  · rw [if_neg h] at hstep ⊢
    rw [walkN_next false g 11 _ _ _ _ _ _ hnd hstep]
    exact ether_refines _ g hg 3 (g16 g 12) 14 (n - 14) _ 11 ⟨rfl, rfl, by simp [ctx0]; omega, Or.inl rfl⟩ rfl (by omega)

/-- `LinuxSllProtocolType::try_from` in the terms of the spec -/
theorem sllProtoOf_spec (hw pt : Nat) :
    match sllProtoOf hw pt with
    | .error e => e = .sllArpHw hw ∧ sllSupportedHw hw = false
    | .ok (.etherType et) => et = pt ∧ sllSupportedHw hw = true ∧ hw = 1 ∧ sllNonStandard pt = false
    | .ok _ => sllSupportedHw hw = true ∧ ¬ (hw = 1 ∧ ¬ sllNonStandard pt = true) := by
  unfold sllProtoOf
  rw [← nonstd_eq]
  by_cases h1 : hw = 824
  · subst h1; simp [sllSupportedHw]
  by_cases h2 : hw = 778
  · subst h2; simp [sllSupportedHw]
  by_cases h3 : hw = 803
  · subst h3; simp [sllSupportedHw]
  by_cases h4 : hw = 770
  · subst h4; simp [sllSupportedHw]
  by_cases h5 : hw = 1
  · subst h5
    by_cases hns : sllNonStandard pt = true <;> simp [sllSupportedHw, hns]
  · simp [h1, h2, h3, h4, h5, sllSupportedHw]

theorem from_linux_sll_refines (g : Mem) (hg : ByteMem g) (n : Nat) :
    Rel (slicedFromLinuxSll g n) (walkN false g maxSteps Packet.empty .sll (ctx0 n)) := by
  have hnd : Tag.sll ≠ .done := fun h => Tag.noConfusion h
  have hstep := step_sll false g Packet.empty (ctx0 n)
  rw [show (ctx0 n).avail = n from rfl] at hstep
  simp only [ctx0, Nat.zero_add] at hstep
  have hp := sllProtoOf_spec (g16 g 2) (g16 g 14)
  unfold slicedFromLinuxSll sllFromSlice
  simp only [Nat.zero_add, ctx0]
  rw [show maxSteps = 11 + 1 from rfl]
  by_cases h : n < 16
  · rw [if_pos h] at hstep ⊢
    exact rel_fault 11 hnd hstep
      (lenRel_addOff (c := Cur.new) rfl (lenRel_slice (ctx := ctx0 n) rfl rfl (by decide) (by trivial) 16))
  rw [if_neg h] at hstep ⊢
  by_cases hpt : 8 ≤ g16 g 0
  · rw [if_pos (show g16 g 0 > 7 from hpt)] at hstep
    rw [if_pos hpt]
    exact rel_fault 11 hnd hstep ⟨rfl, rfl, rfl⟩
  rw [if_neg (show ¬ g16 g 0 > 7 from hpt)] at hstep
  rw [if_neg hpt]
  cases hd : sllProtoOf (g16 g 2) (g16 g 14) with
  | error e =>
    rw [hd] at hp
    obtain ⟨rfl, hs⟩ := hp
    rw [if_pos (by simp [hs])] at hstep
    exact rel_fault 11 hnd hstep ⟨rfl, rfl, rfl⟩
  | ok x =>
    rw [hd] at hp
    cases x with
    | etherType et =>
      obtain ⟨rfl, hs, h1, hns⟩ := hp
      rw [if_neg (by simp [hs]), if_pos ⟨h1, by simp [hns]⟩] at hstep
      rw [walkN_next false g 11 _ _ _ _ _ _ hnd hstep]
      exact ether_refines _ g hg 3 (g16 g 14) 16 (n - 16) _ 11 ⟨rfl, rfl, by simp; omega, Or.inl rfl⟩ rfl (by omega)
    | _ =>
      rw [if_neg (by simp [hp.1]), if_neg hp.2] at hstep
      exact rel_last 11 hnd hstep

theorem rel_rename (k : Nat) (e : PErr) (s : Packet × Option Fault)
    (hk : (∃ v, e = .ipv4Ihl v) ∨ ∃ le, e = .len le) (h : Rel (.error (lenAddOff k e)) s) :
    Rel (.error (lenAddOff k (renameIp e))) s := by
  rcases hk with ⟨v, rfl⟩ | ⟨le, rfl⟩
  · obtain ⟨p, f⟩ := s
    cases f with
    | none => simp [Rel] at h
    | some f => simpa [Rel, lenAddOff, renameIp, ErrMatch, ContentMatch] using h
  · simpa [renameIp] using h

/-- what `IpSlice::from_slice` says about an IPv4 header in fewer than 20 bytes: it looks at the IHL
    before the length, so it may name the bad IHL or require the IHL's length where the
    version-specific decoder (and the spec) say "20 bytes needed".  Both describe the bytes. -/
def ShortV4 (g : Mem) (o l : Nat) (c : Cur) (e : PErr) : Prop :=
  (g o % 16 < 5 ∧ e = .ipIhl (g o % 16)) ∨
  (5 ≤ g o % 16 ∧
    e = .len { req := g o % 16 * 4, len := l, src := .slice, layer := .ipv4Header, off := c.off })

theorem ip_refines (c : Cur) (g : Mem) (hg : ByteMem g) (o l : Nat) (ctx : Ctx) (k : Nat) (ht : Tied c ctx o l) :
    if g o / 16 = 4 ∧ 0 < l ∧ l < 20 then
      (∃ e, c.sliceIp g o l = .error e ∧ ShortV4 g o l c e) ∧
        (walkN false g (k + 3) c.r .ipAny ctx).2 = some (mkFault ctx .cutShort .ipv4Header 20)
    else Rel (c.sliceIp g o l) (walkN false g (k + 3) c.r .ipAny ctx) := by
  have hav := ht.avail
  have hco := ht.coff
  have hA : Tag.ipAny ≠ .done := fun h => Tag.noConfusion h
  have hstep := step_ipAny false g c.r ctx
  rw [hav, hco] at hstep
  by_cases h0 : l = 0
  · rw [if_neg (by omega)]
    rw [if_pos (by omega)] at hstep
    unfold Cur.sliceIp ipSliceFromSlice ipDispatchHeader
    simp only [h0, if_true]
    exact rel_fault (k + 2) hA hstep
      (lenRel_addOff ht.off (lenRel_slice hco (h0 ▸ hav) (by decide) (by trivial) 1))
  rw [if_neg (by omega)] at hstep
  by_cases h4 : g o / 16 = 4
  · rw [if_pos h4] at hstep
    rw [walkN_next false g (k + 2) _ _ _ _ _ _ hA hstep]
    by_cases h20 : l < 20
    · rw [if_pos ⟨h4, by omega, h20⟩]
      constructor
      · unfold Cur.sliceIp ipSliceFromSlice ipDispatchHeader ShortV4
        simp only [h0, h4, if_true, if_false, Bool.false_eq_true, false_and]
        by_cases hi : g o % 16 < 5
        · simp [hi, lenAddOff]
        · have : l < g o % 16 * 4 := by omega
          simp [hi, this, lenAddOff, LenError.addOffset]; omega
      · have hstep2 := step_ipv4 false g c.r ctx
        rw [hav, if_pos h20] at hstep2
        rw [walkN_fault false g (k + 1) _ _ _ _ _ _ _ (fun h => Tag.noConfusion h) hstep2]
    · rw [if_neg (by omega)]
      have hr := ipv4_refines c g hg o l ctx k ht
      unfold Cur.sliceIp
      unfold Cur.sliceIpv4 ipv4SliceFromSlice at hr
      rw [ipSlice_v4 g o l h4 (by omega)]
      cases hh : ipv4HeaderFromSlice g o l with
      | error e =>
        rw [hh] at hr
        exact rel_rename c.off e _ (ipv4Header_err_kind g o l e h4 hh) hr
      | ok hl => rw [hh] at hr; exact hr
  rw [if_neg h4] at hstep
  rw [if_neg (fun h => h4 h.1)]
  unfold Cur.sliceIp
  by_cases h6 : g o / 16 = 6
  · rw [if_pos h6] at hstep
    rw [walkN_next false g (k + 2) _ _ _ _ _ _ hA hstep, ipSlice_v6 g o l h6 (by omega)]
    exact ipv6_refines c g hg o l ctx k ht
  · rw [if_neg h6] at hstep
    rw [ipSlice_other g o l h4 h6 (by omega)]
    exact rel_fault (k + 2) hA hstep ⟨rfl, rfl, rfl⟩

theorem from_ip_refines (g : Mem) (hg : ByteMem g) (n : Nat) :
    if g 0 / 16 = 4 ∧ 0 < n ∧ n < 20 then
      (∃ e, slicedFromIp g n = .error e ∧ ShortV4 g 0 n Cur.new e) ∧
        (walkN false g maxSteps Packet.empty .ipAny (ctx0 n)).2 =
          some (mkFault (ctx0 n) .cutShort .ipv4Header 20)
    else Rel (slicedFromIp g n) (walkN false g maxSteps Packet.empty .ipAny (ctx0 n)) :=
  ip_refines Cur.new g hg 0 n (ctx0 n) 9 ⟨rfl, rfl, by simp [ctx0], Or.inl rfl⟩

end EpModel.Lemmas.Refine
