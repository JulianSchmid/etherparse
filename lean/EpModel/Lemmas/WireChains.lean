import EpModel.Lemmas.BuilderChecksum
import EpModel.Model.ChecksumWire
import EpModel.Lemmas.CodecNetIpv4
import EpModel.Props.C08Link
import EpModel.Model.ChecksumIgmp
/-
  Helper lemmas for Props/C09Wire.lean: zeroing the checksum field of a header, word sums of the pieces the
  crate's checksum chains add against the words of the header bytes.
-/
namespace EpModel.Lemmas.WireChains
open EpModel EpModel.Codec EpModel.CodecNet EpModel.Builder EpModel.Checksum EpModel.Lemmas.Builder
open EpModel.Lemmas.Codec (list2 list4)

theorem noZeroW_eq (v : Nat) : noZeroW v = noZero v := rfl

/-! `simp` splits the word sum of a byte string at even offsets with `beWords_append_even` where it can
    rewrite the length of the front piece (address lengths from hypotheses); for the encoded fields: -/

theorem beWords_enc16_append (n : Nat) (ys : Bytes) :
    Spec.beWords (enc16 n ++ ys) = Spec.beWords (enc16 n) + Spec.beWords ys :=
  Checksum.beWords_append_even _ _ (by simp)

theorem beWords_enc32_append (n : Nat) (ys : Bytes) :
    Spec.beWords (enc32 n ++ ys) = Spec.beWords (enc32 n) + Spec.beWords ys :=
  Checksum.beWords_append_even _ _ (by simp)

theorem zeroAt_append (a x b : Bytes) (hx : x.length = 2) :
    zeroAt (a ++ x ++ b) a.length 2 = a ++ [0, 0] ++ b := by
  have h1 : (a ++ x ++ b).take a.length = a := by rw [List.append_assoc, List.take_left' rfl]
  have h2 : (a ++ x ++ b).drop (a.length + 2) = b := by
    have : a.length + 2 = (a ++ x).length := by simp [hx]
    rw [this, List.drop_left' rfl]
  unfold zeroAt
  rw [h1, h2]
  rfl

theorem udp_words (h : Udp) (pseudo : List Bytes) (p : Bytes) (hp : ∀ q ∈ pseudo, PartOk q) :
    udpPostIp h pseudo p =
      noZero (Spec.checksum (pseudo.flatten ++ (enc16 h.sp ++ enc16 h.dp ++ enc16 h.len) ++ p)) := by
  simp only [udpPostIp, swap16_noZero]
  rw [chain_eq]
  · simp
  · intro q hq
    simp only [List.mem_append, List.mem_cons, List.not_mem_nil, or_false] at hq
    rcases hq with hq | rfl | rfl | rfl
    · exact hp q hq
    all_goals exact .inl rfl

theorem udp_zeroAt (h : Udp) :
    zeroAt (Udp.toBytes h) 6 2 = enc16 h.sp ++ enc16 h.dp ++ enc16 h.len ++ [0, 0] := by
  have := zeroAt_append (enc16 h.sp ++ enc16 h.dp ++ enc16 h.len) (enc16 h.ck) [] (enc16_length _)
  simp only [List.append_nil, List.length_append, enc16_length] at this
  exact this

theorem tcp_opts_even (h : Tcp) (hw : h.WF) : h.opts.asSlice.length % 2 = 0 := by
  obtain ⟨_, _, _, _, _, _, _, ho1, ho2, ho3, _⟩ := hw
  simp only [TcpOpts.asSlice, List.length_take, ho3]; omega

theorem tcp_zeroAt (h : Tcp) :
    zeroAt (Tcp.toBytes h) 16 2 =
      enc16 h.sp ++ enc16 h.dp ++ enc32 h.seq ++ enc32 h.ack ++ [u8 h.byte12, u8 h.byte13] ++ enc16 h.win
        ++ [0, 0] ++ (enc16 h.urgp ++ h.opts.asSlice) := by
  rw [EpModel.Props.C08Link.Tcp.toBytes_eq h]
  have := zeroAt_append (enc16 h.sp ++ enc16 h.dp ++ enc32 h.seq ++ enc32 h.ack ++ [u8 h.byte12, u8 h.byte13] ++ enc16 h.win)
    (enc16 h.ck) (enc16 h.urgp ++ h.opts.buf.take h.opts.len) (enc16_length _)
  simp only [List.length_append, enc16_length, enc32_length, List.length_cons, List.length_nil] at this
  simp only [Tcp.fixed, TcpOpts.asSlice, List.append_assoc] at this ⊢
  exact this

theorem zeroAt_append_right (a b : Bytes) (i n : Nat) (h : i + n ≤ a.length) :
    zeroAt (a ++ b) i n = zeroAt a i n ++ b := by
  unfold zeroAt
  rw [List.take_append_of_le_length (by omega), List.drop_append_of_le_length h]
  simp [List.append_assoc]

theorem zeroAt_length (a : Bytes) (i n : Nat) (h : i + n ≤ a.length) : (zeroAt a i n).length = a.length := by
  unfold zeroAt
  simp; omega

/-! Per message variant, the words the crate's `calc_checksum` adds are the words of the header bytes with a
    zeroed checksum field: both sides are short explicit byte lists, compared by evaluation. -/
section parts
attribute [local simp] zeroAt Spec.beWords enc16 enc32 Codec.zeros List.replicate

theorem icmp4_parts_words (t : Icmp4Type) (ck : Nat) (ok : icmp4LenOk t) :
    Spec.beWords (icmp4Parts t).flatten = Spec.beWords (zeroAt (Icmp4.toBytes ⟨t, ck⟩) 2 2) ∧
      (icmp4Parts t).flatten.length % 2 = 0 ∧ (zeroAt (Icmp4.toBytes ⟨t, ck⟩) 2 2).length % 2 = 0 ∧
      2 + 2 ≤ (Icmp4.toBytes ⟨t, ck⟩).length := by
  cases t with
  | unknown _ _ b | redirect _ b =>
    obtain ⟨a0, a1, a2, a3, rfl⟩ := list4 b ok
    simp [icmp4Parts, Icmp4.toBytes, Icmp4.re4u8]
  | destUnreach code _ => by_cases h : code = 4 <;> simp [icmp4Parts, Icmp4.toBytes, Icmp4.re4u8, Icmp4.reZero, h]
  | paramProblem code _ => by_cases h : code = 0 <;> simp [icmp4Parts, Icmp4.toBytes, Icmp4.re4u8, Icmp4.reZero, h]
  | _ => simp [icmp4Parts, Icmp4.toBytes, Icmp4.re2u16, Icmp4.reZero, Icmp4.reTimestamp]

theorem icmp6_parts_words (t : Icmp6Type) (ck : Nat) (ok : icmp6LenOk t) :
    Spec.beWords (icmp6Parts t).flatten = Spec.beWords (zeroAt (Icmp6.toBytes ⟨t, ck⟩) 2 2) ∧
      (icmp6Parts t).flatten.length % 2 = 0 ∧ (Icmp6.toBytes ⟨t, ck⟩).length = 8 := by
  cases t with
  | unknown _ _ b =>
    obtain ⟨a0, a1, a2, a3, rfl⟩ := list4 b ok
    simp [icmp6Parts, Icmp6.toBytes, Icmp6.return4u8]
  | _ =>
    simp [icmp6Parts, Icmp6.toBytes, Icmp6.return4u8, Icmp6.returnTrivial, Icmp6.raBytes, Icmp6.naBytes]

theorem igmp_parts_ok (t : IgmpType) (wf : Igmp.IgmpType.WF t) : ∀ p ∈ igmpParts t, PartOk p := by
  cases t <;> simp_all [igmpParts, PartOk, Igmp.IgmpType.WF]

theorem igmp_parts_words (t : IgmpType) (ck : Nat) (wf : Igmp.IgmpType.WF t) :
    Spec.beWords (igmpParts t).flatten = Spec.beWords (zeroAt (Igmp.toBytes ⟨t, ck⟩) 2 2) ∧
      (igmpParts t).flatten.length % 2 = 0 ∧ (zeroAt (Igmp.toBytes ⟨t, ck⟩) 2 2).length % 2 = 0 ∧
      2 + 2 ≤ (Igmp.toBytes ⟨t, ck⟩).length := by
  cases t with
  | membershipReportV3 f _ =>
    obtain ⟨a0, a1, rfl⟩ := list2 f wf.1
    simp [igmpParts, Igmp.toBytes, Igmp.eight]
  | membershipQuery _ g =>
    obtain ⟨a0, a1, a2, a3, rfl⟩ := list4 g wf.2
    simp [igmpParts, Igmp.toBytes, Igmp.eight]
  | membershipReportV1 g | membershipReportV2 g | leaveGroup g =>
    obtain ⟨a0, a1, a2, a3, rfl⟩ := list4 g wf
    simp [igmpParts, Igmp.toBytes, Igmp.eight]
  | membershipQueryWithSources _ g _ _ _ =>
    obtain ⟨a0, a1, a2, a3, rfl⟩ := list4 g wf.2.1
    simp [igmpParts, Igmp.toBytes]
  | unknown _ _ raw =>
    obtain ⟨a0, a1, a2, a3, rfl⟩ := list4 raw wf.2.2.1
    simp [igmpParts, Igmp.toBytes, Igmp.eight]

end parts

end EpModel.Lemmas.WireChains
