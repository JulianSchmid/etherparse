import EpModel.Lemmas.CodecNetBits
import EpModel.Model.Codec.NetIpv4
import EpModel.Lemmas.Checksum
/-
  `Ipv4Header` / `Ipv4HeaderSlice` (net/ipv4_header.rs, ipv4_header_slice.rs): the bytes `to_bytes`
  writes as plain arithmetic, what an accepting `from_slice` says about its input, and the two round
  trips (decode of the written bytes; re-encoding a decoded slice clears only the reserved flag bit).
-/
namespace EpModel.Lemmas.CodecNet.Ipv4
open EpModel EpModel.CodecNet EpModel.Lemmas.CodecNet EpModel.Lemmas.Codec

theorem flagBits_eq (h : Ipv4Header) :
    h.flagBits = (if h.dontFragment then 64 else 0) + (if h.moreFragments then 32 else 0) := by
  unfold Ipv4Header.flagBits
  cases h.dontFragment <;> cases h.moreFragments <;> rfl

theorem ihl_eq (h : Ipv4Header) (ho : h.options.length ≤ 40) : h.ihl = h.options.length / 4 + 5 := by
  unfold Ipv4Header.ihl Ipv4Header.optLenU8
  rw [Nat.mod_eq_of_lt (show h.options.length < 256 by omega), Nat.mod_eq_of_lt (by omega)]

/-- the twelve fixed bytes in front of the addresses as plain arithmetic (for in-range values). -/
theorem fixedPart_eq (h : Ipv4Header) (cks : Nat) (wf : h.WF) :
    h.fixedPart cks =
      [ u8 (64 + (h.options.length / 4 + 5)), u8 (h.dscp * 4 + h.ecn),
        u8 (h.totalLen / 256), u8 h.totalLen, u8 (h.identification / 256), u8 h.identification,
        u8 ((if h.dontFragment then 64 else 0) + (if h.moreFragments then 32 else 0)
              + h.fragmentOffset / 256),
        u8 (h.fragmentOffset % 256), u8 h.timeToLive, u8 h.protocol, u8 (cks / 256), u8 cks ]
        ++ h.source ++ h.destination := by
  obtain ⟨h1, h2, _, _, h5, _, _, _, _, _, h11, _⟩ := wf
  have e0 : (4 <<< 4) ||| h.ihl = 64 + (h.options.length / 4 + 5) := by
    rw [ihl_eq h h11]; exact or_eq_add 4 (by decide) (by omega)
  have e1 : shl8 h.dscp 2 ||| h.ecn = h.dscp * 4 + h.ecn := by
    unfold shl8; rw [Nat.shiftLeft_eq, or_eq_add 2 (by omega) (by omega)]; omega
  have e6 : (h.fragAndFlags).1 = (if h.dontFragment then 64 else 0)
      + (if h.moreFragments then 32 else 0) + h.fragmentOffset / 256 := by
    unfold Ipv4Header.fragAndFlags
    simp only [flagBits_eq, and31]
    rw [or_eq_add 5 (by cases h.dontFragment <;> cases h.moreFragments <;> rfl) (by omega)]; omega
  have e7 : (h.fragAndFlags).2 = h.fragmentOffset % 256 := rfl
  unfold Ipv4Header.fixedPart
  rw [e0, e1, e6, e7]

theorem fixedPart_length (h : Ipv4Header) (cks : Nat) (wf : h.WF) :
    (h.fixedPart cks).length = 20 := by
  obtain ⟨_, _, _, _, _, _, _, _, h9, h10, _, _⟩ := wf
  simp [Ipv4Header.fixedPart, h9, h10]

/-- `to_bytes` (60 byte array truncated by `set_len`) is the fixed part followed by the options. -/
theorem toBytes_eq (h : Ipv4Header) (wf : h.WF) :
    h.toBytes = h.fixedPart h.headerChecksum ++ h.options := by
  have hl := fixedPart_length h h.headerChecksum wf
  unfold Ipv4Header.toBytes Ipv4Header.optBuf Ipv4Header.headerLen
  show ((h.fixedPart h.headerChecksum) ++ (h.options ++ zeros (40 - h.options.length))).take
      (20 + h.options.length) = _
  rw [← List.append_assoc, List.take_left']
  simp [hl]

theorem toBytes_length (h : Ipv4Header) (wf : h.WF) : h.toBytes.length = 20 + h.options.length := by
  rw [toBytes_eq h wf, List.length_append, fixedPart_length h _ wf]

theorem slice_of_toBytes (h : Ipv4Header) (tail : Bytes) (wf : h.WF) :
    Ipv4HeaderSlice.fromSlice (h.toBytes ++ tail) = .ok { slice := h.toBytes } := by
  have hl := toBytes_length h wf
  have ⟨_, _, _, _, _, _, _, _, _, _, h11, h12⟩ := wf
  have hn : h.options.length / 4 + 5 < 16 := by omega
  have hb0 : bAt (h.toBytes ++ tail) 0 = 4 * 16 + (h.options.length / 4 + 5) := by
    rw [toBytes_eq h wf, fixedPart_eq h _ wf]
    simp only [List.cons_append, bAt_cons_zero, u8_toNat]
    exact Nat.mod_eq_of_lt (by omega)
  unfold Ipv4HeaderSlice.fromSlice
  simp only [hb0, Nat.shiftRight_eq_div_pow, Nat.reducePow, and15, pack_div hn, pack_mod hn,
    List.length_append, hl]
  rw [if_neg (by omega), if_neg (by decide), if_neg (by omega), if_neg (by omega), List.take_left']
  omega

/-- byte 6 holds the two flags above the upper five bits `q` of the fragment offset. -/
theorem ipv4_flags_byte : ∀ (df mf : Bool) (q : Nat), q < 32 →
    (if df then 64 else 0) + (if mf then 32 else 0) + q < 256 ∧
      decide (0 ≠ ((if df then 64 else 0) + (if mf then 32 else 0) + q) / 64 % 2 * 64) = df ∧
      decide (0 ≠ ((if df then 64 else 0) + (if mf then 32 else 0) + q) / 32 % 2 * 32) = mf ∧
      ((if df then 64 else 0) + (if mf then 32 else 0) + q) % 32 = q := by
  decide +kernel

theorem toHeader_cons (x0 x1 x2 x3 x4 x5 x6 x7 x8 x9 x10 x11 x12 x13 x14 x15 x16 x17 x18 x19 : UInt8)
    (r : Bytes) :
    Ipv4HeaderSlice.toHeader { slice := x0 :: x1 :: x2 :: x3 :: x4 :: x5 :: x6 :: x7 :: x8 :: x9 ::
        x10 :: x11 :: x12 :: x13 :: x14 :: x15 :: x16 :: x17 :: x18 :: x19 :: r } =
      { dscp := x1.toNat / 4, ecn := x1.toNat % 4, totalLen := x2.toNat * 256 + x3.toNat,
        identification := x4.toNat * 256 + x5.toNat,
        dontFragment := decide (0 ≠ x6.toNat / 64 % 2 * 64),
        moreFragments := decide (0 ≠ x6.toNat / 32 % 2 * 32),
        fragmentOffset := x6.toNat % 32 * 256 + x7.toNat, timeToLive := x8.toNat,
        protocol := x9.toNat, headerChecksum := x10.toNat * 256 + x11.toNat,
        source := [x12, x13, x14, x15], destination := [x16, x17, x18, x19], options := r } := by
  simp only [Ipv4HeaderSlice.toHeader, Ipv4HeaderSlice.dcp, Ipv4HeaderSlice.ecn,
    Ipv4HeaderSlice.totalLen, Ipv4HeaderSlice.identification, Ipv4HeaderSlice.dontFragment,
    Ipv4HeaderSlice.moreFragments, Ipv4HeaderSlice.fragmentsOffset, Ipv4HeaderSlice.ttl,
    Ipv4HeaderSlice.protocol, Ipv4HeaderSlice.headerChecksum, Ipv4HeaderSlice.source,
    Ipv4HeaderSlice.destination, Ipv4HeaderSlice.options, be16, bAt_cons_zero, bAt_cons_succ,
    sub_cons_succ, and3, and31, and64, and32, Nat.shiftRight_eq_div_pow, Nat.reducePow, sub_zero,
    List.length_cons, Nat.add_assoc, Nat.reduceAdd, Nat.add_sub_cancel, List.take_length]
  rfl

theorem toHeader_toBytes (h : Ipv4Header) (wf : h.WF) :
    Ipv4HeaderSlice.toHeader { slice := h.toBytes } = h := by
  rw [toBytes_eq h wf, fixedPart_eq h _ wf]
  obtain ⟨dscp, ecn, tl, id, df, mf, fo, ttl, proto, ck, src, dst, opts⟩ := h
  obtain ⟨h1, h2, h3, h4, h5, h6, h7, h8, h9, h10, h11, h12⟩ := wf
  simp only at h1 h2 h3 h4 h5 h6 h7 h8 h9 h10 h11 h12
  obtain ⟨s0, s1, s2, s3, rfl⟩ := list4 src h9
  obtain ⟨d0, d1, d2, d3, rfl⟩ := list4 dst h10
  obtain ⟨f0, f1, f2, f3⟩ := ipv4_flags_byte df mf (fo / 256) (by omega)
  have b1 : (dscp * 4 + ecn) % 256 = dscp * 4 + ecn := Nat.mod_eq_of_lt (pack_lt (k := 64) h1 h2)
  have e7 : fo / 256 * 256 + fo % 256 % 256 = fo := by rw [Nat.mod_mod, Nat.div_add_mod']
  simp only [List.cons_append, List.nil_append, toHeader_cons, u8_toNat, b1, pack_div h2, pack_mod h2,
    hi_lo16 h3, hi_lo16 h4, Nat.mod_eq_of_lt f0, f1, f2, f3, e7, Nat.mod_eq_of_lt h6,
    Nat.mod_eq_of_lt h7, hi_lo16 h8]

theorem toHeader_wf (s : Ipv4HeaderSlice) (h20 : 20 ≤ s.slice.length) (h60 : s.slice.length ≤ 60)
    (h4 : s.slice.length % 4 = 0) : s.toHeader.WF := by
  have a1 := bAt_lt s.slice 1; have a6 := bAt_lt s.slice 6; have a7 := bAt_lt s.slice 7
  refine ⟨?_, ?_, be16_lt _ _, be16_lt _ _, ?_, bAt_lt _ _, bAt_lt _ _, be16_lt _ _, ?_, ?_, ?_, ?_⟩
  · show bAt s.slice 1 >>> 2 < 64
    rw [Nat.shiftRight_eq_div_pow]; omega
  · show bAt s.slice 1 &&& 3 < 4
    rw [and3]; omega
  · show (bAt s.slice 6 &&& 0x1f) * 256 + bAt s.slice 7 < 8192
    rw [and31]; omega
  · exact sub_length _ _ _ (by omega)
  · exact sub_length _ _ _ (by omega)
  · show (sub s.slice 20 (s.slice.length - 20)).length ≤ 40
    rw [sub_length _ _ _ (by omega)]; omega
  · show (sub s.slice 20 (s.slice.length - 20)).length % 4 = 0
    rw [sub_length _ _ _ (by omega)]; omega

theorem headerLen_toHeader (s : Ipv4HeaderSlice) (h20 : 20 ≤ s.slice.length) :
    s.toHeader.headerLen = s.slice.length := by
  show 20 + (sub s.slice 20 (s.slice.length - 20)).length = _
  rw [sub_length _ _ _ (by omega)]; omega

theorem sliceFromSlice_ok (b : Bytes) (s : Ipv4HeaderSlice) (hs : Ipv4HeaderSlice.fromSlice b = .ok s) :
    20 ≤ b.length ∧ bAt b 0 / 16 = 4 ∧ 5 ≤ bAt b 0 % 16 ∧ bAt b 0 % 16 * 4 ≤ b.length ∧
      s.slice = b.take (bAt b 0 % 16 * 4) := by
  unfold Ipv4HeaderSlice.fromSlice at hs
  simp only [Nat.shiftRight_eq_div_pow, and15] at hs
  split at hs
  · cases hs
  · split at hs
    · cases hs
    · split at hs
      · cases hs
      · split at hs
        · cases hs
        · cases hs
          exact ⟨by omega, by omega, by omega, by omega, rfl⟩

theorem fromSlice_ok (b : Bytes) (h : Ipv4Header) (rest : Bytes)
    (hd : Ipv4Header.fromSlice b = .ok (h, rest)) :
    20 ≤ b.length ∧ bAt b 0 / 16 = 4 ∧ 5 ≤ bAt b 0 % 16 ∧ bAt b 0 % 16 * 4 ≤ b.length ∧
      h = Ipv4HeaderSlice.toHeader { slice := b.take (bAt b 0 % 16 * 4) } ∧
      rest = b.drop (bAt b 0 % 16 * 4) := by
  unfold Ipv4Header.fromSlice at hd
  cases hs : Ipv4HeaderSlice.fromSlice b with
  | error e => rw [hs] at hd; cases hd
  | ok s =>
    obtain ⟨sl⟩ := s
    obtain ⟨h1, h2, h3, h4, rfl⟩ := sliceFromSlice_ok b _ hs
    rw [hs] at hd
    cases hd
    rw [headerLen_toHeader _ (by rw [List.length_take_of_le h4]; omega), List.length_take_of_le h4]
    exact ⟨h1, h2, h3, h4, rfl, rfl⟩

/-- the slice an accepting `from_slice` cuts off (`ihl * 4` bytes of a version 4 header) meets the
    hypotheses of `toHeader_wf` and `toBytes_toHeader`. -/
theorem take_ok (b : Bytes) (hver : bAt b 0 / 16 = 4) (hihl : 5 ≤ bAt b 0 % 16)
    (hfull : bAt b 0 % 16 * 4 ≤ b.length) :
    let sl := b.take (bAt b 0 % 16 * 4)
    sl.length = bAt b 0 % 16 * 4 ∧ 20 ≤ sl.length ∧ sl.length ≤ 60 ∧ sl.length % 4 = 0 ∧
      bAt sl 0 = 64 + ((sl.length - 20) / 4 + 5) := by
  simp only
  rw [List.length_take_of_le hfull, bAt_take _ _ _ (by omega)]
  omega

/-- byte 6 re-encoded from the decoded flags and fragment offset: the reserved top bit is lost. -/
theorem ipv4_flags_byte_back : ∀ x : Nat, x < 256 →
    (if decide (0 ≠ x / 64 % 2 * 64) = true then 64 else 0) +
      (if decide (0 ≠ x / 32 % 2 * 32) = true then 32 else 0) + x % 32 = x % 128 := by
  decide +kernel

theorem maskReserved_eq (b0 b1 b2 b3 b4 b5 b6 : UInt8) (r : Bytes) :
    maskReserved .ipv4 (b0 :: b1 :: b2 :: b3 :: b4 :: b5 :: b6 :: r)
      = b0 :: b1 :: b2 :: b3 :: b4 :: b5 :: u8 (b6.toNat &&& 127) :: r := by
  simp [maskReserved, reservedTable, clearBits]

/-- re-encoding the header decoded from a slice of `20 + n` bytes whose first byte is
    `0x40 | (5 + n/4)` gives the bytes back with bit 7 of byte 6 (reserved flag) cleared. -/
theorem toBytes_toHeader (s : Ipv4HeaderSlice) (h20 : 20 ≤ s.slice.length) (h60 : s.slice.length ≤ 60)
    (h4 : s.slice.length % 4 = 0) (hb0 : bAt s.slice 0 = 64 + ((s.slice.length - 20) / 4 + 5)) :
    s.toHeader.toBytes = maskReserved .ipv4 s.slice := by
  have wf := toHeader_wf s h20 h60 h4
  obtain ⟨sl⟩ := s
  have hm : sl.length = sl.length - 20 + 20 := (Nat.sub_add_cancel h20).symm
  match sl, hm, hb0, wf with
  | b0 :: b1 :: b2 :: b3 :: b4 :: b5 :: b6 :: b7 :: b8 :: b9 :: b10 :: b11 :: b12 :: b13 :: b14 :: b15 ::
      b16 :: b17 :: b18 :: b19 :: r, _, hb0, wf =>
    simp only [List.length_cons, bAt_cons_zero, Nat.add_assoc, Nat.reduceAdd, Nat.add_sub_cancel] at hb0
    rw [toBytes_eq _ wf, fixedPart_eq _ _ wf, toHeader_cons, maskReserved_eq]
    have e7 : u8 ((b6.toNat % 32 * 256 + b7.toNat) % 256) = b7 :=
      u8_eq_of (by rw [Nat.mod_mod, Nat.mul_add_mod_self_right, Nat.mod_eq_of_lt b7.toNat_lt])
    simp only [← hb0, Nat.div_add_mod', pack_div b7.toNat_lt, ipv4_flags_byte_back _ b6.toNat_lt, e7, u8_hi_lo,
      u8_toNat_self, and127, List.cons_append, List.nil_append]

/-- one 8 byte step of `u64_16bit_word::add_slice` (unfolding lemma for concrete examples). -/
theorem addSlice64_step (s : Nat) (b : Bytes) (h : 8 ≤ b.length) :
    Checksum.addSlice64 s b = Checksum.addSlice64 (Checksum.add8_64 s (b.take 8)) (b.drop 8) := by
  rw [Checksum.addSlice64]; simp [h]

/-- the header with its checksum field recomputed (what `Ipv4Header::write` encodes) is well formed -/
theorem wf_recomputed (h : Ipv4Header) (wf : h.WF) :
    ({ h with headerChecksum := h.calcHeaderChecksum } : Ipv4Header).WF := by
  have ck : h.calcHeaderChecksum < 65536 := by
    unfold Ipv4Header.calcHeaderChecksum Checksum.swap16
    have : ∀ v : Nat, (v % 256) * 256 + (v / 256) % 256 < 65536 := by intro v; omega
    exact this _
  obtain ⟨a1, a2, a3, a4, a5, a6, a7, _, a9, a10, a11, a12⟩ := wf
  exact ⟨a1, a2, a3, a4, a5, a6, a7, ck, a9, a10, a11, a12⟩

end EpModel.Lemmas.CodecNet.Ipv4
