import EpModel.Model.ViewAbs
import EpModel.Spec.IcmpTables
import EpModel.Spec.NdpFormat
import EpModel.Spec.IgmpArpFormat
import EpModel.Lemmas.CodecLink
/-
  Lemmas behind C17 (typed control-message views).  NDP: one iterator step brought to the form of
  the RFC 4861 TLV rule, then induction over the option area for refinement and tiling.
  ICMP / IGMP: the facts about the format tables that hold by evaluation, and the case splits on
  the type octet that the theorems of Props/C17 share.
-/
namespace EpModel.Lemmas.View
open EpModel EpModel.View EpModel.Spec
open EpModel.Lemmas.Codec (bAt_take bAt_drop be16_take be32_drop sub_take sub_drop sub_append_sub)

theorem bytes5to8_eq_sub (b : Bytes) (h : 8 ≤ b.length) : bytes5to8 b = sub b 4 4 := by
  match b, h with
  | _ :: _ :: _ :: _ :: _ :: _ :: _ :: _ :: _, _ => rfl

theorem bytes5to6_eq_sub (b : Bytes) (h : 8 ≤ b.length) : [b.getD 4 0, b.getD 5 0] = sub b 4 2 := by
  show (bytes5to8 b).take 2 = _
  rw [bytes5to8_eq_sub b h, sub, List.take_take]
  rfl

theorem bitSet_eq (v m : Nat) : (if bitSet v m = true then 1 else 0) = v / m % 2 := by
  unfold bitSet
  by_cases h : v / m % 2 = 1 <;> simp [h]
  omega

section
attribute [local simp] ndpKindOfType ndpOptFromSlice ndpHeaderFromSlice linkLayerOptFromSlice
  prefixOptFromSlice redirectedOptFromSlice mtuOptFromSlice unknownOptFromSlice

/-- the iterator hands each per-type `from_slice` exactly `8 * unit` bytes, so of the decoders' own
    header and size checks only the two fixed sizes (Prefix Information, MTU) can fail. -/
theorem ndpOptFromSlice_chunk (s : Bytes) (t u : Nat) (h0 : bAt s 0 = t) (h1 : bAt s 1 = u)
    (hu : u ≠ 0) (hl : s.length = u * 8) :
    ndpOptFromSlice (ndpKindOfType t) s =
      if t = 3 ∧ u ≠ 4 then .error (.unexpectedSize 3 32 (u * 8))
      else if t = 5 ∧ u ≠ 1 then .error (.unexpectedSize 5 8 (u * 8))
      else .ok () := by
  have h2 : ¬ u * 8 < 2 := by omega
  have h8 : ¬ u * 8 < 8 := by omega
  match t with
  | 1 | 2 =>
    simp [h2, h0, h1, hu, hl]
  | 3 =>
    by_cases h4 : u = 4
    · subst h4; simp [h0, h1, hl]
    · have : ¬ u * 8 = 32 := by omega
      simp [hl, h4, this]
  | 4 =>
    simp [h2, h8, h0, h1, hu, hl]
  | 5 =>
    by_cases h4 : u = 1
    · subst h4; simp [h0, h1, hl]
    · have : ¬ u * 8 = 8 := by omega
      simp [hl, h4, this]
  | 0 | _ + 6 =>
    simp [h2, h0, h1, hu, hl]

end

def rejectToErr : Ndp.Reject → NdpErr
  | .truncatedHeader t h => .unexpectedSize t 2 h
  | .zeroLength t => .zeroLength t
  | .truncated t n h => .unexpectedEndOfSlice t n h
  | .wrongSize t n h => .unexpectedSize t n h

theorem optFmt_units (t : Nat) :
    (Ndp.optFmt t).units = if t = 3 then some 4 else if t = 5 then some 1 else none := by
  match t with
  | 0 | 1 | 2 | 3 | 4 | 5 | _ + 6 => rfl

theorem ndpOpt_view (t off : Nat) (o : Bytes) :
    NdpOpt.view ⟨ndpKindOfType t, off, o⟩ =
      ⟨(Ndp.optFmt t).kind, "", ("w", .w off o.length) :: readFields (Ndp.optFmt t).fields off o⟩ := by
  match t with
  | 0 | 1 | 2 | 4 | 5 | _ + 6 => rfl
  | 3 =>
    show NdpOpt.view ⟨.prefixInformation, off, o⟩ = _
    simp only [NdpOpt.view, ofBool, bitSet_eq]
    rfl

theorem ndpRun_eq (it : NdpIter) : ndpRun it =
    match ndpNext it with
    | none => ([], none)
    | some (.error e, _) => ([], some e)
    | some (.ok o, it') => (o :: (ndpRun it').1, (ndpRun it').2) := by
  rw [ndpRun]
  split <;> simp_all

theorem ndpNext_nil (off : Nat) : ndpNext ⟨off, []⟩ = none := rfl

theorem ndpNext_eval (off : Nat) (s : Bytes) (hs : s ≠ []) :
    ndpNext ⟨off, s⟩ =
      if s.length < 2 then
        some (.error (.unexpectedSize (bAt s 0) 2 s.length), ⟨off + s.length, []⟩)
      else if bAt s 1 = 0 then some (.error (.zeroLength (bAt s 0)), ⟨off + s.length, []⟩)
      else if bAt s 1 * 8 > s.length then
        some (.error (.unexpectedEndOfSlice (bAt s 0) (bAt s 1 * 8) s.length), ⟨off + s.length, []⟩)
      else if bAt s 0 = 3 ∧ bAt s 1 ≠ 4 then
        some (.error (.unexpectedSize 3 32 (bAt s 1 * 8)), ⟨off + s.length, []⟩)
      else if bAt s 0 = 5 ∧ bAt s 1 ≠ 1 then
        some (.error (.unexpectedSize 5 8 (bAt s 1 * 8)), ⟨off + s.length, []⟩)
      else
        some (.ok ⟨ndpKindOfType (bAt s 0), off, s.take (bAt s 1 * 8)⟩,
              ⟨off + bAt s 1 * 8, s.drop (bAt s 1 * 8)⟩) := by
  have he : s.isEmpty = false := by cases s <;> simp_all
  unfold ndpNext ndpParseNext ndpHeaderFromSlice
  simp only [he]
  by_cases h2 : s.length < 2
  · simp [h2]
  · by_cases hu : bAt s 1 = 0
    · simp [h2, hu]
    · by_cases hl : bAt s 1 * 8 > s.length
      · simp [h2, hu, hl]
      · have hlen : (s.take (bAt s 1 * 8)).length = bAt s 1 * 8 := by simp; omega
        have hc := ndpOptFromSlice_chunk (s.take (bAt s 1 * 8)) (bAt s 0) (bAt s 1)
          (bAt_take _ _ _ (by omega)) (bAt_take _ _ _ (by omega)) hu hlen
        simp only [h2, hu, hl, if_false, Bool.false_eq_true]
        rw [hc]
        by_cases h3 : bAt s 0 = 3 ∧ bAt s 1 ≠ 4 <;> by_cases h5 : bAt s 0 = 5 ∧ bAt s 1 ≠ 1 <;>
          simp [h3, h5]

section
attribute [local simp] Option.filter rejectToErr

theorem ndp_step (off : Nat) (s : Bytes) (hs : s ≠ []) :
    match Ndp.head off s with
    | .error r => ndpNext ⟨off, s⟩ = some (.error (rejectToErr r), ⟨off + s.length, []⟩)
    | .ok o => o.off = off ∧ o.len = bAt s 1 * 8 ∧ 0 < o.len ∧ o.len ≤ s.length ∧
        ndpNext ⟨off, s⟩ = some (.ok ⟨ndpKindOfType (bAt s 0), off, s.take o.len⟩,
                                 ⟨off + o.len, s.drop o.len⟩) ∧
        NdpOpt.view ⟨ndpKindOfType (bAt s 0), off, s.take o.len⟩ = o.view := by
  rw [ndpNext_eval off s hs]
  unfold Ndp.head
  have hm : 8 * bAt s 1 = bAt s 1 * 8 := Nat.mul_comm _ _
  by_cases h2 : s.length < 2
  · simp [h2]
  · by_cases hu : bAt s 1 = 0
    · simp [h2, hu]
    · by_cases hl : bAt s 1 * 8 > s.length
      · simp [h2, hu, hl, hm]
      · simp only [h2, hu, hl, if_false, optFmt_units, hm, ndpOpt_view]
        by_cases h3 : bAt s 0 = 3
        · by_cases h4 : bAt s 1 = 4
          · simp [h3, h4]
            omega
          · simp [h3, h4, Ne.symm h4]
        · by_cases h5 : bAt s 0 = 5
          · by_cases h1 : bAt s 1 = 1
            · simp [h5, h1]
              omega
            · simp [h5, h1, Ne.symm h1]
          · simp [h3, h5]
            omega

end

theorem ndp_refines (s : Bytes) : ∀ off : Nat,
    (ndpRun ⟨off, s⟩).1.map NdpOpt.view = (Ndp.parse off s).1.map (·.view) ∧
    (ndpRun ⟨off, s⟩).2 = (Ndp.parse off s).2.map rejectToErr := by
  induction hn : s.length using Nat.strongRecOn generalizing s with
  | _ n ih =>
    intro off
    by_cases hs : s = []
    · subst hs
      rw [ndpRun_eq, ndpNext_nil, Ndp.parse]
      simp
    · have hstep := ndp_step off s hs
      rw [Ndp.parse]
      simp only [hs]
      split at hstep
      · rename_i r hr
        rw [ndpRun_eq, hstep]
        simp [hr]
      · rename_i o ho
        obtain ⟨ho1, ho2, ho3, ho4, hnext, hview⟩ := hstep
        rw [ndpRun_eq, hnext]
        simp only [ho, ho3, ho4, and_self, dite_true]
        have := ih (s.drop o.len).length (by simp; omega) (s.drop o.len) rfl (off + o.len)
        simp [hview, this.1, this.2]

/-- `opts` tile `area` from offset `o`: each option starts where the previous one ended, is
    `8 * unit` bytes long where `unit` is the (non-zero) byte at offset + 1 of the area, lies
    inside the area and consists of the area's bytes at that window. -/
def TilesFrom (area : Bytes) : Nat → List NdpOpt → Prop
  | _, [] => True
  | o, x :: xs => x.off = o ∧ x.bytes.length = 8 * bAt area (o + 1) ∧ 0 < x.bytes.length ∧
      o + x.bytes.length ≤ area.length ∧ x.bytes = sub area o x.bytes.length ∧
      TilesFrom area (o + x.bytes.length) xs

/-- offset just behind the last option of a tiling that starts at `o`. -/
def coveredEnd (o : Nat) : List NdpOpt → Nat
  | [] => o
  | x :: xs => coveredEnd (o + x.bytes.length) xs

theorem ndp_tiles_gen (area s : Bytes) : ∀ off r, ndpRun ⟨off, s⟩ = r → s = area.drop off →
    off ≤ area.length →
    TilesFrom area off r.1 ∧
    (r.2 = none → coveredEnd off r.1 = area.length) ∧
    (∀ e, r.2 = some e → coveredEnd off r.1 < area.length ∧
      ∃ rj, Ndp.head (coveredEnd off r.1) (area.drop (coveredEnd off r.1)) = .error rj ∧
        e = rejectToErr rj) ∧
    r.1.length ≤ s.length / 8 := by
  induction hn : s.length using Nat.strongRecOn generalizing s with
  | _ n ih =>
    intro off r hr hsd hoff
    rw [ndpRun_eq] at hr
    by_cases hs : s = []
    · subst hs hr
      have hl : (area.drop off).length = 0 := by rw [← hsd]; rfl
      simp only [List.length_drop] at hl
      simp [ndpNext_nil, TilesFrom, coveredEnd]
      omega
    · have hstep := ndp_step off s hs
      have hsl : s.length = area.length - off := by rw [hsd]; simp
      have hpos : 0 < s.length := List.length_pos_iff.mpr hs
      split at hstep
      · rename_i rj hrj
        rw [hstep] at hr
        subst hr
        simp only [TilesFrom, coveredEnd, true_and, List.length_nil, Nat.zero_le, and_true]
        refine ⟨by simp, ?_⟩
        rintro e ⟨⟩
        exact ⟨by omega, rj, hsd ▸ hrj, rfl⟩
      · rename_i o ho
        obtain ⟨ho1, ho2, ho3, ho4, hnext, hview⟩ := hstep
        rw [hnext] at hr
        subst hr
        have hd : s.drop o.len = area.drop (off + o.len) := by rw [hsd, List.drop_drop]
        obtain ⟨t1, t2, t3, t4⟩ :=
          ih _ (by simp; omega) (s.drop o.len) rfl (off + o.len) _ rfl hd (by omega)
        have hlen : (s.take o.len).length = o.len := by simp; omega
        have hb : bAt area (off + 1) = bAt s 1 := by rw [hsd, bAt_drop]
        simp only [TilesFrom, coveredEnd, hlen, List.length_cons, true_and]
        refine ⟨⟨by rw [hb]; omega, ho3, by omega, by rw [hsd]; rfl, t1⟩, t2, t3, ?_⟩
        simp only [List.length_drop] at t4
        omega

theorem coveredEnd_ge (o : Nat) (xs : List NdpOpt) : o ≤ coveredEnd o xs := by
  induction xs generalizing o with
  | nil => simp [coveredEnd]
  | cons x xs ih => have := ih (o + x.bytes.length); simp only [coveredEnd]; omega

theorem tiles_concat (area : Bytes) (xs : List NdpOpt) : ∀ o, TilesFrom area o xs →
    (xs.map (·.bytes)).flatten = sub area o (coveredEnd o xs - o) := by
  induction xs with
  | nil => intro o _; simp [coveredEnd, sub]
  | cons x xs ih =>
    intro o h
    obtain ⟨_, _, _, _, hb, ht⟩ := h
    have := ih _ ht
    have hge := coveredEnd_ge (o + x.bytes.length) xs
    simp only [List.map_cons, List.flatten_cons, coveredEnd, this]
    rw [hb, sub_length _ _ _ (by omega), sub_append_sub _ _ _ _ _ rfl]
    congr 1
    omega

theorem icmp6_exact_entries : ∀ e ∈ Icmp.icmp6Table, e.exactLen = none := by decide

theorem icmp4_exact_entries : ∀ e ∈ Icmp.icmp4Table,
    e.exactLen = if (e.type = 13 ∨ e.type = 14) ∧ e.code = 0 then some 20 else none := by decide

theorem exactOf_icmp4 (t c : Nat) :
    Icmp.exactOf Icmp.icmp4Table t c = if (t = 13 ∨ t = 14) ∧ c = 0 then some 20 else none := by
  unfold Icmp.exactOf
  cases hlk : Icmp.lookup Icmp.icmp4Table t c with
  | some e =>
    have hp := List.find?_some hlk
    simp only [decide_eq_true_eq] at hp
    rw [hp.1, hp.2]
    exact icmp4_exact_entries e (List.mem_of_find?_eq_some hlk)
  | none =>
    rw [if_neg]
    · rfl
    · rintro ⟨rfl | rfl, rfl⟩ <;> exact Option.some_ne_none _ hlk

theorem exactOf_icmp6 (t c : Nat) : Icmp.exactOf Icmp.icmp6Table t c = none := by
  unfold Icmp.exactOf
  cases hlk : Icmp.lookup Icmp.icmp6Table t c with
  | none => rfl
  | some e => simp [icmp6_exact_entries e (List.mem_of_find?_eq_some hlk)]

theorem icmp4Type_headerLen (b : Bytes) :
    (icmp4Type b).headerLen = if (bAt b 0 = 13 ∨ bAt b 0 = 14) ∧ bAt b 1 = 0 then 20 else 8 := by
  unfold icmp4Type
  dsimp only
  generalize bAt b 0 = t
  generalize bAt b 1 = c
  match t with
  | 3 => cases destUnreachable4 b <;> rfl
  | 5 => cases redirectCode4 c <;> rfl
  | 11 => match c with | 0 | 1 | _ + 2 => rfl
  | 12 => match c with | 0 | 1 | 2 | _ + 3 => rfl
  | 0 | 8 | 13 | 14 => match c with | 0 | _ + 1 => rfl
  | 1 | 2 | 4 | 6 | 7 | 9 | 10 | _ + 15 => rfl

/-- the order follows `icmp6Type`: types with a code table, types without a typed view, types whose
    only code is 0 (the NDP types last). -/
theorem icmp6_type_cases (t : Nat) :
    t = 1 ∨ t = 3 ∨ t = 4 ∨
    (t ≠ 1 ∧ t ≠ 2 ∧ t ≠ 3 ∧ t ≠ 4 ∧ t ≠ 128 ∧ t ≠ 129 ∧ t ≠ 133 ∧ t ≠ 134 ∧ t ≠ 135 ∧ t ≠ 136 ∧
      t ≠ 137) ∨
    t = 2 ∨ t = 128 ∨ t = 129 ∨ t = 134 ∨ t = 136 ∨ t = 133 ∨ t = 135 ∨ t = 137 := by omega

theorem igmp_type_cases (t : Nat) : t = 0x11 ∨ t = 0x12 ∨ t = 0x16 ∨ t = 0x17 ∨ t = 0x22 ∨
    (t ≠ 0x11 ∧ t ≠ 0x12 ∧ t ≠ 0x16 ∧ t ≠ 0x17 ∧ t ≠ 0x22) := by omega

theorem icmp6_accept_len {b s : Bytes} (h : icmp6FromSlice b = .ok s) : s = b ∧ 8 ≤ b.length := by
  unfold icmp6FromSlice at h
  split at h
  · contradiction
  · split at h
    · contradiction
    · simp only [Except.ok.injEq] at h
      exact ⟨h.symm, by omega⟩

theorem payload6SliceFromSlice_eq (k : Payload6Kind) (p : Bytes) :
    payload6SliceFromSlice k p =
      if p.length < k.fixedPartLen then
        .error { req := k.fixedPartLen, len := p.length, src := .slice, layer := .icmpv6, off := 0 }
      else .ok k := by
  cases k <;> rfl

end EpModel.Lemmas.View
