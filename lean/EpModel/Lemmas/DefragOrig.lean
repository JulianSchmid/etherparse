import EpModel.Lemmas.Defrag
/-
  Helper lemmas for C11: fragments that are consistent with one original payload
  (order / duplication invariance, recovery of the original).
-/
namespace EpModel.Lemmas.Defrag
open EpModel EpModel.Defrag Spec.Reasm

/-- fragment `f` is a piece of the datagram payload `P`: it lies inside `P`, carries the bytes of
    `P` at its position, is flagged last only if it ends where `P` ends, and has a length that is
    a multiple of 8 unless it is flagged last. -/
def Consistent (P : Bytes) (f : Frag) : Prop :=
  f.stop ≤ P.length ∧ f.bytes = (P.drop f.off).take f.bytes.length ∧
  (f.last = true → f.stop = P.length) ∧ (f.last = false → f.bytes.length % 8 = 0)

instance (P : Bytes) (f : Frag) : Decidable (Consistent P f) := by
  unfold Consistent; exact inferInstance

theorem exists_image {α β : Type} {p : α → Prop} {f : α → β} {q : β → Prop} :
    (∃ b, (∃ a, p a ∧ f a = b) ∧ q b) ↔ ∃ a, p a ∧ q (f a) :=
  ⟨fun ⟨_, ⟨a, ha, rfl⟩, hq⟩ => ⟨a, ha, hq⟩, fun ⟨a, ha, hq⟩ => ⟨_, ⟨a, ha, rfl⟩, hq⟩⟩

theorem consistent_byte {P : Bytes} {f : Frag} (h : Consistent P f) {i : Nat}
    (h1 : f.off ≤ i) (h2 : i < f.stop) : f.bytes[i - f.off]? = P[i]? := by
  obtain ⟨hs, hb, _, _⟩ := h
  rw [hb, List.getElem?_take, List.getElem?_drop]
  unfold Frag.stop at h2 hs
  have : i - f.off < f.bytes.length := by omega
  simp only [this, if_true]
  congr 1; omega

theorem byteAt_consistent {P : Bytes} : ∀ {fs : List Frag}, (∀ g ∈ fs, Consistent P g) →
    ∀ i, covered fs i → byteAt fs i = P[i]?
  | [], _, i, hc => by simp [covered] at hc
  | f :: fs, h, i, hc => by
    simp only [byteAt]
    split
    · rename_i hin
      exact consistent_byte (h f (by simp)) hin.1 hin.2
    · rename_i hout
      rw [covered_cons] at hc
      rcases hc with hc | hc
      · exact absurd hc hout
      · exact byteAt_consistent (fun g hg => h g (by simp [hg])) i hc

theorem endOf_consistent {P : Bytes} : ∀ {fs : List Frag}, (∀ g ∈ fs, Consistent P g) →
    ∀ e, endOf fs = some e → e = P.length
  | [], _, e, he => by simp [endOf] at he
  | f :: fs, h, e, he => by
    simp only [endOf] at he
    split at he
    · rename_i hl
      cases he
      exact (h f (by simp)).2.2.1 hl
    · exact endOf_consistent (fun g hg => h g (by simp [hg])) e he

theorem endOf_isSome_iff : ∀ (fs : List Frag), (endOf fs).isSome ↔ ∃ g ∈ fs, g.last = true
  | [] => by simp [endOf]
  | f :: fs => by
    simp only [endOf]
    split
    · rename_i hl; simp [hl]
    · rename_i hl
      rw [endOf_isSome_iff fs]
      simp [hl]

theorem extent_consistent {P : Bytes} : ∀ {fs : List Frag}, (∀ g ∈ fs, Consistent P g) →
    extent fs ≤ P.length
  | [], _ => by simp [extent]
  | f :: fs, h => by
    simp only [extent]
    have h1 := (h f (by simp)).1
    have h2 : extent fs ≤ P.length :=
      extent_consistent (fs := fs) (fun g hg => h g (by simp [hg]))
    omega

theorem check_consistent {P : Bytes} (hP : P.length ≤ 65535) {fs : List Frag}
    (h : ∀ g ∈ fs, Consistent P g) {f : Frag} (hf : Consistent P f) : check fs f = none := by
  obtain ⟨h1, _, h3, h4⟩ := hf
  unfold check
  have c1 : ¬ f.stop > 65535 := by omega
  have c2 : ¬ (f.last = false ∧ f.bytes.length % 8 ≠ 0) := fun hh => hh.2 (h4 hh.1)
  simp only [c1, c2, if_false]
  cases he : endOf fs with
  | some e =>
    have := endOf_consistent h e he
    subst this
    simp only []
    have c3 : ¬ (P.length < f.stop ∨ (f.last = true ∧ f.stop ≠ P.length)) := by
      rintro (hh | ⟨hl, hne⟩)
      · omega
      · exact hne (h3 hl)
    simp only [c3, if_false]
  | none =>
    simp only []
    have := extent_consistent h
    have c3 : ¬ (f.last = true ∧ f.stop < extent fs) := by
      rintro ⟨hl, hlt⟩
      have := h3 hl; omega
    simp only [c3, if_false]

theorem emit_isSome_consistent {P : Bytes} {fs : List Frag} (h : ∀ g ∈ fs, Consistent P g) :
    (emit fs).isSome ↔ (∃ g ∈ fs, g.last = true) ∧ ∀ i, i < P.length → covered fs i := by
  rw [emit_isSome_iff, ← endOf_isSome_iff]
  constructor
  · rintro ⟨e, he, hc⟩
    have := endOf_consistent h e he
    subst this
    exact ⟨by simp [he], hc⟩
  · rintro ⟨hs, hc⟩
    cases he : endOf fs with
    | none => simp [he] at hs
    | some e =>
      have := endOf_consistent h e he
      subst this
      exact ⟨_, he, hc⟩

theorem emit_consistent {P : Bytes} {fs : List Frag} (h : ∀ g ∈ fs, Consistent P g) {bs : Bytes}
    (he : emit fs = some bs) : bs = P := by
  obtain ⟨e, ⟨hend, hc⟩, rfl⟩ := emit_eq_some.1 he
  have := endOf_consistent h e hend
  subst this
  apply List.ext_getElem?
  intro i
  simp only [payload, List.getElem?_map]
  by_cases hi : i < P.length
  · rw [List.getElem?_range hi, Option.map_some, byteAt_consistent h i (hc i hi),
      List.getElem?_eq_getElem hi]
    rfl
  · rw [List.getElem?_eq_none (by simp; omega), List.getElem?_eq_none (by omega)]
    rfl

/-- order / duplication invariance: two fact lists with the same members (any permutation, any
    duplication) that are pieces of one payload emit the same thing. -/
theorem emit_order_invariant {P : Bytes} {fs1 fs2 : List Frag} (h : ∀ g ∈ fs1, Consistent P g)
    (hm : ∀ g, g ∈ fs1 ↔ g ∈ fs2) : emit fs1 = emit fs2 := by
  have h2 : ∀ g ∈ fs2, Consistent P g := fun g hg => h g ((hm g).2 hg)
  have hiff : (emit fs1).isSome ↔ (emit fs2).isSome := by
    rw [emit_isSome_consistent h, emit_isSome_consistent h2]
    simp only [covered, hm]
  cases h1 : emit fs1 with
  | none =>
    cases h2' : emit fs2 with
    | none => rfl
    | some b => rw [h1, h2'] at hiff; simp at hiff
  | some a =>
    cases h2' : emit fs2 with
    | none => rw [h1, h2'] at hiff; simp at hiff
    | some b => rw [emit_consistent h h1, emit_consistent h2 h2']

theorem emit_bytes_delivered {fs : List Frag} {bs : Bytes} (he : emit fs = some bs) (i : Nat)
    (hi : i < bs.length) : ∃ f ∈ fs, f.off ≤ i ∧ i < f.stop ∧ bs[i]? = f.bytes[i - f.off]? := by
  obtain ⟨e, ⟨hend, hc⟩, rfl⟩ := emit_eq_some.1 he
  have hie : i < e := by simpa [payload] using hi
  have hcov := hc i hie
  simp only [payload, List.getElem?_map, List.getElem?_range hie, Option.map_some]
  clear hc hi he hend
  induction fs with
  | nil => simp [covered] at hcov
  | cons f fs ih =>
    simp only [byteAt]
    split
    · rename_i hin
      refine ⟨f, by simp, hin.1, hin.2, ?_⟩
      have : i - f.off < f.bytes.length := by have := hin.2; unfold Frag.stop at this; omega
      rw [List.getElem?_eq_getElem this]; rfl
    · rename_i hout
      rw [covered_cons] at hcov
      rcases hcov with hcov | hcov
      · exact absurd hcov hout
      · obtain ⟨g, hg, h1, h2, h3⟩ := ih hcov
        exact ⟨g, by simp [hg], h1, h2, h3⟩

end EpModel.Lemmas.Defrag
