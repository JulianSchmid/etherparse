import EpModel.Lemmas.IoSkip
/- helper lemmas for C16: the Read + Seek skipping of IPv6 extension headers over a reader whose
   `seek` can fail (`SReader`, `skipExtSf`, `skipAllSf` of Model/IoSkip.lean) -/
namespace EpModel.Lemmas.IoSkipSeek
open EpModel EpModel.Io EpModel.Io.Skip EpModel.Lemmas.Io EpModel.Lemmas.IoSkip

/-- a result of the plain functions (seek never fails) seen as a result of the seek-failing ones -/
def liftRes : Except IoError Nat → Except SkipError Nat
  | .ok n => .ok n
  | .error e => .error (.io e)

/-- `Steps d avail nh pos m nh' pos'`: `m` skippable extension headers, each completely inside the
    first `avail` bytes of `d`, lead from offset `pos` / next header `nh` to offset `pos'` / next
    header `nh'` (which may or may not be skippable: a `Chain` without its end condition, with
    the number of headers).  `Chain` keeps constructors of its own: the statements about the plain
    functions in C16 are in terms of it; `Steps.toChain` / `Chain.toSteps` relate the two. -/
inductive Steps (d : Bytes) (avail : Nat) : Nat → Nat → Nat → Nat → Nat → Prop where
  | zero {nh pos : Nat} : Steps d avail nh pos 0 nh pos
  | succ {nh pos m nh' pos' : Nat} {kind : Kind} : kindOf nh = some kind →
      pos + hdrLen kind d pos ≤ avail →
      Steps d avail (bAt d pos) (pos + hdrLen kind d pos) m nh' pos' →
      Steps d avail nh pos (m + 1) nh' pos'

theorem Steps.toChain {d : Bytes} {avail nh pos m f p : Nat} (h : Steps d avail nh pos m f p)
    (hf : ¬ isSkippable f) : Chain d avail nh pos f p := by
  induction h with
  | zero => exact Chain.stop hf
  | succ hk hfit _ ih => exact Chain.step hk hfit (ih hf)

theorem Chain.toSteps {d : Bytes} {avail nh pos f p : Nat} (h : Chain d avail nh pos f p) :
    ∃ m, Steps d avail nh pos m f p := by
  induction h with
  | stop _ => exact ⟨0, Steps.zero⟩
  | step hk hfit _ ih =>
    obtain ⟨m, hm⟩ := ih
    exact ⟨m + 1, Steps.succ hk hfit hm⟩

theorem Steps.bounds {d : Bytes} {avail nh pos m nh' pos' : Nat} (h : Steps d avail nh pos m nh' pos') :
    pos + 8 * m ≤ pos' ∧ (pos ≤ avail → pos' ≤ avail) := by
  induction h with
  | zero => exact ⟨by omega, id⟩
  | @succ nh pos m nh' pos' kind hk hfit _ ih =>
    have := hdrLen_ge kind d pos
    exact ⟨by omega, fun _ => ih.2 hfit⟩

theorem firstRead_le_hdrLen (k : Kind) (d : Bytes) (pos : Nat) : k.firstRead ≤ hdrLen k d pos := by
  have := hdrLen_ge k d pos
  have := firstRead_le_two k
  omega

theorem sub_eq_sub_succ_add_one {a b : Nat} (h : b < a) : a - b = a - (b + 1) + 1 := by omega

theorem skipExtSf_not_skippable (s : SReader) (nh : Nat) (h : kindOf nh = none) :
    skipExtSf s nh = (s, .ok nh) := by
  simp [skipExtSf, h]

theorem skipExtSf_seek_fails (rd : Reader) (c : Nat) (nh : Nat) (kind : Kind)
    (hk : kindOf nh = some kind) (h : rd.pos + kind.firstRead ≤ rd.limit) :
    skipExtSf { rd := rd, seeks := c, seekFail := some c } nh =
      ({ rd := { data := rd.data, pos := rd.pos + kind.firstRead, failAt := rd.failAt },
         seeks := c + 1, seekFail := some c }, .error .seek) := by
  have hf := kind.firstRead_ne_zero
  unfold skipExtSf
  simp only [hk, SReader.readExact]
  rw [readExact_ok rd kind.firstRead hf h]
  simp [SReader.seekCur]

theorem skipExtSf_unreached (rd : Reader) (c : Nat) (sf : Option Nat) (nh : Nat) (kind : Kind)
    (hk : kindOf nh = some kind) (hsf : rd.pos + kind.firstRead ≤ rd.limit → sf ≠ some c) :
    skipExtSf { rd := rd, seeks := c, seekFail := sf } nh =
      ({ rd := (skipHeaderExtension rd nh).1,
         seeks := c + (if rd.pos + kind.firstRead ≤ rd.limit then 1 else 0), seekFail := sf },
       liftRes (skipHeaderExtension rd nh).2) := by
  have hf := kind.firstRead_ne_zero
  unfold skipExtSf skipHeaderExtension
  simp only [hk, SReader.readExact]
  by_cases h : rd.pos + kind.firstRead ≤ rd.limit
  · rw [readExact_ok rd kind.firstRead hf h, if_pos h]
    simp only [SReader.seekCur, hsf h, if_false]
    cases h3 : (seekCur { data := rd.data, pos := rd.pos + kind.firstRead, failAt := rd.failAt }
        (kind.restLength (sub rd.data rd.pos kind.firstRead) - 1)).readExact 1 with
    | mk r3 res3 => cases res3 <;> rfl
  · rw [readExact_err rd kind.firstRead hf h, if_neg h]
    rfl

theorem skipAllSf_stop (s : SReader) (nh : Nat) (h : ¬ isSkippable nh) :
    skipAllSf s nh = (s, .ok nh) := by
  unfold skipAllSf; rw [dif_neg h]

theorem skipAllSf_err (s : SReader) (nh : Nat) (hs : isSkippable nh) (s' : SReader) (e : SkipError)
    (h : skipExtSf s nh = (s', .error e)) : skipAllSf s nh = (s', .error e) := by
  unfold skipAllSf; rw [dif_pos hs]
  split
  · rename_i s'' e' heq
    rw [h] at heq; cases heq; rfl
  · rename_i s'' next heq
    rw [h] at heq; cases heq

theorem skipAllSf_step (s : SReader) (nh : Nat) (hs : isSkippable nh) (s' : SReader) (next : Nat)
    (h : skipExtSf s nh = (s', .ok next)) : skipAllSf s nh = skipAllSf s' next := by
  conv => lhs; unfold skipAllSf
  rw [dif_pos hs]
  split
  · rename_i s'' e' heq
    rw [h] at heq; cases heq
  · rename_i s'' next' heq
    rw [h] at heq; cases heq; rfl

theorem skipAll_stop (r : Reader) (nh : Nat) (h : ¬ isSkippable nh) : skipAll r nh = (r, .ok nh) := by
  unfold skipAll; rw [dif_neg h]

theorem skipAll_err (r : Reader) (nh : Nat) (hs : isSkippable nh) (r' : Reader) (e : IoError)
    (h : skipHeaderExtension r nh = (r', .error e)) : skipAll r nh = (r', .error e) := by
  unfold skipAll; rw [dif_pos hs]
  split
  · rename_i r'' e' heq
    rw [h] at heq; cases heq; rfl
  · rename_i r'' next heq
    rw [h] at heq; cases heq

theorem skipAll_step (r : Reader) (nh : Nat) (hs : isSkippable nh) (r' : Reader) (next : Nat)
    (h : skipHeaderExtension r nh = (r', .ok next)) : skipAll r nh = skipAll r' next := by
  conv => lhs; unfold skipAll
  rw [dif_pos hs]
  split
  · rename_i r'' e' heq
    rw [h] at heq; cases heq
  · rename_i r'' next' heq
    rw [h] at heq; cases heq; rfl

/-- the run in which no seek fails, started with `c` seek calls on the counter -/
abbrev freeRun (rd : Reader) (c : Nat) (nh : Nat) : SReader × Except SkipError Nat :=
  skipAllSf { rd := rd, seeks := c, seekFail := none } nh

/-- The free run is `skipAll` (with the number of seek calls it makes); a failing seek that is not in
    reach changes nothing; one in reach ends the run.  One statement, because all three need the same
    induction along the plain loop `skipAll` with the counter generalised. -/
theorem skipAllSf_spec (rd : Reader) (nh c : Nat) (sf : Option Nat) :
    ((freeRun rd c nh).1.rd = (skipAll rd nh).1 ∧ (freeRun rd c nh).2 = liftRes (skipAll rd nh).2 ∧
      c ≤ (freeRun rd c nh).1.seeks ∧
      (∀ f, (skipAll rd nh).2 = .ok f →
        Steps rd.data rd.limit nh rd.pos ((freeRun rd c nh).1.seeks - c) f (skipAll rd nh).1.pos) ∧
      (∀ e, (skipAll rd nh).2 = .error e →
        ∃ m nh' pos' kind, Steps rd.data rd.limit nh rd.pos m nh' pos' ∧ kindOf nh' = some kind ∧
          ¬ pos' + hdrLen kind rd.data pos' ≤ rd.limit ∧
          (freeRun rd c nh).1.seeks = c + m + (if pos' + kind.firstRead ≤ rd.limit then 1 else 0))) ∧
    ((∀ j, sf = some j → j < c ∨ (freeRun rd c nh).1.seeks ≤ j) →
      skipAllSf { rd := rd, seeks := c, seekFail := sf } nh =
        ({ rd := (freeRun rd c nh).1.rd, seeks := (freeRun rd c nh).1.seeks, seekFail := sf },
         (freeRun rd c nh).2)) ∧
    (∀ j, sf = some j → c ≤ j → j < (freeRun rd c nh).1.seeks →
      ∃ nh' pos' kind, Steps rd.data rd.limit nh rd.pos (j - c) nh' pos' ∧
        kindOf nh' = some kind ∧ pos' + kind.firstRead ≤ rd.limit ∧
        skipAllSf { rd := rd, seeks := c, seekFail := sf } nh =
          ({ rd := { data := rd.data, pos := pos' + kind.firstRead, failAt := rd.failAt },
             seeks := j + 1, seekFail := sf }, .error .seek)) := by
  fun_induction skipAll rd nh generalizing c with
  | case1 rd nh hs r' e heq =>
    -- `skipAll` fails in this header (a read error)
    obtain ⟨kind, hk⟩ := (isSkippable_iff nh).1 hs
    have hfree := skipExtSf_unreached rd c none nh kind hk (fun _ => nofun)
    rw [heq] at hfree
    rw [show freeRun rd c nh = _ from skipAllSf_err _ nh hs _ _ hfree]
    have hcut : ¬ rd.pos + hdrLen kind rd.data rd.pos ≤ rd.limit := by
      intro hfit
      rw [skip_ok rd nh kind hk hfit] at heq; cases heq
    refine ⟨⟨rfl, rfl, Nat.le_add_right _ _, fun f hf => (nomatch hf),
      fun _ _ => ⟨0, nh, rd.pos, kind, Steps.zero, hk, hcut, rfl⟩⟩, fun hun => ?_, fun j hj hcj hjn => ?_⟩
    · have hrun := skipExtSf_unreached rd c sf nh kind hk (fun h1 hc => by
        have := hun c hc
        dsimp only at this
        rw [if_pos h1] at this
        omega)
      rw [heq] at hrun
      exact skipAllSf_err _ nh hs _ _ hrun
    · dsimp only at hjn
      by_cases h1 : rd.pos + kind.firstRead ≤ rd.limit
      · -- the first read succeeds: the seek with index `c` is called
        rw [if_pos h1] at hjn
        have hjc : j = c := by omega
        subst hjc; subst hj
        refine ⟨nh, rd.pos, kind, by rw [Nat.sub_self]; exact Steps.zero, hk, h1, ?_⟩
        exact skipAllSf_err _ nh hs _ _ (skipExtSf_seek_fails rd j nh kind hk h1)
      · rw [if_neg h1] at hjn
        omega
  | case2 rd nh hs r' next heq ih =>
    -- `skipAll` skips this header completely
    obtain ⟨kind, hk⟩ := (isSkippable_iff nh).1 hs
    have hfit : rd.pos + hdrLen kind rd.data rd.pos ≤ rd.limit := Decidable.byContradiction fun hfit => by
      have := (skip_err rd nh kind hk hfit).1
      rw [heq] at this; cases this
    have hok := skip_ok rd nh kind hk hfit
    rw [heq] at hok
    cases hok
    have h1 : rd.pos + kind.firstRead ≤ rd.limit := by
      have := firstRead_le_hdrLen kind rd.data rd.pos
      omega
    -- a seek that is not the failing one: the loop goes on behind this header, one call counted
    have hstep : ∀ sf : Option Nat, sf ≠ some c →
        skipAllSf { rd := rd, seeks := c, seekFail := sf } nh =
          skipAllSf ⟨⟨rd.data, rd.pos + hdrLen kind rd.data rd.pos, rd.failAt⟩, c + 1, sf⟩ (bAt rd.data rd.pos) := by
      intro sf hsf
      have hrun := skipExtSf_unreached rd c sf nh kind hk (fun _ => hsf)
      rw [heq, if_pos h1] at hrun
      exact skipAllSf_step _ nh hs _ _ hrun
    rw [show freeRun rd c nh = freeRun ⟨rd.data, rd.pos + hdrLen kind rd.data rd.pos, rd.failAt⟩ (c + 1)
      (bAt rd.data rd.pos) from hstep none nofun]
    obtain ⟨⟨i1, i2, i3, i4, i5⟩, iun, ire⟩ := ih (c + 1)
    refine ⟨⟨i1, i2, Nat.le_of_succ_le i3, fun f hf => ?_, fun e he => ?_⟩, fun hun => ?_,
      fun j hj hcj hjn => ?_⟩
    · rw [sub_eq_sub_succ_add_one i3]
      exact Steps.succ hk hfit (i4 f hf)
    · obtain ⟨m, nh', pos', kind', hst, hk', hcut, hn⟩ := i5 e he
      exact ⟨m + 1, nh', pos', kind', Steps.succ hk hfit hst, hk', hcut,
        by rw [hn, Nat.add_assoc c 1 m, Nat.add_comm 1 m]; rfl⟩
    · rw [hstep sf fun hc => by have := hun c hc; omega]
      exact iun fun j hj => (hun j hj).imp_left Nat.lt_succ_of_lt
    · by_cases hjc : j = c
      · subst hjc; subst hj
        refine ⟨nh, rd.pos, kind, by rw [Nat.sub_self]; exact Steps.zero, hk, h1, ?_⟩
        exact skipAllSf_err _ nh hs _ _ (skipExtSf_seek_fails rd j nh kind hk h1)
      · have hlt : c < j := Nat.lt_of_le_of_ne hcj (fun h => hjc h.symm)
        rw [hstep sf fun hc => hjc (Option.some.inj (hj.symm.trans hc))]
        obtain ⟨nh', pos', kind', hst, hk', hfr, hres⟩ := ire j hj hlt hjn
        exact ⟨nh', pos', kind', by rw [sub_eq_sub_succ_add_one hlt]; exact Steps.succ hk hfit hst, hk', hfr,
          hres⟩
  | case3 rd nh hs =>
    -- not a skippable extension header: nothing is called
    have hF : freeRun rd c nh = ({ rd := rd, seeks := c, seekFail := none }, .ok nh) :=
      skipAllSf_stop _ nh hs
    rw [hF]
    refine ⟨⟨rfl, rfl, by simp, fun f hf => ?_, fun e he => by cases he⟩, fun _ => skipAllSf_stop _ nh hs,
      fun j hj hcj hjn => ?_⟩
    · cases hf
      simp only [Nat.sub_self]
      exact Steps.zero
    · simp at hjn; omega

theorem liftRes_eq_ok {r : Except IoError Nat} {f : Nat} : liftRes r = .ok f ↔ r = .ok f := by
  cases r <;> simp [liftRes]

theorem liftRes_eq_io {r : Except IoError Nat} {e : IoError} : liftRes r = .error (.io e) ↔ r = .error e := by
  cases r <;> simp [liftRes]

theorem liftRes_ne_seek {r : Except IoError Nat} : liftRes r ≠ .error .seek := by
  cases r <;> simp [liftRes]

theorem skipAllSf_cases (rd : Reader) (nh c : Nat) (sf : Option Nat) :
    ((∀ j, sf = some j → j < c ∨ (freeRun rd c nh).1.seeks ≤ j) ∧
      skipAllSf { rd := rd, seeks := c, seekFail := sf } nh =
        ({ rd := (skipAll rd nh).1, seeks := (freeRun rd c nh).1.seeks, seekFail := sf },
         liftRes (skipAll rd nh).2)) ∨
    (∃ j, sf = some j ∧ c ≤ j ∧ j < (freeRun rd c nh).1.seeks ∧
      (skipAllSf { rd := rd, seeks := c, seekFail := sf } nh).2 = .error .seek) := by
  obtain ⟨⟨h1, h2, _⟩, hun, hre⟩ := skipAllSf_spec rd nh c sf
  by_cases hin : ∃ j, sf = some j ∧ c ≤ j ∧ j < (freeRun rd c nh).1.seeks
  · obtain ⟨j, hj, hcj, hjn⟩ := hin
    obtain ⟨_, _, _, _, _, _, hres⟩ := hre j hj hcj hjn
    exact Or.inr ⟨j, hj, hcj, hjn, by rw [hres]⟩
  · have hfree : ∀ j, sf = some j → j < c ∨ (freeRun rd c nh).1.seeks ≤ j := fun j hj =>
      Decidable.or_iff_not_imp_left.2 fun hc =>
        Nat.le_of_not_lt fun hn => hin ⟨j, hj, Nat.le_of_not_lt hc, hn⟩
    exact Or.inl ⟨hfree, by rw [hun hfree, h1, h2]⟩

end EpModel.Lemmas.IoSkipSeek
