import EpModel.Model.Defrag
import EpModel.Spec.Reassembly
/-
  Helper lemmas for C11 (EpModel/Props/C11.lean): ranges and the merge loop, the data buffer,
  the abstract fact set, the refinement invariant between `Buf` and the facts.
-/
namespace EpModel.Lemmas.Defrag
open EpModel EpModel.Defrag

def Range.Valid (r : Range) : Prop := r.start ≤ r.stop
/-- not connected: a gap of at least one position between the two (closed) intervals -/
def Range.Disc (a b : Range) : Prop := a.stop < b.start ∨ b.stop < a.start
def Range.Has (r : Range) (i : Nat) : Prop := r.start ≤ i ∧ i < r.stop

instance (a b : Range) : Decidable (Range.Disc a b) := by unfold Range.Disc; exact inferInstance
instance (r : Range) : Decidable (Range.Valid r) := by unfold Range.Valid; exact inferInstance

theorem Range.Disc.symm {a b : Range} (h : Range.Disc a b) : Range.Disc b a := Or.symm h

def covers (rs : List Range) (i : Nat) : Prop := ∃ r ∈ rs, Range.Has r i

def extentR : List Range → Nat
  | [] => 0
  | r :: rs => max r.stop (extentR rs)

theorem merge_none_iff (a b : Range) (ha : Range.Valid a) (hb : Range.Valid b) :
    a.merge b = none ↔ Range.Disc a b := by
  unfold Range.merge Range.isValueConnected Range.Disc
  unfold Range.Valid at ha hb
  split <;> simp <;> omega

theorem merge_some {a b m : Range} (ha : Range.Valid a) (hb : Range.Valid b)
    (h : a.merge b = some m) :
    m.start = min a.start b.start ∧ m.stop = max a.stop b.stop ∧ ¬ Range.Disc a b := by
  have hn : ¬ Range.Disc a b := by
    intro hd; rw [(merge_none_iff a b ha hb).2 hd] at h; cases h
  unfold Range.merge at h
  split at h
  · cases h; exact ⟨rfl, rfl, hn⟩
  · cases h

theorem merge_valid {a b m : Range} (ha : Range.Valid a) (hb : Range.Valid b)
    (h : a.merge b = some m) : Range.Valid m := by
  have := merge_some ha hb h
  unfold Range.Valid at *; omega

theorem merge_has {a b m : Range} (ha : Range.Valid a) (hb : Range.Valid b)
    (h : a.merge b = some m) (i : Nat) : Range.Has m i ↔ Range.Has a i ∨ Range.Has b i := by
  have := merge_some ha hb h
  unfold Range.Valid Range.Disc Range.Has at *; omega

theorem merge_disc {a b m x : Range} (ha : Range.Valid a) (hb : Range.Valid b) (hx : Range.Valid x)
    (h : a.merge b = some m) (h1 : Range.Disc x a) (h2 : Range.Disc x b) : Range.Disc x m := by
  have := merge_some ha hb h
  unfold Range.Valid Range.Disc at *; omega

theorem mergeLoop_cons_some {ns it m : Range} {rest : List Range} (h : ns.merge it = some m) :
    mergeLoop ns (it :: rest) = mergeLoop m rest := by
  simp [mergeLoop, h]

theorem mergeLoop_cons_none {ns it : Range} {rest : List Range} (h : ns.merge it = none) :
    mergeLoop ns (it :: rest) = ((mergeLoop ns rest).1, it :: (mergeLoop ns rest).2) := by
  simp [mergeLoop, h]

theorem mergeLoop_valid (rs : List Range) : ∀ (ns : Range), Range.Valid ns →
    (∀ r ∈ rs, Range.Valid r) → Range.Valid (mergeLoop ns rs).1 := by
  induction rs with
  | nil => intro ns h _; exact h
  | cons it rest ih =>
    intro ns hns hrs
    obtain ⟨hit, hrest⟩ := List.forall_mem_cons.1 hrs
    cases hm : ns.merge it with
    | some m => rw [mergeLoop_cons_some hm]; exact ih m (merge_valid hns hit hm) hrest
    | none => rw [mergeLoop_cons_none hm]; exact ih ns hns hrest

theorem mergeLoop_sublist (rs : List Range) : ∀ (ns : Range), (mergeLoop ns rs).2.Sublist rs := by
  induction rs with
  | nil => intro ns; exact List.Sublist.slnil
  | cons it rest ih =>
    intro ns
    cases hm : ns.merge it with
    | some m => rw [mergeLoop_cons_some hm]; exact (ih m).cons it
    | none => rw [mergeLoop_cons_none hm]; exact (ih ns).cons_cons it

theorem covers_cons (r : Range) (rs : List Range) (i : Nat) :
    covers (r :: rs) i ↔ Range.Has r i ∨ covers rs i := by
  simp [covers]

theorem mergeLoop_has (rs : List Range) : ∀ (ns : Range), Range.Valid ns →
    (∀ r ∈ rs, Range.Valid r) → ∀ i,
    (Range.Has (mergeLoop ns rs).1 i ∨ covers (mergeLoop ns rs).2 i) ↔ (Range.Has ns i ∨ covers rs i) := by
  induction rs with
  | nil => intro ns _ _ i; exact Iff.rfl
  | cons it rest ih =>
    intro ns hns hrs i
    obtain ⟨hit, hrest⟩ := List.forall_mem_cons.1 hrs
    cases hm : ns.merge it with
    | some m =>
      rw [mergeLoop_cons_some hm, ih m (merge_valid hns hit hm) hrest i, merge_has hns hit hm i,
        covers_cons, or_assoc]
    | none =>
      rw [mergeLoop_cons_none hm, covers_cons, covers_cons, or_left_comm, ih ns hns hrest i,
        or_left_comm]

theorem mergeLoop_disc (rs : List Range) : ∀ (ns x : Range), Range.Valid ns → Range.Valid x →
    (∀ r ∈ rs, Range.Valid r) → Range.Disc x ns → (∀ r ∈ rs, Range.Disc x r) →
    Range.Disc x (mergeLoop ns rs).1 := by
  induction rs with
  | nil => intro ns x _ _ _ h _; exact h
  | cons it rest ih =>
    intro ns x hns hx hrs hd hds
    obtain ⟨hit, hrest⟩ := List.forall_mem_cons.1 hrs
    obtain ⟨hdit, hdrest⟩ := List.forall_mem_cons.1 hds
    cases hm : ns.merge it with
    | some m =>
      rw [mergeLoop_cons_some hm]
      exact ih m x (merge_valid hns hit hm) hx hrest (merge_disc hns hit hx hm hd hdit) hdrest
    | none => rw [mergeLoop_cons_none hm]; exact ih ns x hns hx hrest hd hdrest

theorem mergeLoop_kept_disc (rs : List Range) : ∀ (ns : Range), Range.Valid ns →
    (∀ r ∈ rs, Range.Valid r) → rs.Pairwise Range.Disc →
    ∀ k ∈ (mergeLoop ns rs).2, Range.Disc k (mergeLoop ns rs).1 := by
  induction rs with
  | nil => intro ns _ _ _ k hk; cases hk
  | cons it rest ih =>
    intro ns hns hrs hp k hk
    obtain ⟨hit, hrest⟩ := List.forall_mem_cons.1 hrs
    rw [List.pairwise_cons] at hp
    cases hm : ns.merge it with
    | some m =>
      rw [mergeLoop_cons_some hm] at hk ⊢
      exact ih m (merge_valid hns hit hm) hrest hp.2 k hk
    | none =>
      rw [mergeLoop_cons_none hm] at hk ⊢
      rcases List.mem_cons.1 hk with rfl | hk
      · exact mergeLoop_disc rest ns k hns hit hrest
          (((merge_none_iff ns k hns hit).1 hm).symm) hp.1
      · exact ih ns hns hrest hp.2 k hk

theorem mergeLoop_bounds (rs : List Range) : ∀ (ns : Range), Range.Valid ns →
    (∀ r ∈ rs, Range.Valid r) →
    (mergeLoop ns rs).1.start ≤ ns.start ∧ ns.stop ≤ (mergeLoop ns rs).1.stop := by
  induction rs with
  | nil => intro ns _ _; exact ⟨Nat.le_refl _, Nat.le_refl _⟩
  | cons it rest ih =>
    intro ns hns hrs
    obtain ⟨hit, hrest⟩ := List.forall_mem_cons.1 hrs
    cases hm : ns.merge it with
    | some m =>
      rw [mergeLoop_cons_some hm]
      have := ih m (merge_valid hns hit hm) hrest
      have := merge_some hns hit hm
      omega
    | none => rw [mergeLoop_cons_none hm]; exact ih ns hns hrest

theorem extentR_append (a b : List Range) : extentR (a ++ b) = max (extentR a) (extentR b) := by
  induction a with
  | nil => exact (Nat.zero_max _).symm
  | cons r rs ih => rw [List.cons_append, extentR, ih, extentR, Nat.max_assoc]

theorem mergeLoop_extent (rs : List Range) : ∀ (ns : Range), Range.Valid ns →
    (∀ r ∈ rs, Range.Valid r) →
    max (mergeLoop ns rs).1.stop (extentR (mergeLoop ns rs).2) = max ns.stop (extentR rs) := by
  induction rs with
  | nil => intro ns _ _; rfl
  | cons it rest ih =>
    intro ns hns hrs
    obtain ⟨hit, hrest⟩ := List.forall_mem_cons.1 hrs
    cases hm : ns.merge it with
    | some m =>
      rw [mergeLoop_cons_some hm, ih m (merge_valid hns hit hm) hrest, (merge_some hns hit hm).2.1,
        Nat.max_assoc, extentR]
    | none =>
      rw [mergeLoop_cons_none hm, extentR, extentR, Nat.max_left_comm, ih ns hns hrest,
        Nat.max_left_comm]

theorem covers_append (a b : List Range) (i : Nat) : covers (a ++ b) i ↔ covers a i ∨ covers b i := by
  simp only [covers, List.mem_append, or_and_right, exists_or]

theorem covers_singleton (r : Range) (i : Nat) : covers [r] i ↔ Range.Has r i := by
  simp [covers]

section
variable {ns : Range} {rs : List Range} (hns : Range.Valid ns) (hrs : ∀ r ∈ rs, Range.Valid r)
include hns hrs

theorem sections_valid : ∀ r ∈ (mergeLoop ns rs).2 ++ [(mergeLoop ns rs).1], Range.Valid r := by
  intro r hr
  rcases List.mem_append.1 hr with hr | hr
  · exact hrs r ((mergeLoop_sublist rs ns).subset hr)
  · rw [List.mem_singleton.1 hr]; exact mergeLoop_valid rs ns hns hrs

theorem sections_pairwise (hp : rs.Pairwise Range.Disc) :
    ((mergeLoop ns rs).2 ++ [(mergeLoop ns rs).1]).Pairwise Range.Disc := by
  rw [List.pairwise_append]
  refine ⟨hp.sublist (mergeLoop_sublist rs ns), List.pairwise_singleton _ _, ?_⟩
  intro a ha c hc
  rw [List.mem_singleton.1 hc]
  exact mergeLoop_kept_disc rs ns hns hrs hp a ha

theorem sections_covers (i : Nat) :
    covers ((mergeLoop ns rs).2 ++ [(mergeLoop ns rs).1]) i ↔ Range.Has ns i ∨ covers rs i := by
  rw [covers_append, covers_singleton, Or.comm, mergeLoop_has rs ns hns hrs i]

theorem sections_extent :
    extentR ((mergeLoop ns rs).2 ++ [(mergeLoop ns rs).1]) = max ns.stop (extentR rs) := by
  rw [extentR_append, extentR, extentR, Nat.max_zero, Nat.max_comm, mergeLoop_extent rs ns hns hrs]

end

theorem growTo_length (d : List Cell) (n : Nat) : (growTo d n).length = max d.length n := by
  unfold growTo; split
  · simp; omega
  · omega

theorem growTo_getElem? (d : List Cell) (n i : Nat) :
    (growTo d n)[i]? = if i < d.length then d[i]? else if i < n then some none else none := by
  unfold growTo
  split
  · rw [List.getElem?_append]
    split
    · rfl
    · rw [List.getElem?_replicate]; split <;> split <;> first | rfl | omega
  · split
    · rfl
    · rw [List.getElem?_eq_none (by omega)]; split <;> first | rfl | omega

theorem writeAt_length (d : List Cell) (off : Nat) (p : Bytes) (h : off + p.length ≤ d.length) :
    (writeAt d off p).length = d.length := by
  unfold writeAt; simp; omega

theorem writeAt_getElem? (d : List Cell) (off : Nat) (p : Bytes) (h : off + p.length ≤ d.length)
    (i : Nat) :
    (writeAt d off p)[i]? = if off ≤ i ∧ i < off + p.length then some p[i - off]? else d[i]? := by
  unfold writeAt
  rw [List.append_assoc, List.getElem?_append]
  simp only [List.length_take, List.getElem?_take]
  have hmin : min off d.length = off := by omega
  rw [hmin]
  by_cases h1 : i < off
  · simp [h1]; omega
  · simp only [h1, if_false]
    rw [List.getElem?_append]
    simp only [List.length_map, List.getElem?_map, List.getElem?_drop]
    by_cases h2 : i - off < p.length
    · have h3 : off ≤ i ∧ i < off + p.length := by omega
      simp only [h2, h3, if_true, and_self]
      rw [List.getElem?_eq_getElem h2]; rfl
    · have h3 : ¬ (off ≤ i ∧ i < off + p.length) := by omega
      simp only [h2, h3, if_false]
      congr 1; omega

open Spec.Reasm

theorem covered_cons (f : Frag) (fs : List Frag) (i : Nat) :
    covered (f :: fs) i ↔ (f.off ≤ i ∧ i < f.stop) ∨ covered fs i := by
  simp [covered]

theorem covered_lt_extent (fs : List Frag) (i : Nat) (h : covered fs i) : i < extent fs := by
  induction fs with
  | nil => simp [covered] at h
  | cons f fs ih =>
    rw [covered_cons] at h
    simp only [extent]
    rcases h with h | h
    · omega
    · have := ih h; omega

theorem byteAt_isSome_iff (fs : List Frag) (i : Nat) : (byteAt fs i).isSome ↔ covered fs i := by
  induction fs with
  | nil => simp [byteAt, covered]
  | cons f fs ih =>
    rw [covered_cons]
    simp only [byteAt]
    split
    · rename_i h
      have : i - f.off < f.bytes.length := by unfold Frag.stop at h; omega
      simp [List.getElem?_eq_getElem this, h]
    · rename_i h
      rw [ih]; simp [h]

theorem byteAt_none_of_ge (fs : List Frag) (i : Nat) (h : extent fs ≤ i) : byteAt fs i = none := by
  cases hb : byteAt fs i with
  | none => rfl
  | some v =>
    have : covered fs i := (byteAt_isSome_iff fs i).1 (by simp [hb])
    have := covered_lt_extent fs i this
    omega

/-- the fact a call `add(fo, mf, payload)` delivers -/
def factOf (fo : Nat) (mf : Bool) (p : Bytes) : Frag := { fo := fo, last := !mf, bytes := p }

/-- the fact of a packet that is not a fragment (`is_fragmenting_payload` false): a last fragment at offset 0 -/
theorem factOf_unfragmented_iff (fo : Nat) (mf : Bool) (p : Bytes) :
    (factOf fo mf p).last = true ∧ (factOf fo mf p).fo = 0 ↔ ¬ (mf = true ∨ fo ≠ 0) := by
  cases mf <;> simp [factOf]

/-- the crate's error value for an abstract rejection -/
def errOf : Reject → Err
  | .unaligned fo len => .unalignedFragmentPayloadLen fo len
  | .tooBig fo len => .segmentTooBig fo len 65535
  | .endConflict a b => .conflictingEnd a b

/-- `Inv b fs`: buffer `b` represents exactly the accepted facts `fs` (newest first). -/
structure Inv (b : Buf) (fs : List Frag) : Prop where
  valid : ∀ r ∈ b.sections, Range.Valid r
  pairwise : b.sections.Pairwise Range.Disc
  cover : ∀ i, covers b.sections i ↔ covered fs i
  extent : extentR b.sections = extent fs
  empty : b.sections = [] ↔ fs = []
  endEq : b.endKnown = endOf fs
  endExt : ∀ e, b.endKnown = some e → extentR b.sections = e
  len : b.data.length = extentR b.sections
  bytes : ∀ i, i < b.data.length → b.data[i]? = some (byteAt fs i)

theorem inv_new (ip : Nat) : Inv (Buf.new ip) [] := by
  refine ⟨?_, ?_, ?_, ?_, ?_, ?_, ?_, ?_, ?_⟩ <;> simp [Buf.new, covers, covered, extentR, extent, endOf]

theorem maxStop_none {rs : List Range} (h : maxStop rs = none) : rs = [] := by
  cases rs with
  | nil => rfl
  | cons r rs => simp only [maxStop] at h; split at h <;> cases h

theorem maxStop_some {rs : List Range} {m : Nat} (h : maxStop rs = some m) : m = extentR rs := by
  induction rs generalizing m with
  | nil => simp [maxStop] at h
  | cons r rs ih =>
    simp only [maxStop] at h
    split at h
    · rename_i hn
      cases h
      have := maxStop_none hn
      subst this; simp [extentR]
    · rename_i m' hs
      cases h
      rw [ih hs]; simp [extentR]

theorem endOf_le_extent {fs : List Frag} {e : Nat} (h : endOf fs = some e) : e ≤ extent fs := by
  induction fs with
  | nil => simp [endOf] at h
  | cons f fs ih =>
    simp only [endOf] at h
    simp only [extent]
    split at h
    · cases h; omega
    · have := ih h; omega

theorem addCheck_eq {b : Buf} {fs : List Frag} (h : Inv b fs) (fo : Nat) (mf : Bool) (p : Bytes) :
    b.addCheck fo mf p = (check fs (factOf fo mf p)).map errOf := by
  unfold Buf.addCheck check factOf Frag.stop Frag.off maxLen
  simp only []
  by_cases h1 : p.length > 65535
  · have : 8 * fo + p.length > 65535 := by omega
    simp [h1, this, errOf]
  · by_cases h2 : fo * 8 + p.length > 65535
    · have : 8 * fo + p.length > 65535 := by omega
      simp [h1, h2, this, errOf]
    · have h2' : ¬ (8 * fo + p.length > 65535) := by omega
      simp only [h1, h2, h2', if_false]
      cases mf with
      | true =>
        by_cases h3 : p.length % 8 ≠ 0
        · simp [h3, errOf]
        · simp only [h3, and_false, if_false, Bool.not_true, Bool.false_eq_true, false_and, or_false,
            Bool.true_eq_false]
          rw [← h.endEq]
          cases he : b.endKnown with
          | none => simp
          | some e =>
            simp only []
            have : fo * 8 = 8 * fo := by omega
            rw [this]
            by_cases hc : e < 8 * fo + p.length <;> simp [hc, errOf]
      | false =>
        simp only [Bool.false_eq_true, false_and, if_false, Bool.not_false, true_and]
        rw [← h.endEq]
        have hc : fo * 8 = 8 * fo := by omega
        rw [hc]
        cases he : b.endKnown with
        | some e =>
          simp only []
          by_cases hc : e < 8 * fo + p.length ∨ 8 * fo + p.length ≠ e
          · simp [hc, errOf]
          · simp only [hc, if_false]
            have hx := h.endExt e he
            cases hm : maxStop b.sections with
            | none => simp
            | some m =>
              have := maxStop_some hm
              have : ¬ (m > 8 * fo + p.length) := by omega
              simp [this]
        | none =>
          simp only []
          rw [← h.extent]
          cases hm : maxStop b.sections with
          | none =>
            have := maxStop_none hm
            rw [this]; simp [extentR]
          | some m =>
            rw [maxStop_some hm]
            simp only [gt_iff_lt]
            by_cases hc : 8 * fo + p.length < extentR b.sections <;> simp [hc, errOf]

theorem check_none {fs : List Frag} {f : Frag} (h : check fs f = none) :
    (∀ e, endOf fs = some e → f.stop ≤ e ∧ (f.last = true → f.stop = e)) ∧
    (endOf fs = none → f.last = true → extent fs ≤ f.stop) := by
  unfold check at h
  split at h
  · cases h
  · split at h
    · cases h
    · constructor
      · intro e he
        rw [he] at h
        simp only [] at h
        split at h
        · cases h
        · rename_i h3
          exact ⟨Nat.le_of_not_lt fun hh => h3 (Or.inl hh),
            fun hl => Decidable.of_not_not fun hne => h3 (Or.inr ⟨hl, hne⟩)⟩
      · intro he hl
        rw [he] at h
        simp only [] at h
        split at h
        · cases h
        · rename_i h3
          exact Nat.le_of_not_lt fun hh => h3 ⟨hl, hh⟩

/-- a buffer that `add` could have produced from `b` for an acceptable fragment `f` (sections merged,
    cells written, end recorded) represents the facts with `f` added -/
theorem Inv.add {b : Buf} {fs : List Frag} (h : Inv b fs) {f : Frag} (hc : check fs f = none)
    {b' : Buf}
    (hs : b'.sections = (mergeLoop ⟨f.off, f.stop⟩ b.sections).2 ++
      [(mergeLoop ⟨f.off, f.stop⟩ b.sections).1])
    (hd : b'.data = if f.last = true then (writeAt (growTo b.data f.stop) f.off f.bytes).take f.stop
      else writeAt (growTo b.data f.stop) f.off f.bytes)
    (he : b'.endKnown = if f.last = true then some f.stop else b.endKnown) :
    Inv b' (f :: fs) := by
  obtain ⟨hA, hB⟩ := check_none hc
  have hns : Range.Valid ⟨f.off, f.stop⟩ := Nat.le_add_right _ _
  have hext : extentR b'.sections = max f.stop (extentR b.sections) := by
    rw [hs]; exact sections_extent hns h.valid
  -- a last fragment is never in front of received data
  have hlast : f.last = true → extentR b.sections ≤ f.stop := by
    intro hl
    cases hE : endOf fs with
    | none => rw [h.extent]; exact hB hE hl
    | some e => rw [h.endExt e (h.endEq.trans hE)]; exact Nat.le_of_eq ((hA e hE).2 hl).symm
  have hlen : (writeAt (growTo b.data f.stop) f.off f.bytes).length = max b.data.length f.stop := by
    rw [writeAt_length _ _ _ (by rw [growTo_length]; exact Nat.le_max_right _ _), growTo_length]
  -- so the `set_len(end)` of a last fragment cuts nothing off
  have hdata : b'.data = writeAt (growTo b.data f.stop) f.off f.bytes := by
    rw [hd]
    split
    · rename_i hl
      exact List.take_of_length_le (by rw [hlen, h.len, Nat.max_eq_right (hlast hl)]; exact Nat.le_refl _)
    · rfl
  refine ⟨?_, ?_, ?_, ?_, ?_, ?_, ?_, ?_, ?_⟩
  · rw [hs]; exact sections_valid hns h.valid
  · rw [hs]; exact sections_pairwise hns h.valid h.pairwise
  · intro i
    rw [hs, sections_covers hns h.valid, h.cover, covered_cons]
    exact Iff.rfl
  · rw [hext, h.extent]; rfl
  · rw [hs]; simp
  · rw [he, h.endEq]; rfl
  · intro e hee
    rw [hext]
    rw [he] at hee
    split at hee
    · rename_i hl
      cases hee
      exact Nat.max_eq_left (hlast hl)
    · rw [h.endExt e hee]
      exact Nat.max_eq_right (hA e (h.endEq.symm.trans hee)).1
  · rw [hdata, hlen, hext, h.len, Nat.max_comm]
  · intro i hi
    rw [hdata] at hi ⊢
    rw [writeAt_getElem? _ _ _ (by rw [growTo_length]; exact Nat.le_max_right _ _), growTo_getElem?,
      show f.off + f.bytes.length = f.stop from rfl]
    show _ = some (if f.off ≤ i ∧ i < f.stop then f.bytes[i - f.off]? else byteAt fs i)
    by_cases hw : f.off ≤ i ∧ i < f.stop
    · rw [if_pos hw, if_pos hw]
    · rw [if_neg hw, if_neg hw]
      by_cases hlt : i < b.data.length
      · rw [if_pos hlt]; exact h.bytes i hlt
      · rw [hlen] at hi
        rw [if_neg hlt, if_pos (by omega),
          byteAt_none_of_ge fs i (by rw [← h.extent, ← h.len]; exact Nat.le_of_not_lt hlt)]

theorem addCore_inv {b : Buf} {fs : List Frag} (h : Inv b fs) (fo : Nat) (mf : Bool) (p : Bytes)
    (hc : check fs (factOf fo mf p) = none) : Inv (b.addCore fo mf p) (factOf fo mf p :: fs) := by
  have e : fo * 8 = (factOf fo mf p).off := Nat.mul_comm fo 8
  cases mf <;> refine h.add hc ?_ ?_ ?_ <;> simp only [Buf.addCore, e] <;> rfl

theorem add_eq {b : Buf} {fs : List Frag} (h : Inv b fs) (fo : Nat) (mf : Bool) (p : Bytes) :
    b.add fo mf p = match check fs (factOf fo mf p) with
      | some r => .error (errOf r)
      | none => .ok (b.addCore fo mf p) := by
  unfold Buf.add
  rw [addCheck_eq h]
  cases check fs (factOf fo mf p) <;> rfl

theorem le_extentR {rs : List Range} {r : Range} (h : r ∈ rs) : r.stop ≤ extentR rs := by
  induction rs with
  | nil => cases h
  | cons a rs ih =>
    simp only [extentR]
    rcases List.mem_cons.1 h with rfl | h
    · omega
    · have := ih h; omega

theorem exists_gt_of_extentR : ∀ (rs : List Range) (n : Nat), n < extentR rs → ∃ r ∈ rs, n < r.stop
  | [], n, h => by simp [extentR] at h
  | r :: rs, n, h => by
    simp only [extentR] at h
    by_cases hr : n < r.stop
    · exact ⟨r, by simp, hr⟩
    · obtain ⟨r', hr', hlt⟩ := exists_gt_of_extentR rs n (by omega)
      exact ⟨r', by simp [hr'], hlt⟩

theorem pairwise_ne {rs : List Range} (hp : rs.Pairwise Range.Disc) {a c : Range}
    (ha : a ∈ rs) (hc : c ∈ rs) (hne : a ≠ c) : Range.Disc a c := by
  induction rs with
  | nil => cases ha
  | cons x rs ih =>
    rw [List.pairwise_cons] at hp
    rcases List.mem_cons.1 ha with ha1 | ha1
    · rcases List.mem_cons.1 hc with hc1 | hc1
      · exact absurd (ha1.trans hc1.symm) hne
      · rw [ha1]; exact hp.1 c hc1
    · rcases List.mem_cons.1 hc with hc1 | hc1
      · rw [hc1]; exact (hp.1 a ha1).symm
      · exact ih hp.2 ha1 hc1

theorem all_eq_singleton {rs : List Range} {s0 : Range} (hne : rs ≠ []) (hall : ∀ t ∈ rs, t = s0)
    (hp : rs.Pairwise Range.Disc) (hv : Range.Valid s0) : rs = [s0] := by
  cases rs with
  | nil => exact absurd rfl hne
  | cons a rest =>
    have ha := hall a (by simp)
    subst ha
    cases rest with
    | nil => rfl
    | cons c rest' =>
      have hc := hall c (by simp)
      subst hc
      rw [List.pairwise_cons] at hp
      have := hp.1 c (by simp)
      unfold Range.Disc Range.Valid at *; omega

theorem single_section {rs : List Range} {e : Nat} (hv : ∀ r ∈ rs, Range.Valid r)
    (hp : rs.Pairwise Range.Disc) (hne : rs ≠ []) (hext : extentR rs = e)
    (hcov : ∀ i, i < e → covers rs i) : rs = [{ start := 0, stop := e }] := by
  by_cases he : e = 0
  · subst he
    apply all_eq_singleton hne _ hp (by unfold Range.Valid; simp)
    intro t ht
    have h1 := le_extentR ht
    have h2 := hv t ht
    unfold Range.Valid at h2
    cases t with
    | mk a c => simp only [Range.mk.injEq] at *; omega
  · obtain ⟨s0, hs0, h0⟩ := hcov 0 (by omega)
    unfold Range.Has at h0
    have hle := le_extentR hs0
    have hstop : s0.stop = e := by
      by_cases hlt : s0.stop < e
      · obtain ⟨s1, hs1, h1⟩ := hcov s0.stop (by omega)
        unfold Range.Has at h1
        have hne1 : s0 ≠ s1 := by intro hh; subst hh; omega
        have := pairwise_ne hp hs0 hs1 hne1
        unfold Range.Disc at this; omega
      · omega
    have hs0eq : s0 = { start := 0, stop := e } := by
      cases s0 with
      | mk a c => simp only [Range.mk.injEq] at *; omega
    subst hs0eq
    apply all_eq_singleton hne _ hp (by unfold Range.Valid; simp)
    intro t ht
    apply Classical.byContradiction
    intro hne2
    have hd := pairwise_ne hp hs0 ht (fun hh => hne2 hh.symm)
    have h1 := le_extentR ht
    have h2 := hv t ht
    unfold Range.Disc Range.Valid at *
    simp only [] at hd
    omega

theorem endOf_some_ne_nil {fs : List Frag} {e : Nat} (h : endOf fs = some e) : fs ≠ [] := by
  intro hh; subst hh; simp [endOf] at h

theorem isComplete_iff {b : Buf} {fs : List Frag} (h : Inv b fs) :
    b.isComplete = true ↔ ∃ e, complete fs e := by
  constructor
  · intro hc
    unfold Buf.isComplete at hc
    split at hc
    · rename_i e s he hs
      have hst : s.start = 0 := by simpa using hc
      have hx := h.endExt e he
      rw [hs] at hx
      simp only [extentR] at hx
      refine ⟨e, by rw [← h.endEq, he], ?_⟩
      intro i hi
      rw [← h.cover i, hs, covers_singleton]
      unfold Range.Has; omega
    · cases hc
  · rintro ⟨e, he, hcov⟩
    have hek : b.endKnown = some e := by rw [h.endEq, he]
    have hne : b.sections ≠ [] := fun hh => endOf_some_ne_nil he (h.empty.1 hh)
    have := single_section h.valid h.pairwise hne (h.endExt e hek)
      (fun i hi => (h.cover i).2 (hcov i hi))
    unfold Buf.isComplete
    rw [hek, this]
    simp

theorem emit_eq_some {fs : List Frag} {bs : Bytes} :
    emit fs = some bs ↔ ∃ e, complete fs e ∧ payload fs e = bs := by
  unfold emit complete
  cases endOf fs with
  | none => simp
  | some e => by_cases hc : ∀ i, i < e → covered fs i <;> simp [hc, and_assoc]

theorem emit_isSome_iff (fs : List Frag) : (emit fs).isSome ↔ ∃ e, complete fs e := by
  simp only [Option.isSome_iff_exists, emit_eq_some]
  exact ⟨fun ⟨_, e, h, _⟩ => ⟨e, h⟩, fun ⟨e, h⟩ => ⟨_, e, h, rfl⟩⟩

theorem complete_data {b : Buf} {fs : List Frag} (h : Inv b fs) {bs : Bytes} (he : emit fs = some bs) :
    b.data = bs.map some := by
  obtain ⟨e, ⟨hend, hcov⟩, rfl⟩ := emit_eq_some.1 he
  have hek : b.endKnown = some e := by rw [h.endEq, hend]
  have hlen : b.data.length = e := by rw [h.len, h.endExt e hek]
  apply List.ext_getElem?
  intro i
  by_cases hi : i < e
  · rw [h.bytes i (by omega)]
    simp only [payload, List.getElem?_map, List.getElem?_range hi, Option.map_some]
    have := (byteAt_isSome_iff fs i).2 (hcov i hi)
    cases hb : byteAt fs i with
    | none => rw [hb] at this; cases this
    | some v => simp
  · rw [List.getElem?_eq_none (by omega), List.getElem?_eq_none (by simp [payload]; omega)]

end EpModel.Lemmas.Defrag
