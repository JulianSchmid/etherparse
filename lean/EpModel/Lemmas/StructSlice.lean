import EpModel.Model.Dec.Headers
import EpModel.Lemmas.DecWithin
import EpModel.Lemmas.ExtsLoop
/- PacketHeaders (struct decoding) against SlicedPacket (slicing), strict: same verdict, same headers,
   same payload range, except where an IPv6 extension header no longer fits the struct (C04). -/
namespace EpModel.Lemmas.StructSlice
open EpModel EpModel.Dec EpModel.Lemmas.Dec

/-- struct-mode walk against slice-mode walk: same outcome, or the struct walk ended without an error at
    an extension header that no longer fits `Ipv6Extensions` -/
def ExtsAgree (rs rf : ExtsOut) : Prop :=
  (rs.next = rf.next ∧ rs.frag = rf.frag ∧ rs.rest = rf.rest ∧ rs.stop = rf.stop) ∨
  (rs.stop = none ∧ (rs.next = 43 ∨ rs.next = 44 ∨ rs.next = 51 ∨ rs.next = 60))

open EpModel.Lemmas.ExtsLoop in
theorem extsLoop_struct_slice (g : Mem) (l0 nh : Nat) (frag : Bool) (slots slotsF : ExtSlots) (o l : Nat) :
    ExtsAgree (extsLoop g true l0 nh frag slots o l) (extsLoop g false l0 nh frag slotsF o l) := by
  induction l using Nat.strongRecOn generalizing nh frag slots slotsF o with | _ l ih => ?_
  have same : ∀ {e : ExtErr} {ly : Layer}, ExtsAgree (extsFail nh frag slots o l e ly) (extsFail nh frag slotsF o l e ly) :=
    .inl ⟨rfl, rfl, rfl, rfl⟩
  by_cases h0 : nh = 0
  · subst h0; rw [extsLoop_zero, extsLoop_zero]; exact same
  by_cases hraw : nh = 60 ∨ nh = 43
  · rw [extsLoop_raw hraw, extsLoop_raw hraw]
    simp only [Bool.false_eq_true, false_and, if_false, true_and]
    by_cases hfit : ¬ rawFits nh slots = true
    · rw [if_pos hfit]; exact .inr ⟨rfl, by simp only [extsDone]; omega⟩
    rw [if_neg hfit]
    exact ite_rel (fun _ => same) fun _ => ite_rel (fun _ => same) fun _ => ih _ (by omega) ..
  by_cases h44 : nh = 44
  · subst h44
    rw [extsLoop_frag, extsLoop_frag]
    simp only [Bool.false_eq_true, false_and, if_false, true_and]
    by_cases hfit : slots.frag.isSome = true
    · rw [if_pos hfit]; exact .inr ⟨rfl, .inr (.inl rfl)⟩
    rw [if_neg hfit]
    exact ite_rel (fun _ => same) fun _ => ih _ (by omega) ..
  by_cases h51 : nh = 51
  · subst h51
    rw [extsLoop_auth, extsLoop_auth]
    simp only [Bool.false_eq_true, false_and, if_false, true_and]
    by_cases hfit : slots.auth.isSome = true
    · rw [if_pos hfit]; exact .inr ⟨rfl, .inr (.inr (.inl rfl))⟩
    rw [if_neg hfit]
    exact ite_rel (fun _ => same) fun _ => ite_rel (fun _ => same) fun _ => ite_rel (fun _ => same) fun _ => ih _ (by omega) ..
  rw [extsLoop_other h0 hraw h44 h51, extsLoop_other h0 hraw h44 h51]
  exact .inl ⟨rfl, rfl, rfl, rfl⟩

theorem extsWalk_struct_slice (g : Mem) (nh o l : Nat) :
    ExtsAgree (extsWalk g true nh o l) (extsWalk g false nh o l) := by
  unfold extsWalk
  split
  · split
    · left; simp
    · exact extsLoop_struct_slice g l _ false _ _ _ _
  · exact extsLoop_struct_slice g l nh false _ _ o l

/-- struct decoding stopped at an extension header that no longer fits `Ipv6Extensions`: the
    documented exception of C04 -/
def EarlyIp (s : IpR) : Prop :=
  s.v4 = false ∧ (s.pl.num = 43 ∨ s.pl.num = 44 ∨ s.pl.num = 51 ∨ s.pl.num = 60)

/-- the same IP layer, up to the slots only the struct keeps -/
def IpAgree (s f : IpR) : Prop :=
  s.v4 = f.v4 ∧ s.hdr = f.hdr ∧ s.auth = f.auth ∧ s.exts = f.exts ∧ s.first = f.first ∧ s.pl = f.pl

def IpVerdict (s f : Except PErr IpR) : Prop :=
  match s, f with
  | .ok a, .ok b => IpAgree a b ∨ EarlyIp a
  | .error e, .error e' => e = e'
  | .ok a, .error _ => EarlyIp a
  | .error _, .ok _ => False

theorem ipVerdict_refl (x : Except PErr IpR) : IpVerdict x x := by
  cases x with
  | error e => simp [IpVerdict]
  | ok a => simp only [IpVerdict]; left; exact ⟨rfl, rfl, rfl, rfl, rfl, rfl⟩

theorem ipv6Chain_struct_slice (g : Mem) (o : Nat) (hp : Win) (src : LenSource) :
    IpVerdict (ipv6ChainStrict g true o hp src) (ipv6ChainStrict g false o hp src) := by
  have h := extsWalk_struct_slice g (g (o + 6)) hp.o hp.l
  unfold ipv6ChainStrict extsWalkStrict
  simp only
  generalize extsWalk g true (g (o + 6)) hp.o hp.l = rs at h
  generalize extsWalk g false (g (o + 6)) hp.o hp.l = rf at h
  rcases h with ⟨h1, h2, h3, h4⟩ | ⟨h1, h2⟩
  · rw [h4]
    cases hst : rf.stop with
    | none =>
      simp only [IpVerdict]
      left
      simp [IpAgree, mkV6, h1, h2, h3, extsFirst]
    | some x =>
      obtain ⟨e, ly⟩ := x
      cases e <;> simp [IpVerdict]
  · rw [h1]
    simp only
    cases hst : rf.stop with
    | none => simp only [IpVerdict]; right; exact ⟨rfl, h2⟩
    | some x =>
      obtain ⟨e, ly⟩ := x
      cases e <;> (simp only [IpVerdict]; exact ⟨rfl, h2⟩)

theorem ipv6After_struct_slice (g : Mem) (o l : Nat) :
    IpVerdict (ipv6AfterHeaderStrict g true o l) (ipv6AfterHeaderStrict g false o l) := by
  unfold ipv6AfterHeaderStrict
  cases ipv6BoundStrict o l (g16 g (o + 4)) with
  | error e => simp [IpVerdict]
  | ok x => obtain ⟨hp, src⟩ := x; exact ipv6Chain_struct_slice g o hp src

theorem ipv6_struct_slice (g : Mem) (o l : Nat) :
    IpVerdict (ipHeadersFromIpv6Slice g o l) (ipv6SliceFromSlice g o l) := by
  unfold ipHeadersFromIpv6Slice ipv6SliceFromSlice
  cases ipv6HeaderFromSlice g o l with
  | error e => exact rfl
  | ok u => exact ipv6After_struct_slice g o l

/-- `PacketHeaders.payload` for a sliced packet: what lies behind its transport header, else the IP
    payload, else nothing behind ARP (link-level payloads are not compared here) -/
def PayAgree (g : Mem) (pay : Pay) (p : Packet) : Prop :=
  match p.tp, p.net with
  | some (.udp w), _ => pay = .udp ⟨w.o + 8, w.l - 8⟩ false
  | some (.tcp w hl), _ => pay = .tcp ⟨w.o + hl, w.l - hl⟩ false
  | some (.icmp4 w), _ => pay = .icmp4 ⟨w.o + icmp4HeaderLen g w.o, w.l - icmp4HeaderLen g w.o⟩ false
  | some (.icmp6 w), _ => pay = .icmp6 ⟨w.o + 8, w.l - 8⟩ false
  | none, some (.ip f) => pay = .ip f.pl
  | none, some (.arp _) => pay = .empty
  | none, none => True

theorem srcIfSlice_addOffset (e : LenError) (k : Nat) (s : LenSource) :
    (e.addOffset k).srcIfSlice s = (e.srcIfSlice s).addOffset k := by
  unfold LenError.srcIfSlice LenError.addOffset LenError.withSrc
  simp only
  split <;> rfl

theorem lenAddOff_add (a b : Nat) (e : PErr) : lenAddOff (a + b) e = lenAddOff b (lenAddOff a e) := by
  cases e <;> simp [lenAddOff, LenError.addOffset]
  omega

theorem len_addOffset_add (a b : Nat) (e : LenError) :
    PErr.len (e.addOffset (a + b)) = lenAddOff b (PErr.len (e.addOffset a)) := by
  simp [lenAddOff, LenError.addOffset]; omega

/-- nested `by_cases`, not a cascade lemma: `sliceTransport` tests the protocol numbers 1, 17, 6, 58,
    `readTransport` 1, 58, 17, 6 -/
theorem transport_agree (c : Cur) (g : Mem) (pl : IpPl) (hsrc : c.src = pl.src) (hnf : pl.frag = false)
    (htp : c.r.tp = none) :
    match c.sliceTransport g pl.num pl.w.o pl.w.l, readTransport g pl with
    | .ok p, .ok (tp, pay) =>
      p.link = c.r.link ∧ p.exts = c.r.exts ∧ p.net = c.r.net ∧ p.stop = c.r.stop ∧ p.tp = tp ∧
        (match tp with
         | some (.udp w) => pay = .udp ⟨w.o + 8, w.l - 8⟩ false
         | some (.tcp w hl) => pay = .tcp ⟨w.o + hl, w.l - hl⟩ false
         | some (.icmp4 w) => pay = .icmp4 ⟨w.o + icmp4HeaderLen g w.o, w.l - icmp4HeaderLen g w.o⟩ false
         | some (.icmp6 w) => pay = .icmp6 ⟨w.o + 8, w.l - 8⟩ false
         | none => pay = .ip pl)
    | .error e, .error e' => e = lenAddOff c.off e'
    | _, _ => False := by
  unfold Cur.sliceTransport readTransport
  simp only [hnf, Bool.false_eq_true, if_false, hsrc]
  by_cases h1 : pl.num = 1
  · simp only [h1, if_true]
    cases hx : icmp4FromSlice g pl.w.o pl.w.l with
    | error e => simp [lenAddOff, srcIfSlice_addOffset]
    | ok w =>
      obtain rfl := (icmp4_ok g _ _ w hx).1
      simp [Packet.setTp]
  · simp only [h1, if_false]
    by_cases h17 : pl.num = 17
    · have h58 : ¬ pl.num = 58 := by omega
      simp only [h17, if_true, show ¬ ((17 : Nat) = 58) by omega, if_false]
      cases hx : udpFromSlice g pl.w.o pl.w.l with
      | error e => simp [lenAddOff, srcIfSlice_addOffset]
      | ok w => simp [Packet.setTp]
    · simp only [h17, if_false]
      by_cases h6 : pl.num = 6
      · simp only [h6, if_true, show ¬ ((6 : Nat) = 58) by omega, if_false]
        cases hx : tcpFromSlice g pl.w.o pl.w.l with
        | error e =>
          cases e <;> simp [lenAddOff, srcIfSlice_addOffset]
        | ok hl => simp [Packet.setTp]
      · simp only [h6, if_false]
        by_cases h58 : pl.num = 58
        · simp only [h58, if_true]
          cases hx : icmp6FromSlice pl.w.o pl.w.l with
          | error e => simp [lenAddOff, srcIfSlice_addOffset]
          | ok w =>
            obtain rfl := (icmp6_ok _ _ w hx).1
            simp [Packet.setTp]
        · simp [h58, htp]

/-- the header PacketHeaders keeps of a link extension the slicing result holds as header + payload -/
def hdrExt : ExtR → ExtR
  | .vlan w => .vlan ⟨w.o, 4⟩
  | x => x

def NetAgree : Option NetR → Option NetR → Prop
  | some (.ip s), some (.ip f) => IpAgree s f
  | some (.arp a), some (.arp b) => a = b
  | none, none => True
  | _, _ => False

/-- the documented exception at packet level: struct decoding ended at an extension header that no
    longer fits, which it reports as the payload's protocol -/
def Early (x : Headers) : Prop :=
  ∃ ip, x.p.net = some (.ip ip) ∧ EarlyIp ip ∧ x.p.tp = none ∧ x.pay = .ip ip.pl

/-- struct result `x` agrees with slicing result `p`; `r` / `cr` = what the two loops had collected in
    front of the network layer (their link entries are passed through unchanged) -/
structure Agree (g : Mem) (x : Headers) (p : Packet) (r cr : Packet) : Prop where
  linkS : x.p.link = r.link
  linkF : p.link = cr.link
  exts : x.p.exts = p.exts.map hdrExt
  net : NetAgree x.p.net p.net
  tp : x.p.tp = p.tp
  pay : PayAgree g x.pay p

def Verdict (g : Mem) (K : Nat) (r cr : Packet) (s : Except PErr Packet) (h : Except PErr Headers) : Prop :=
  match s, h with
  | .ok p, .ok x => Agree g x p r cr ∨ Early x
  | .error e, .error e' => e = lenAddOff K e'
  | .error _, .ok x => Early x
  | .ok _, .error _ => False

theorem Agree.keep {g : Mem} {r cr r0 cr0 : Packet} (hexts : r.exts = cr.exts.map hdrExt)
    (hr : r.net = none ∧ r.tp = none) (hc : cr.net = none ∧ cr.tp = none) (pay : Pay)
    (hl : r.link = r0.link := by rfl) (hl' : cr.link = cr0.link := by rfl) :
    Agree g { p := r, pay := pay } cr r0 cr0 :=
  ⟨hl, hl', hexts, by simp [hr.1, hc.1, NetAgree], by simp [hr.2, hc.2], by simp [PayAgree, hc.1, hc.2]⟩

theorem Agree.ip {g : Mem} {r cr p : Packet} {ipS ipF : IpR} {tp : Option TpR} {pay : Pay}
    (hexts : r.exts = cr.exts.map hdrExt) (hag : IpAgree ipS ipF) (h1 : p.link = cr.link) (h2 : p.exts = cr.exts)
    (h3 : p.net = some (.ip ipF)) (h5 : p.tp = tp) (hpay : PayAgree g pay p) :
    Agree g { p := { link := r.link, exts := r.exts, net := some (.ip ipS), tp := tp, stop := none }, pay := pay }
      p r cr :=
  ⟨rfl, h1, by rw [h2]; exact hexts, by rw [h3]; exact hag, h5.symm, hpay⟩

def ipPartF (c : Cur) (g : Mem) (o : Nat) (ipr : Except PErr IpR) : Except PErr Packet :=
  match ipr with
  | .error e => .error (lenAddOff c.off e)
  | .ok ip => c.afterIp g o ip

theorem readTransport_early (g : Mem) (pl : IpPl)
    (h : pl.num = 43 ∨ pl.num = 44 ∨ pl.num = 51 ∨ pl.num = 60) : readTransport g pl = .ok (none, .ip pl) := by
  unfold readTransport
  by_cases hf : pl.frag = true
  · rw [if_pos hf]
  · rw [if_neg hf]
    dsimp only
    rw [if_neg (by omega), if_neg (by omega), if_neg (by omega), if_neg (by omega)]

theorem ip_agree (c : Cur) (g : Mem) (K o0 o : Nat) (r : Packet) (ipS ipF : Except PErr IpR)
    (hv : IpVerdict ipS ipF) (hoff : c.off = (o - o0) + K) (ho0 : o0 ≤ o)
    (hin : ∀ f, ipF = .ok f → o ≤ f.pl.w.o)
    (hexts : r.exts = c.r.exts.map hdrExt) (htp : c.r.tp = none) :
    Verdict g K r c.r (ipPartF c g o ipF) (phIpPart g o0 o r ipS) := by
  cases ipS with
  | error e =>
    cases ipF with
    | error e' =>
      obtain rfl : e = e' := hv
      simp [ipPartF, phIpPart, Verdict, hoff, lenAddOff_add]
    | ok b => exact hv.elim
  | ok a =>
    by_cases hE : EarlyIp a
    · -- the struct stopped early: it reports the extension header as the payload, whatever slicing does
      have hx : phIpPart g o0 o r (.ok a) =
          .ok { p := { link := r.link, exts := r.exts, net := some (.ip a), tp := none, stop := none },
                pay := .ip a.pl } := by
        unfold phIpPart
        simp only [readTransport_early g a.pl hE.2]
      rw [hx]
      cases ipPartF c g o ipF with
      | error e => exact ⟨a, rfl, hE, rfl, rfl⟩
      | ok p => exact .inr ⟨a, rfl, hE, rfl, rfl⟩
    cases ipF with
    | error e' => exact (hE hv).elim
    | ok b =>
      have hag : IpAgree a b := hv.resolve_right hE
      have h6 : a.pl = b.pl := hag.2.2.2.2.2
      have hle := hin b rfl
      simp only [ipPartF, phIpPart, Cur.afterIp, h6]
      by_cases hfr : b.pl.frag = true
      · have hrt : readTransport g b.pl = .ok (none, .ip b.pl) := by
          unfold readTransport; simp [hfr]
        simp only [hfr, if_true, hrt, Verdict]
        exact .inl (.ip hexts hag rfl rfl rfl htp (by simp [PayAgree, Packet.setNet, htp]))
      · simp only [hfr, if_false, Bool.false_eq_true]
        have key := transport_agree
          { off := c.off + (b.pl.w.o - o), src := b.pl.src, r := c.r.setNet (.ip b) } g b.pl rfl (by simpa using hfr) htp
        revert key
        generalize Cur.sliceTransport { off := c.off + (b.pl.w.o - o), src := b.pl.src, r := c.r.setNet (.ip b) }
          g b.pl.num b.pl.w.o b.pl.w.l = sres
        generalize readTransport g b.pl = rres
        intro key
        cases sres with
        | error e =>
          cases rres with
          | error e' =>
            simp only at key
            simp only [Verdict]
            rw [key, ← lenAddOff_add]
            congr 1
            omega
          | ok y => exact key.elim
        | ok p =>
          cases rres with
          | error e' => exact key.elim
          | ok y =>
            obtain ⟨tp, pay⟩ := y
            obtain ⟨k1, k2, k3, k4, k5, k6⟩ := key
            refine .inl (.ip hexts hag k1 k2 k3 k5 ?_)
            unfold PayAgree
            rw [k5, k3]
            cases tp with
            | none => exact k6
            | some t => cases t <;> exact k6

theorem laxMacsec_shape (g : Mem) (o l : Nat) (hdr pl : Win) (src : LenSource) (inc : Bool)
    (h : laxMacsecFromSlice g o l = .ok (.macsec hdr pl src inc)) : pl.o = o + hdr.l := by
  unfold laxMacsecFromSlice at h
  split at h
  · cases h
  · split at h
    · simp only at h
      split at h <;> (cases h; rfl)
    · cases h; rfl

theorem macsec_shape (g : Mem) (o l : Nat) (hdr pl : Win) (src : LenSource) (inc : Bool)
    (h : macsecFromSlice g o l = .ok (.macsec hdr pl src inc)) : pl.o = o + hdr.l :=
  laxMacsec_shape g o l hdr pl src inc (macsec_strict_ok_lax_same g o l _ h)

theorem Verdict.relink {g : Mem} {K : Nat} {r r' cr cr' : Packet} {s : Except PErr Packet} {h : Except PErr Headers}
    (hv : Verdict g K r' cr' s h) (h1 : r'.link = r.link) (h2 : cr'.link = cr.link) : Verdict g K r cr s h :=
  match s, h, hv with
  | .ok _, .ok _, hv => hv.imp (fun a => ⟨a.linkS.trans h1, a.linkF.trans h2, a.exts, a.net, a.tp, a.pay⟩) id
  | .error _, .error _, hv => hv
  | .error _, .ok _, hv => hv
  | .ok _, .error _, hv => hv

theorem sliceIpv4_eq (c : Cur) (g : Mem) (o l : Nat) :
    c.sliceIpv4 g o l = ipPartF c g o (ipv4SliceFromSlice g o l) := by
  unfold Cur.sliceIpv4 ipPartF
  cases ipv4SliceFromSlice g o l <;> rfl

theorem sliceIpv6_eq (c : Cur) (g : Mem) (o l : Nat) :
    c.sliceIpv6 g o l = ipPartF c g o (ipv6SliceFromSlice g o l) := by
  unfold Cur.sliceIpv6 ipPartF
  cases ipv6SliceFromSlice g o l <;> rfl

theorem phNet_agree (c : Cur) (g : Mem) (K o0 et o l : Nat) (r : Packet) (pay : Pay)
    (hnv : ¬ (et = 0x8100 ∨ et = 0x88a8 ∨ et = 0x9100)) (hnm : ¬ et = 0x88e5)
    (hoff : c.off = (o - o0) + K) (ho0 : o0 ≤ o) (hexts : r.exts = c.r.exts.map hdrExt)
    (hr : r.net = none ∧ r.tp = none) (hc : c.r.net = none ∧ c.r.tp = none) :
    Verdict g K r c.r
      (if et = 0x0806 then c.sliceArp g o l else if et = 0x0800 then c.sliceIpv4 g o l
        else if et = 0x86dd then c.sliceIpv6 g o l else .ok c.r)
      (phNet g o0 et o l r pay) := by
  unfold phNet
  by_cases h4 : et = 0x0800
  · subst h4
    simp only [Nat.reduceEqDiff, if_false, if_true]
    rw [sliceIpv4_eq]
    exact ip_agree c g K o0 o r _ _ (ipVerdict_refl (ipv4SliceFromSlice g o l)) hoff ho0
      (fun f hf => (ipv4Slice_in g o l f hf).2.2.2.2.1) hexts hc.2
  by_cases h6 : et = 0x86dd
  · subst h6
    simp only [Nat.reduceEqDiff, if_false, if_true]
    rw [sliceIpv6_eq]
    exact ip_agree c g K o0 o r _ _ (ipv6_struct_slice g o l) hoff ho0
      (fun f hf => (ipv6Slice_in g o l f hf).2.2.2.2.1) hexts hc.2
  by_cases ha : et = 0x0806
  · subst ha
    simp only [Nat.reduceEqDiff, if_false, if_true]
    unfold Cur.sliceArp
    cases arpFromSlice g o l with
    | error e => simp only [Verdict, hoff, len_addOffset_add]
    | ok w =>
      exact .inl ⟨rfl, rfl, hexts, rfl, hr.2.trans hc.2.symm, by simp [PayAgree, Packet.setNet, hc.2]⟩
  simp only [h4, h6, ha, if_false]
  exact .inl (.keep hexts hr hc pay)

theorem phNet_stop (c : Cur) (g : Mem) (K o0 et o l : Nat) (r : Packet) (pay : Pay)
    (h : et = 0x8100 ∨ et = 0x88a8 ∨ et = 0x9100 ∨ et = 0x88e5) (hexts : r.exts = c.r.exts.map hdrExt)
    (hr : r.net = none ∧ r.tp = none) (hc : c.r.net = none ∧ c.r.tp = none) :
    Verdict g K r c.r (.ok c.r) (phNet g o0 et o l r pay) := by
  unfold phNet
  rw [if_neg (by omega), if_neg (by omega), if_neg (by omega)]
  exact .inl (.keep hexts hr hc pay)

open EpModel.Lemmas.ExtsLoop in
theorem loop_agree (c : Cur) (g : Mem) (K n et o l o0 : Nat) (src : LenSource) (r : Packet) (pay : Pay)
    (hoff : c.off = (o - o0) + K) (ho0 : o0 ≤ o) (hexts : r.exts = c.r.exts.map hdrExt)
    (hr : r.net = none ∧ r.tp = none) (hc : c.r.net = none ∧ c.r.tp = none) :
    Verdict g K r c.r (c.sliceEtherType g n et o l) (phLoop g o0 n et o l src r pay) := by
  induction n generalizing c et o l src r pay with
  | zero =>
    unfold Cur.sliceEtherType phLoop
    exact ite_rel (fun h => phNet_stop c g K o0 et o l r pay (by omega) hexts hr hc) fun hnv =>
      ite_rel (fun h => phNet_stop c g K o0 et o l r pay (by omega) hexts hr hc) fun hnm =>
      phNet_agree c g K o0 et o l r pay hnv hnm hoff ho0 hexts hr hc
  | succ n ih =>
    unfold Cur.sliceEtherType phLoop
    refine ite_rel (fun _ => ?_) fun hnv => ite_rel (fun _ => ?_) fun hnm =>
      phNet_agree c g K o0 et o l r pay hnv hnm hoff ho0 hexts hr hc
    · cases hv : vlanFromSlice o l with
      | error e => simp only [Verdict, hoff, len_addOffset_add]
      | ok w =>
        have hw := vlan_ok o l w hv
        refine (ih _ _ _ _ src (r.pushExt (.vlan ⟨w.o, 4⟩)) _ (by simp only; omega) (by omega) ?_
          (by simpa [Packet.pushExt] using hr) (by simpa [Packet.pushExt] using hc)).relink rfl rfl
        simp [Packet.pushExt, hexts, hdrExt]
    · cases hm : macsecFromSlice g o l with
      | error e =>
        cases e with
        | len le => simp only [Verdict, hoff, len_addOffset_add]
        | _ => simp only [Verdict, lenAddOff]
      | ok x =>
        cases x with
        | vlan w => exact .inl (.keep hexts hr hc pay)
        | macsec hdr pl msrc inc =>
          have hsh := macsec_shape g o l hdr pl msrc inc hm
          have hexts' : (r.pushExt (.macsec hdr pl msrc inc)).exts =
              (c.r.pushExt (.macsec hdr pl msrc inc)).exts.map hdrExt := by simp [Packet.pushExt, hexts, hdrExt]
          dsimp only
          cases macsecNextEtherType g o with
          | none => exact .inl (.keep hexts' hr hc _)
          | some et' =>
            refine Verdict.relink (ih _ _ _ _ _ _ _ ?_ ?_ hexts' hr hc) rfl rfl
            · simp only; omega
            · omega

theorem from_ether_type_agree (g : Mem) (et n : Nat) :
    Verdict g 0 Packet.empty (Packet.empty.setLink (.etherPayload et ⟨0, n⟩))
      (slicedFromEtherType g et n) (phFromEtherType g et 0 n) := by
  unfold slicedFromEtherType phFromEtherType
  exact loop_agree _ g 0 3 et 0 n 0 .slice Packet.empty _ (by simp) (by omega) (by simp [Packet.empty, Packet.setLink])
    (by simp [Packet.empty]) (by simp [Packet.empty, Packet.setLink])

/-- the struct keeps the 14 header bytes of the Ethernet II header, the slice header + payload -/
theorem from_ethernet_agree (g : Mem) (n : Nat) :
    match slicedFromEthernet g n, phFromEthernet g n with
    | .ok p, .ok x =>
      (x.p.link = some (.eth2 ⟨0, 14⟩) ∧ p.link = some (.eth2 ⟨0, n⟩) ∧ x.p.exts = p.exts.map hdrExt ∧
        NetAgree x.p.net p.net ∧ x.p.tp = p.tp ∧ PayAgree g x.pay p) ∨ Early x
    | .error e, .error e' => e = e'
    | .error _, .ok x => Early x
    | .ok _, .error _ => False := by
  unfold slicedFromEthernet phFromEthernet eth2FromSlice
  by_cases h : n < 14
  · simp [h, LenError.addOffset]
  · simp only [h, if_false]
    have key := loop_agree { off := 14, src := .slice, r := Packet.empty.setLink (.eth2 ⟨0, n⟩) } g 14 3 (g16 g 12) 14
      (n - 14) 14 .slice Packet.empty (.ether (g16 g 12) .slice ⟨14, n - 14⟩ false) (by simp) (by omega)
      (by simp [Packet.empty, Packet.setLink]) (by simp [Packet.empty]) (by simp [Packet.empty, Packet.setLink])
    unfold phFromEtherType
    revert key
    generalize Cur.sliceEtherType { off := 14, src := .slice, r := Packet.empty.setLink (.eth2 ⟨0, n⟩) } g 3
      (g16 g 12) 14 (n - 14) = sres
    generalize phLoop g 14 3 (g16 g 12) 14 (n - 14) .slice Packet.empty
      (.ether (g16 g 12) .slice ⟨14, n - 14⟩ false) = hres
    intro key
    cases sres <;> cases hres <;> simp only [Verdict] at key ⊢
    · exact key
    · exact key
    · exact key.imp (fun k => ⟨rfl, k.linkF, k.exts, k.net, k.tp, k.pay⟩) id

theorem lenAddOff_zero (e : PErr) : lenAddOff 0 e = e := by
  cases e <;> simp [lenAddOff, LenError.addOffset]

theorem Verdict.of_error {g : Mem} {r cr : Packet} {s : Except PErr Packet} {e : PErr}
    (h : Verdict g 0 r cr s (.error e)) : s = .error e := by
  cases s with
  | ok p => exact h.elim
  | error e' => rw [show e' = _ from h, lenAddOff_zero]

/-- the version dispatch with and without the `len < 20` check: different (both rejecting) on an IPv4
    nibble in 1..19 bytes, otherwise the same -/
theorem ipDispatch_min20 (g : Mem) (o l : Nat) :
    (g o / 16 = 4 ∧ 0 < l ∧ l < 20 ∧
        ipDispatchHeader g true o l =
          .error (.len { req := 20, len := l, src := .slice, layer := .ipv4Header, off := 0 }) ∧
        ipDispatchHeader g false o l = .error (if g o % 16 < 5 then .ipIhl (g o % 16) else
          .len { req := g o % 16 * 4, len := l, src := .slice, layer := .ipv4Header, off := 0 })) ∨
      ipDispatchHeader g true o l = ipDispatchHeader g false o l := by
  unfold ipDispatchHeader
  by_cases h0 : l = 0
  · right; rw [if_pos h0, if_pos h0]
  by_cases h4 : g o / 16 = 4
  · by_cases h20 : l < 20
    · left
      refine ⟨h4, by omega, h20, by simp [h0, h4, h20], ?_⟩
      simp only [h0, h4, if_true, if_false, Bool.false_eq_true, false_and]
      by_cases hi : g o % 16 < 5
      · simp [hi]
      · have : l < g o % 16 * 4 := by omega
        simp [hi, this]
    · right; simp [h4, h20]
  · right; simp [h4]

/-- IpHeaders::from_slice against IpSlice::from_slice: the struct door checks `len < 20` before the
    IHL, the slice door does not - on an IPv4 nibble in fewer than 20 bytes both reject, with
    different (both true) errors -/
theorem ipHeaders_vs_ipSlice (g : Mem) (o l : Nat) :
    (g o / 16 = 4 ∧ 0 < l ∧ l < 20 ∧ (∃ e, ipHeadersFromSlice g o l = .error e) ∧
        ∃ e, ipSliceFromSlice g o l = .error e) ∨
      IpVerdict (ipHeadersFromSlice g o l) (ipSliceFromSlice g o l) := by
  unfold ipHeadersFromSlice ipSliceFromSlice
  rcases ipDispatch_min20 g o l with ⟨h4, h0, h20, hs, hf⟩ | heq
  · exact .inl ⟨h4, h0, h20, ⟨_, by rw [hs]⟩, ⟨_, by rw [hf]⟩⟩
  right
  rw [heq]
  cases ipDispatchHeader g false o l with
  | error e => exact rfl
  | ok x =>
    cases x with
    | inl hl => exact ipVerdict_refl _
    | inr u => exact ipv6After_struct_slice g o l

theorem phFromIp_eq (g : Mem) (n : Nat) :
    phFromIp g n = phIpPart g 0 0 Packet.empty (ipHeadersFromSlice g 0 n) := by
  unfold phFromIp phIpPart
  cases ipHeadersFromSlice g 0 n with
  | error e => simp [lenAddOff_zero]
  | ok ip =>
    simp only
    cases readTransport g ip.pl with
    | error e => simp
    | ok y => obtain ⟨tp, pay⟩ := y; simp [Packet.empty]

theorem slicedFromIp_eq (g : Mem) (n : Nat) :
    slicedFromIp g n = ipPartF Cur.new g 0 (ipSliceFromSlice g 0 n) := by
  unfold slicedFromIp Cur.sliceIp ipPartF
  cases ipSliceFromSlice g 0 n <;> rfl

theorem from_ip_agree (g : Mem) (n : Nat) :
    (g 0 / 16 = 4 ∧ 0 < n ∧ n < 20 ∧ (∃ e, phFromIp g n = .error e) ∧ ∃ e, slicedFromIp g n = .error e) ∨
      Verdict g 0 Packet.empty Packet.empty (slicedFromIp g n) (phFromIp g n) := by
  rw [phFromIp_eq, slicedFromIp_eq]
  rcases ipHeaders_vs_ipSlice g 0 n with ⟨h4, h0, h20, ⟨e1, he1⟩, ⟨e2, he2⟩⟩ | hv
  · left
    refine ⟨h4, h0, h20, ⟨lenAddOff (0 - 0) e1, ?_⟩, ⟨lenAddOff Cur.new.off e2, ?_⟩⟩
    · rw [he1]; rfl
    · rw [he2]; rfl
  · right
    exact ip_agree Cur.new g 0 0 0 Packet.empty _ _ hv (by simp [Cur.new]) (by omega)
      (fun f hf => (ipSlice_in g 0 n f hf).2.2.2.2.1) (by simp [Cur.new, Packet.empty]) (by simp [Cur.new, Packet.empty])

end EpModel.Lemmas.StructSlice
