import EpModel.Lemmas.Defrag
/-
  Helper lemmas for C11, pool level: simulation between `IpDefragPool` (model) and the abstract
  pool of fact sets (Spec.Reasm); key uniqueness of the map; a stream depends on its own entry only.
  Both namespaces are open: `Pool Key` is the abstract `Spec.Reasm.Pool`, `Pool` without argument the
  model's `Defrag.Pool`.
-/
namespace EpModel.Lemmas.Defrag
open EpModel EpModel.Defrag Spec.Reasm

/-- simulation relation: same keys in the same order, same time stamps, every buffer represents
    the facts of its stream.  (The recycled vectors of the pool do not occur: they are irrelevant.) -/
def Rel : List (Key × Buf × Nat) → Pool Key → Prop
  | [], [] => True
  | (k, b, t) :: m, (k', t', fs) :: s => k = k' ∧ t = t' ∧ Inv b fs ∧ Rel m s
  | _, _ => False

theorem Rel.nil {s : Pool Key} (h : Rel [] s) : s = [] := by
  cases s with
  | nil => rfl
  | cons _ _ => cases h

theorem Rel.cons {e : Key × Buf × Nat} {m : List (Key × Buf × Nat)} {s : Pool Key} (h : Rel (e :: m) s) :
    ∃ fs s', s = (e.1, e.2.2, fs) :: s' ∧ Inv e.2.1 fs ∧ Rel m s' := by
  obtain ⟨k, b, t⟩ := e
  cases s with
  | nil => cases h
  | cons e' s =>
    obtain ⟨k', t', fs⟩ := e'
    obtain ⟨rfl, rfl, hi, hr⟩ := h
    exact ⟨fs, s, rfl, hi, hr⟩

theorem rel_length {m : List (Key × Buf × Nat)} {s : Pool Key} (h : Rel m s) : m.length = s.length := by
  induction m generalizing s with
  | nil => rw [h.nil]; rfl
  | cons e m ih =>
    obtain ⟨fs, s', rfl, _, hr⟩ := h.cons
    rw [List.length_cons, List.length_cons, ih hr]

theorem rel_lookup {m : List (Key × Buf × Nat)} {s : Pool Key} (h : Rel m s) (k : Key) :
    (lookup k m = none ∧ find k s = none) ∨
    (∃ b t fs, lookup k m = some (b, t) ∧ find k s = some fs ∧ Inv b fs) := by
  induction m generalizing s with
  | nil =>
    rw [h.nil]
    exact Or.inl ⟨rfl, rfl⟩
  | cons e m ih =>
    obtain ⟨fs, s', rfl, hi, hr⟩ := h.cons
    unfold lookup find
    by_cases hkk : e.1 = k
    · rw [if_pos hkk, if_pos hkk]; exact Or.inr ⟨_, _, fs, rfl, rfl, hi⟩
    · rw [if_neg hkk, if_neg hkk]; exact ih hr

theorem rel_erase {m : List (Key × Buf × Nat)} {s : Pool Key} (h : Rel m s) (k : Key) :
    Rel (erase k m) (remove k s) := by
  induction m generalizing s with
  | nil =>
    rw [h.nil]
    trivial
  | cons e m ih =>
    obtain ⟨fs, s', rfl, hi, hr⟩ := h.cons
    unfold erase remove
    by_cases hkk : e.1 = k
    · rw [if_pos hkk, if_pos hkk]; exact hr
    · rw [if_neg hkk, if_neg hkk]; exact ⟨rfl, rfl, hi, ih hr⟩

theorem rel_replace {m : List (Key × Buf × Nat)} {s : Pool Key} (h : Rel m s) (k : Key) (b' : Buf)
    (ts : Nat) (fs' : List Frag) (hi' : Inv b' fs') (hl : lookup k m ≠ none) :
    Rel (replace k (b', ts) m) (put k ts fs' s) := by
  induction m generalizing s with
  | nil => exact absurd rfl hl
  | cons e m ih =>
    obtain ⟨fs, s', rfl, hi, hr⟩ := h.cons
    unfold replace put
    by_cases hkk : e.1 = k
    · rw [if_pos hkk, if_pos hkk]; exact ⟨rfl, rfl, hi', hr⟩
    · rw [if_neg hkk, if_neg hkk]
      unfold lookup at hl
      rw [if_neg hkk] at hl
      exact ⟨rfl, rfl, hi, ih hr hl⟩

theorem rel_insert {m : List (Key × Buf × Nat)} {s : Pool Key} (h : Rel m s) (k : Key) (b' : Buf)
    (ts : Nat) (fs' : List Frag) (hi' : Inv b' fs') (hl : lookup k m = none) :
    Rel (m ++ [(k, b', ts)]) (put k ts fs' s) := by
  induction m generalizing s with
  | nil =>
    rw [h.nil]
    exact ⟨rfl, rfl, hi', trivial⟩
  | cons e m ih =>
    obtain ⟨fs, s', rfl, hi, hr⟩ := h.cons
    unfold lookup at hl
    by_cases hkk : e.1 = k
    · rw [if_pos hkk] at hl; cases hl
    · rw [if_neg hkk] at hl
      unfold put
      rw [if_neg hkk]
      exact ⟨rfl, rfl, hi, ih hr hl⟩

theorem rel_filter (f : Nat → Bool) {m : List (Key × Buf × Nat)} {s : Pool Key} (h : Rel m s) :
    Rel (m.filter (fun e => f e.2.2)) (s.filter (fun e => f e.2.1)) := by
  induction m generalizing s with
  | nil =>
    rw [h.nil]
    trivial
  | cons e m ih =>
    obtain ⟨fs, s', rfl, hi, hr⟩ := h.cons
    rw [List.filter_cons, List.filter_cons]
    cases f e.2.2 with
    | true => exact ⟨rfl, rfl, hi, ih hr⟩
    | false => exact ih hr

theorem emit_first (f : Frag) (h : ¬ (f.last = true ∧ f.fo = 0)) : emit [f] = none := by
  unfold emit
  simp only [endOf]
  split
  · rename_i e he
    split at he
    · rename_i hl
      cases he
      split
      · rename_i hc
        have hfo : f.fo ≠ 0 := fun h0 => h ⟨hl, h0⟩
        have h0 := hc 0 (by unfold Frag.stop Frag.off; omega)
        simp only [covered, List.mem_singleton, exists_eq_left] at h0
        unfold Frag.off at h0; omega
      · rfl
    · cases he
  · rfl

theorem process_notfrag (p : Pool) (k : Key) (fo : Nat) (mf : Bool) (pl : Bytes) (ts : Nat)
    (h : ¬ (mf = true ∨ fo ≠ 0)) : p.process (.frag k fo mf pl) ts = (p, .ok none) := by
  simp only [Pool.process, h, not_false_eq_true, if_true]

theorem process_occupied_err (p : Pool) (k : Key) (fo : Nat) (mf : Bool) (pl : Bytes) (ts : Nat)
    (h : mf = true ∨ fo ≠ 0) {b : Buf} {t : Nat} (hl : lookup k p.active = some (b, t)) {e : Err}
    (ha : b.add fo mf pl = .error e) : p.process (.frag k fo mf pl) ts = (p, .error e) := by
  simp only [Pool.process, h, not_true_eq_false, if_false, hl, ha]

theorem process_occupied_complete (p : Pool) (k : Key) (fo : Nat) (mf : Bool) (pl : Bytes) (ts : Nat)
    (h : mf = true ∨ fo ≠ 0) {b : Buf} {t : Nat} (hl : lookup k p.active = some (b, t)) {b' : Buf}
    (ha : b.add fo mf pl = .ok b') (hc : b'.isComplete = true) :
    p.process (.frag k fo mf pl) ts =
      ({ active := erase k p.active, finishedDataBufs := p.finishedDataBufs,
         finishedSectionBufs := b'.sections :: p.finishedSectionBufs },
       .ok (some { ipNumber := k.payloadIpNumber, isIpv4 := k.ver = 4, payload := b'.data })) := by
  simp only [Pool.process, h, not_true_eq_false, if_false, hl, ha, hc, if_true]

theorem process_occupied_more (p : Pool) (k : Key) (fo : Nat) (mf : Bool) (pl : Bytes) (ts : Nat)
    (h : mf = true ∨ fo ≠ 0) {b : Buf} {t : Nat} (hl : lookup k p.active = some (b, t)) {b' : Buf}
    (ha : b.add fo mf pl = .ok b') (hc : b'.isComplete = false) :
    p.process (.frag k fo mf pl) ts =
      ({ active := replace k (b', ts) p.active, finishedDataBufs := p.finishedDataBufs,
         finishedSectionBufs := p.finishedSectionBufs }, .ok none) := by
  simp only [Pool.process, h, not_true_eq_false, if_false, hl, ha, hc, Bool.false_eq_true]

theorem process_vacant_ok (p : Pool) (k : Key) (fo : Nat) (mf : Bool) (pl : Bytes) (ts : Nat)
    (h : mf = true ∨ fo ≠ 0) (hl : lookup k p.active = none) {b' : Buf}
    (ha : (Buf.new k.payloadIpNumber).add fo mf pl = .ok b') :
    p.process (.frag k fo mf pl) ts =
      ({ active := p.active ++ [(k, b', ts)], finishedDataBufs := p.finishedDataBufs.tail,
         finishedSectionBufs := p.finishedSectionBufs.tail }, .ok none) := by
  simp only [Pool.process, h, not_true_eq_false, if_false, hl, ha]

theorem process_vacant_err (p : Pool) (k : Key) (fo : Nat) (mf : Bool) (pl : Bytes) (ts : Nat)
    (h : mf = true ∨ fo ≠ 0) (hl : lookup k p.active = none) {e : Err}
    (ha : (Buf.new k.payloadIpNumber).add fo mf pl = .error e) :
    p.process (.frag k fo mf pl) ts =
      ({ active := p.active, finishedDataBufs := [] :: p.finishedDataBufs.tail,
         finishedSectionBufs := [] :: p.finishedSectionBufs.tail }, .error e) := by
  simp only [Pool.process, h, not_true_eq_false, if_false, hl, ha]

@[elab_as_elim]
theorem process_frag_cases {motive : Pool × Except Err (Option Payload) → Prop} (p : Pool) (k : Key)
    (fo : Nat) (mf : Bool) (pl : Bytes) (ts : Nat)
    (notfrag : ¬ (mf = true ∨ fo ≠ 0) → motive (p, .ok none))
    (vacantOk : ∀ b', lookup k p.active = none →
      motive ({ active := p.active ++ [(k, b', ts)], finishedDataBufs := p.finishedDataBufs.tail,
                finishedSectionBufs := p.finishedSectionBufs.tail }, .ok none))
    (vacantErr : ∀ e,
      motive ({ active := p.active, finishedDataBufs := [] :: p.finishedDataBufs.tail,
                finishedSectionBufs := [] :: p.finishedSectionBufs.tail }, .error e))
    (occupiedErr : ∀ e, motive (p, .error e))
    (complete : ∀ b t (b' : Buf), lookup k p.active = some (b, t) →
      motive ({ active := erase k p.active, finishedDataBufs := p.finishedDataBufs,
                finishedSectionBufs := b'.sections :: p.finishedSectionBufs },
              .ok (some { ipNumber := k.payloadIpNumber, isIpv4 := k.ver = 4, payload := b'.data })))
    (more : ∀ b t b', lookup k p.active = some (b, t) →
      motive ({ active := replace k (b', ts) p.active, finishedDataBufs := p.finishedDataBufs,
                finishedSectionBufs := p.finishedSectionBufs }, .ok none)) :
    motive (p.process (.frag k fo mf pl) ts) := by
  by_cases hf : mf = true ∨ fo ≠ 0
  · cases hl : lookup k p.active with
    | none =>
      cases ha : (Buf.new k.payloadIpNumber).add fo mf pl with
      | ok b' => rw [process_vacant_ok p k fo mf pl ts hf hl ha]; exact vacantOk b' hl
      | error e => rw [process_vacant_err p k fo mf pl ts hf hl ha]; exact vacantErr e
    | some v =>
      obtain ⟨b, t⟩ := v
      cases ha : b.add fo mf pl with
      | error e => rw [process_occupied_err p k fo mf pl ts hf hl ha]; exact occupiedErr e
      | ok b' =>
        cases hc : b'.isComplete with
        | true => rw [process_occupied_complete p k fo mf pl ts hf hl ha hc]; exact complete b t b' hl
        | false => rw [process_occupied_more p k fo mf pl ts hf hl ha hc]; exact more b t b' hl
  · rw [process_notfrag p k fo mf pl ts hf]; exact notfrag hf

/-- the abstract operation a pool operation stands for -/
def specOp : Defrag.Op → Spec.Reasm.Op Key
  | .deliver (.frag k fo mf p) ts => .frag k ts (factOf fo mf p)
  | .deliver (.plain _ _) _ => .other
  | .deliver .nonIp _ => .other
  | .ret => .other
  | .retain m => .expire m

/-- the observable result of a pool operation agrees with the abstract one -/
def OutMatches (op : Defrag.Op) (o : Defrag.Out) (so : Spec.Reasm.Out) : Prop :=
  match op, so with
  | .ret, _ => ∃ n, o = .returned n
  | .deliver (.frag k _ _ _) _, .payload bs =>
    o = .ok { ipNumber := k.payloadIpNumber, isIpv4 := k.ver = 4, payload := bs.map some }
  | _, .none => o = .none
  | _, .rejected r => o = .err (errOf r)
  | _, .live n => o = .retained n
  | _, .payload _ => False

theorem step_refines_frag {s : Session} {sp : Pool Key} (hr : Rel s.pool.active sp)
    (k : Key) (fo : Nat) (mf : Bool) (pl : Bytes) (ts : Nat) :
    Rel (s.step (.deliver (.frag k fo mf pl) ts)).1.pool.active
        (deliver sp k ts (factOf fo mf pl)).1 ∧
    OutMatches (.deliver (.frag k fo mf pl) ts) (s.step (.deliver (.frag k fo mf pl) ts)).2
        (deliver sp k ts (factOf fo mf pl)).2 := by
  by_cases hfrag : mf = true ∨ fo ≠ 0
  · have hspec := mt (factOf_unfragmented_iff fo mf pl).1 (not_not_intro hfrag)
    rcases rel_lookup hr k with ⟨hl, hf⟩ | ⟨b, t, fs, hl, hf, hi⟩
    · -- Entry::Vacant
      have hadd := add_eq (inv_new k.payloadIpNumber) fo mf pl
      cases hc : check [] (factOf fo mf pl) with
      | some r =>
        rw [hc] at hadd
        simp only [Session.step, process_vacant_err _ k fo mf pl ts hfrag hl hadd, deliver, hspec,
          if_false, hf, Option.getD_none, hc, OutMatches]
        exact ⟨hr, trivial⟩
      | none =>
        rw [hc] at hadd
        simp only [Session.step, process_vacant_ok _ k fo mf pl ts hfrag hl hadd, deliver, hspec,
          if_false, hf, Option.getD_none, hc, emit_first _ hspec, OutMatches]
        exact ⟨rel_insert hr k _ ts _ (addCore_inv (inv_new _) fo mf pl hc) hl, trivial⟩
    · -- Entry::Occupied
      have hadd := add_eq hi fo mf pl
      cases hc : check fs (factOf fo mf pl) with
      | some r =>
        rw [hc] at hadd
        simp only [Session.step, process_occupied_err _ k fo mf pl ts hfrag hl hadd, deliver, hspec,
          if_false, hf, Option.getD_some, hc, OutMatches]
        exact ⟨hr, trivial⟩
      | none =>
        rw [hc] at hadd
        have hi' := addCore_inv hi fo mf pl hc
        cases he : emit (factOf fo mf pl :: fs) with
        | some bs =>
          have hcomp : (b.addCore fo mf pl).isComplete = true :=
            (isComplete_iff hi').2 ((emit_isSome_iff _).1 (by simp [he]))
          simp only [Session.step, process_occupied_complete _ k fo mf pl ts hfrag hl hadd hcomp,
            deliver, hspec, if_false, hf, Option.getD_some, hc, he, OutMatches,
            complete_data hi' he]
          exact ⟨rel_erase hr k, trivial⟩
        | none =>
          have hcomp : (b.addCore fo mf pl).isComplete = false := by
            cases hx : (b.addCore fo mf pl).isComplete with
            | false => rfl
            | true =>
              have := (emit_isSome_iff _).2 ((isComplete_iff hi').1 hx)
              simp [he] at this
          simp only [Session.step, process_occupied_more _ k fo mf pl ts hfrag hl hadd hcomp,
            deliver, hspec, if_false, hf, Option.getD_some, hc, he, OutMatches]
          exact ⟨rel_replace hr k _ ts _ hi' (by simp [hl]), trivial⟩
  · have hspec := (factOf_unfragmented_iff fo mf pl).2 hfrag
    simp only [Session.step, process_notfrag _ k fo mf pl ts hfrag, deliver, hspec, and_self,
      if_true, OutMatches]
    exact ⟨hr, trivial⟩

theorem step_refines {s : Session} {sp : Pool Key} (hr : Rel s.pool.active sp) (op : Defrag.Op) :
    Rel (s.step op).1.pool.active (Spec.Reasm.step sp (specOp op)).1 ∧
    OutMatches op (s.step op).2 (Spec.Reasm.step sp (specOp op)).2 := by
  cases op with
  | deliver pkt ts =>
    cases pkt with
    | frag k fo mf pl => exact step_refines_frag hr k fo mf pl ts
    | plain k pl => simp only [Session.step, Pool.process, specOp, Spec.Reasm.step, OutMatches]; exact ⟨hr, trivial⟩
    | nonIp => simp only [Session.step, Pool.process, specOp, Spec.Reasm.step, OutMatches]; exact ⟨hr, trivial⟩
  | ret =>
    simp only [Session.step, specOp, Spec.Reasm.step, OutMatches]
    cases s.outstanding with
    | nil => exact ⟨hr, 0, rfl⟩
    | cons pl rest => exact ⟨hr, 1, rfl⟩
  | retain m =>
    simp only [Session.step, Pool.retain, specOp, Spec.Reasm.step, OutMatches]
    have := rel_filter (fun t => decide (t ≥ m)) hr
    exact ⟨this, by rw [rel_length this]⟩

theorem lookup_erase_ne (k k' : Key) (hne : k' ≠ k) (m : List (Key × Buf × Nat)) :
    lookup k' (erase k m) = lookup k' m := by
  induction m with
  | nil => rfl
  | cons e m ih => by_cases h : e.1 = k <;> simp [erase, lookup, h, ih, hne.symm]

theorem lookup_replace_ne (k k' : Key) (v : Buf × Nat) (hne : k' ≠ k) (m : List (Key × Buf × Nat)) :
    lookup k' (replace k v m) = lookup k' m := by
  induction m with
  | nil => rfl
  | cons e m ih => by_cases h : e.1 = k <;> simp [replace, lookup, h, ih, hne.symm]

theorem lookup_append_ne (k k' : Key) (v : Buf × Nat) (hne : k' ≠ k) (m : List (Key × Buf × Nat)) :
    lookup k' (m ++ [(k, v)]) = lookup k' m := by
  induction m with
  | nil => simp [lookup, hne.symm]
  | cons e m ih => simp [lookup, ih]

/-- outputs of a history agree, operation by operation -/
def AllMatch : List Defrag.Op → List Defrag.Out → List Spec.Reasm.Out → Prop
  | [], [], [] => True
  | op :: ops, o :: os, so :: sos => OutMatches op o so ∧ AllMatch ops os sos
  | _, _, _ => False

theorem outMatches_ok {op : Defrag.Op} {p : Payload} {so : Spec.Reasm.Out}
    (h : OutMatches op (.ok p) so) : ∃ bs : Bytes, p.payload = bs.map some := by
  unfold OutMatches at h
  split at h
  · obtain ⟨n, hn⟩ := h; cases hn
  · cases h; exact ⟨_, rfl⟩
  · cases h
  · cases h
  · cases h
  · cases h

theorem allMatch_ok : ∀ {ops : List Defrag.Op} {os : List Defrag.Out} {sos : List Spec.Reasm.Out},
    AllMatch ops os sos → ∀ p, Out.ok p ∈ os → ∃ bs : Bytes, p.payload = bs.map some
  | [], [], [], _, p, hm => by cases hm
  | op :: ops, o :: os, so :: sos, h, p, hm => by
    rcases List.mem_cons.1 hm with hm | hm
    · rw [← hm] at h; exact outMatches_ok h.1
    · exact allMatch_ok h.2 p hm
  | [], [], _ :: _, h, _, _ => by cases h
  | [], _ :: _, _, h, _, _ => by cases h
  | _ :: _, [], _, h, _, _ => by cases h
  | _ :: _, _ :: _, [], h, _, _ => by cases h

/-- no key occurs twice in the map (the HashMap property; an invariant of the model's list) -/
def UniqueKeys : List (Key × Buf × Nat) → Prop
  | [] => True
  | (k, _) :: m => lookup k m = none ∧ UniqueKeys m

theorem lookup_replace_none (k : Key) (v : Buf × Nat) (k' : Key) (m : List (Key × Buf × Nat)) :
    lookup k' (replace k v m) = none ↔ lookup k' m = none := by
  induction m with
  | nil => rfl
  | cons e m ih =>
    by_cases h : e.1 = k
    · by_cases h2 : k = k' <;> simp [replace, lookup, h, h2]
    · simp only [replace, lookup, h, if_false]
      by_cases h2 : e.1 = k' <;> simp [h2, ih]

theorem lookup_filter_none (f : Key × Buf × Nat → Bool) (k : Key) (m : List (Key × Buf × Nat))
    (h : lookup k m = none) : lookup k (m.filter f) = none := by
  induction m with
  | nil => rfl
  | cons e m ih =>
    by_cases h1 : e.1 = k
    · simp [lookup, h1] at h
    · simp only [lookup, h1, if_false] at h
      by_cases hf : f e <;> simp [hf, lookup, h1, ih h]

theorem unique_erase (k : Key) (m : List (Key × Buf × Nat)) (h : UniqueKeys m) : UniqueKeys (erase k m) := by
  induction m with
  | nil => trivial
  | cons e m ih =>
    unfold erase
    split
    · exact h.2
    · exact ⟨(lookup_erase_ne k e.1 ‹_› m).trans h.1, ih h.2⟩

theorem unique_replace (k : Key) (v : Buf × Nat) (m : List (Key × Buf × Nat)) (h : UniqueKeys m) :
    UniqueKeys (replace k v m) := by
  induction m with
  | nil => trivial
  | cons e m ih =>
    unfold replace
    split
    · exact h
    · exact ⟨(lookup_replace_none k v e.1 m).2 h.1, ih h.2⟩

theorem unique_append (k : Key) (v : Buf × Nat) (m : List (Key × Buf × Nat)) (h : UniqueKeys m)
    (hl : lookup k m = none) : UniqueKeys (m ++ [(k, v)]) := by
  induction m with
  | nil => exact ⟨rfl, trivial⟩
  | cons e m ih =>
    unfold lookup at hl
    split at hl
    · cases hl
    · exact ⟨(lookup_append_ne k e.1 v ‹_› m).trans h.1, ih h.2 hl⟩

theorem unique_filter (f : Key × Buf × Nat → Bool) (m : List (Key × Buf × Nat)) (h : UniqueKeys m) :
    UniqueKeys (m.filter f) := by
  induction m with
  | nil => trivial
  | cons e m ih =>
    rw [List.filter_cons]
    split
    · exact ⟨lookup_filter_none f e.1 m h.1, ih h.2⟩
    · exact ih h.2

theorem lookup_erase_self (k : Key) (m : List (Key × Buf × Nat)) (h : UniqueKeys m) :
    lookup k (erase k m) = none := by
  induction m with
  | nil => rfl
  | cons e m ih =>
    by_cases h1 : e.1 = k
    · simp only [erase, h1, if_true]; exact h1 ▸ h.1
    · simp only [erase, lookup, h1, if_false]; exact ih h.2

theorem unique_process (p : Pool) (pkt : Packet) (ts : Nat) (h : UniqueKeys p.active) :
    UniqueKeys (p.process pkt ts).1.active := by
  cases pkt with
  | nonIp => exact h
  | plain k pl => exact h
  | frag k fo mf pl =>
    exact process_frag_cases (motive := fun x => UniqueKeys x.1.active) p k fo mf pl ts (fun _ => h)
      (fun _ hl => unique_append k _ _ h hl) (fun _ => h) (fun _ => h)
      (fun _ _ _ _ => unique_erase k _ h) (fun _ _ _ _ => unique_replace k _ _ h)

theorem step_pool (s : Session) (pkt : Packet) (ts : Nat) :
    (s.step (.deliver pkt ts)).1.pool = (s.pool.process pkt ts).1 := by
  simp only [Session.step]
  split <;> rename_i h <;> simp [h]

theorem unique_step (s : Session) (op : Defrag.Op) (h : UniqueKeys s.pool.active) :
    UniqueKeys (s.step op).1.pool.active := by
  cases op with
  | deliver pkt ts => rw [step_pool]; exact unique_process s.pool pkt ts h
  | ret =>
    simp only [Session.step]
    split
    · exact h
    · exact h
  | retain m => exact unique_filter _ _ h

theorem lookup_append_self (k : Key) (v : Buf × Nat) (m : List (Key × Buf × Nat)) (h : lookup k m = none) :
    lookup k (m ++ [(k, v)]) = some v := by
  induction m with
  | nil => simp [lookup]
  | cons e m ih =>
    by_cases h1 : e.1 = k
    · simp [lookup, h1] at h
    · simp only [lookup, h1, if_false] at h
      simp [lookup, h1, ih h]

theorem lookup_replace_self (k : Key) (v : Buf × Nat) (m : List (Key × Buf × Nat)) (h : lookup k m ≠ none) :
    lookup k (replace k v m) = some v := by
  induction m with
  | nil => exact absurd rfl h
  | cons e m ih =>
    by_cases h1 : e.1 = k
    · simp [replace, lookup, h1]
    · simp only [lookup, h1, if_false] at h
      simp [replace, lookup, h1, ih h]

theorem lookup_filter (g : Key × Buf × Nat → Bool) (k : Key) (m : List (Key × Buf × Nat)) (h : UniqueKeys m) :
    lookup k (m.filter g) = match lookup k m with
      | some v => if g (k, v) then some v else none
      | none => none := by
  induction m with
  | nil => rfl
  | cons e m ih =>
    by_cases h1 : e.1 = k
    · subst h1
      by_cases hg : g e <;> simp [lookup, hg, lookup_filter_none g e.1 m h.1]
    · by_cases hg : g e <;> simp [lookup, hg, h1, ih h.2]

theorem step_same_key {s s' : Session} (k : Key) (fo : Nat) (mf : Bool) (pl : Bytes) (ts : Nat)
    (h : lookup k s.pool.active = lookup k s'.pool.active)
    (hu : UniqueKeys s.pool.active) (hu' : UniqueKeys s'.pool.active) :
    (s.step (.deliver (.frag k fo mf pl) ts)).2 = (s'.step (.deliver (.frag k fo mf pl) ts)).2 ∧
    lookup k (s.step (.deliver (.frag k fo mf pl) ts)).1.pool.active =
      lookup k (s'.step (.deliver (.frag k fo mf pl) ts)).1.pool.active := by
  by_cases hf : mf = true ∨ fo ≠ 0
  · cases hl : lookup k s.pool.active with
    | none =>
      have hl' : lookup k s'.pool.active = none := by rw [← h, hl]
      cases ha : (Buf.new k.payloadIpNumber).add fo mf pl with
      | ok b' =>
        simp only [Session.step, process_vacant_ok _ k fo mf pl ts hf hl ha,
          process_vacant_ok _ k fo mf pl ts hf hl' ha]
        exact ⟨trivial, by rw [lookup_append_self k _ _ hl, lookup_append_self k _ _ hl']⟩
      | error e' =>
        simp only [Session.step, process_vacant_err _ k fo mf pl ts hf hl ha,
          process_vacant_err _ k fo mf pl ts hf hl' ha]
        exact ⟨trivial, by rw [hl, hl']⟩
    | some v =>
      obtain ⟨b, t⟩ := v
      have hl' : lookup k s'.pool.active = some (b, t) := by rw [← h, hl]
      cases ha : b.add fo mf pl with
      | error e' =>
        simp only [Session.step, process_occupied_err _ k fo mf pl ts hf hl ha,
          process_occupied_err _ k fo mf pl ts hf hl' ha]
        exact ⟨trivial, by rw [hl, hl']⟩
      | ok b' =>
        cases hc : b'.isComplete with
        | true =>
          simp only [Session.step, process_occupied_complete _ k fo mf pl ts hf hl ha hc,
            process_occupied_complete _ k fo mf pl ts hf hl' ha hc]
          exact ⟨trivial, by rw [lookup_erase_self k _ hu, lookup_erase_self k _ hu']⟩
        | false =>
          simp only [Session.step, process_occupied_more _ k fo mf pl ts hf hl ha hc,
            process_occupied_more _ k fo mf pl ts hf hl' ha hc]
          exact ⟨trivial, by
            rw [lookup_replace_self k _ _ (by simp [hl]), lookup_replace_self k _ _ (by simp [hl'])]⟩
  · simp only [Session.step, process_notfrag _ k fo mf pl ts hf]
    exact ⟨trivial, h⟩

end EpModel.Lemmas.Defrag
