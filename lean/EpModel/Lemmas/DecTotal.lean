import EpModel.Lemmas.Dec
/- Progress / totality lemmas about the decode model (C02). -/
namespace EpModel.Lemmas.Dec
open EpModel EpModel.Dec EpModel.Lemmas.ExtsLoop

-- implicit in a lemma one of whose hypotheses mentions them; lemmas that other files call bind them explicitly
variable {g : Mem} {o l : Nat}

theorem extIterNext_progress (nh o l : Nat) (k : ExtKind) (w : Win) (nh' o' l' : Nat)
    (h : extIterNext g nh o l = some (.ok (k, w, nh', o', l'))) : l' + 8 ≤ l ∧ o' + l' = o + l ∧ w.o = o ∧ w.o + w.l = o' := by
  unfold extIterNext at h
  rw [guard_some] at h
  by_cases hr : nh = 0 ∨ nh = 43 ∨ nh = 60
  · rw [if_pos hr] at h
    simp only [guard_some_ok] at h
    obtain ⟨_, _, hle, h⟩ := h
    cases h
    exact ⟨by omega, by omega, rfl, rfl⟩
  · rw [if_neg hr] at h
    by_cases h44 : nh = 44
    · rw [if_pos h44, guard_some_ok] at h
      obtain ⟨_, hle, h⟩ := h
      cases h
      exact ⟨by omega, by omega, rfl, rfl⟩
    · rw [if_neg h44] at h
      by_cases h51 : nh = 51
      · rw [if_pos h51] at h
        simp only [guard_some_ok] at h
        obtain ⟨_, _, hle, h⟩ := h
        cases h
        exact ⟨by omega, by omega, rfl, rfl⟩
      · rw [if_neg h51] at h
        obtain ⟨_, h⟩ := h
        contradiction
theorem stop_ite {c : Prop} [Decidable c] {a b : ExtsOut} (ha : a.stop = none) (hb : ¬ c → b.stop = none) :
    (if c then a else b).stop = none := by
  split
  · exact ha
  · exact hb ‹_›

/-- `IpSlice::to_header` / `LaxIpSlice`-style conversions re-decode a validated extension slice in
    struct mode and `expect` success: that re-decode (over the `c` bytes the slice-mode loop
    consumed) cannot fail. -/
theorem structLoop_total_on_validated (l0 nh : Nat) (frag : Bool) (slots : ExtSlots) (o l : Nat)
    (h : (extsLoop g false l0 nh frag slots o l).stop = none) (c : Nat)
    (hc : c + (extsLoop g false l0 nh frag slots o l).rest.l = l) (l0' : Nat) (frag' : Bool) (slots' : ExtSlots) :
    (extsLoop g true l0' nh frag' slots' o c).stop = none := by
  fun_induction extsLoop g false l0 nh frag slots o l generalizing c l0' frag' slots'
  -- case5 / case8 / case13: the slice-mode loop goes on behind a raw (60 / 43), fragment, authentication
  -- header; case14: it ends at another number; case2 / case6 / case9: struct-mode exits, impossible
  -- for `sm = false`; in all others it stops with an error, against `h`
  case case5 nh frag slots o l h0 h1 _ h8 hl ih =>
    have hs := extsLoop_consumed hc
    rw [extsLoop_raw h1]
    refine stop_ite rfl fun _ => ?_
    rw [if_neg (by omega), if_neg (by omega)]
    exact ih h _ (by omega) _ _ _
  case case8 frag slots o l _ h8 _ _ ih =>
    have hs := extsLoop_consumed hc
    rw [extsLoop_frag]
    refine stop_ite rfl fun _ => ?_
    rw [if_neg (by omega)]
    exact ih h _ (by omega) _ _ _
  case case13 frag slots o l _ h12 hz hl _ _ _ ih =>
    have hs := extsLoop_consumed hc
    rw [extsLoop_auth]
    refine stop_ite rfl fun _ => ?_
    rw [if_neg (by omega), if_neg hz, if_neg (by omega)]
    exact ih h _ (by omega) _ _ _
  case case14 nh frag slots o l h0 h1 h2 h3 =>
    rw [extsLoop_other h0 h1 h2 h3]
    rfl
  case case2 h1 => simp at h1
  case case6 h1 _ _ => simp at h1
  case case9 h1 _ _ _ => simp at h1
  all_goals exact absurd h nofun

end EpModel.Lemmas.Dec
