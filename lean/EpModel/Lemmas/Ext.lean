import EpModel.Model.Ipv6Exts
import EpModel.Model.Ipv4Exts
import EpModel.Spec.Rfc8200Order
import EpModel.Lemmas.CodecLink
/-
  Lemmas about the model of `Ipv6Extensions` (property C12).
  `Run`: a run of the loops of `write` / `next_header` as a relation over the header kinds (`writeLoop_run`,
  `walk_run`); what a run does to the flags, its order, the permutation and the decoding of what it wrote are
  inductions on it.  `Accepts` / `write_of_walk`: a struct linked in the order of RFC 8200 is accepted by both
  walkers; `setNextHeaders_eq`, `link_walk`: `set_next_headers` produces such a struct.
  Round trips of the three header types; `from_slice`: no panic, window, the lax copy.
-/
namespace EpModel.Ext

open Spec.Ext

/-- the header of kind `k` stored in the struct, as a Spec header. -/
def Exts.hdr (e : Exts) : Kind → Option Hdr
  | .hopByHop => e.hopByHopOptions.map fun h => ⟨.hopByHop, h.nextHeader, h.toBytes⟩
  | .destOpts => e.destinationOptions.map fun h => ⟨.destOpts, h.nextHeader, h.toBytes⟩
  | .routing => e.routing.map fun r => ⟨.routing, r.routing.nextHeader, r.routing.toBytes⟩
  | .fragment => e.fragment.map fun h => ⟨.fragment, h.nextHeader, h.toBytes⟩
  | .auth => e.auth.map fun h => ⟨.auth, h.nextHeader, h.toBytes⟩
  | .esp => none
  | .finalDestOpts => e.finalDest.map fun h => ⟨.finalDestOpts, h.nextHeader, h.toBytes⟩

def Exts.rfcChain (e : Exts) : List Hdr := rfc8200Order.filterMap e.hdr

theorem Exts.hdr_kind (e : Exts) (k : Kind) (h : Hdr) (hh : e.hdr k = some h) : h.kind = k := by
  cases k <;> simp [Exts.hdr] at hh <;> obtain ⟨_, _, rfl⟩ := hh <;> rfl

theorem filterMap_map_sublist {α β : Type} (f : α → Option β) (g : β → α)
    (hfg : ∀ a b, f a = some b → g b = a) (l : List α) : ((l.filterMap f).map g).Sublist l := by
  induction l with
  | nil => simp
  | cons a l ih =>
    simp only [List.filterMap_cons]
    split
    · exact ih.cons _
    · rename_i b hb
      simp only [List.map_cons, hfg a b hb]
      exact ih.cons_cons _

theorem rfcChain_inOrder (e : Exts) : InRfcOrder e.rfcChain :=
  filterMap_map_sublist e.hdr (·.kind) (fun k h hh => e.hdr_kind k h hh) rfc8200Order

def Flags.of (fl : Flags) : Kind → Bool
  | .hopByHop => fl.hopByHopOptions
  | .destOpts => fl.destinationOptions
  | .routing => fl.routing
  | .fragment => fl.fragment
  | .auth => fl.auth
  | .esp => false
  | .finalDestOpts => fl.finalDestinationOptions

def Flags.clear (fl : Flags) : Kind → Flags
  | .hopByHop => { fl with hopByHopOptions := false }
  | .destOpts => { fl with destinationOptions := false }
  | .routing => { fl with routing := false }
  | .fragment => { fl with fragment := false }
  | .auth => { fl with auth := false }
  | .esp => fl
  | .finalDestOpts => { fl with finalDestinationOptions := false }

theorem Flags.clear_of_self (fl : Flags) (k : Kind) : (fl.clear k).of k = false := by
  cases k <;> rfl

theorem Flags.clear_of_ne (fl : Flags) {k k' : Kind} (h : k' ≠ k) : (fl.clear k).of k' = fl.of k' := by
  cases k <;> cases k' <;> first | rfl | exact absurd rfl h

theorem Flags.ofExts_of (e : Exts) (k : Kind) : (Flags.ofExts e).of k = (e.hdr k).isSome := by
  cases k <;> simp [Flags.ofExts, Flags.of, Exts.hdr, Exts.finalDest]
  cases e.routing <;> rfl

theorem Flags.check_eq (fl : Flags) : fl.check =
    match rfc8200Order.find? fl.of with
    | some k => .error (.err (.extNotReferenced k.ipNumber))
    | none => .ok () := by
  obtain ⟨a, b, c, d, f, g⟩ := fl
  cases a; case true => rfl
  cases b; case true => rfl
  cases c; case true => rfl
  cases d; case true => rfl
  cases f; case true => rfl
  cases g <;> rfl

theorem mem_rfc8200Order (k : Kind) : k ∈ rfc8200Order := by
  cases k <;> decide

@[simp] theorem serialise_nil : serialise [] = [] := rfl
@[simp] theorem serialise_cons (h : Hdr) (c : List Hdr) : serialise (h :: c) = h.bytes ++ serialise c := rfl

/-- whether a walker standing at the number of kind `k` looks at the header of this kind: the hop-by-hop
    header only in front of the loop (`start`), of the two destination options headers the one that
    fits to `rr` (routing header already passed). -/
def Sel (start rr : Bool) : Kind → Prop
  | .hopByHop => start = true
  | .destOpts => rr = false
  | .finalDestOpts => rr = true
  | .esp => False
  | _ => True

def routed (rr : Bool) : Kind → Bool
  | .routing => true
  | _ => rr

/-- the kind whose pending header the loops take at the number `next`. -/
def sel? (fl : Flags) (rr : Bool) : Nat → Option Kind
  | 60 => if rr then (if fl.finalDestinationOptions then some .finalDestOpts else none)
          else if fl.destinationOptions then some .destOpts else none
  | 43 => if fl.routing then some .routing else none
  | 44 => if fl.fragment then some .fragment else none
  | 51 => if fl.auth then some .auth else none
  | _ => none

theorem sel?_eq_some {fl : Flags} {rr : Bool} {next : Nat} {k : Kind} :
    sel? fl rr next = some k ↔ Sel false rr k ∧ fl.of k = true ∧ next = k.ipNumber := by
  constructor
  · fun_cases sel? fl rr next <;> rintro ⟨⟩ <;> simp_all [Sel, Flags.of, Kind.ipNumber]
  · rintro ⟨hs, hf, rfl⟩
    cases k <;> simp_all [Sel, sel?, Flags.of, Kind.ipNumber]

/-- what the loops return when they take no header at `n`. -/
def stopRes (fl : Flags) (n : Nat) : Except (Fault WalkErr) (Flags × Nat) :=
  if n = 0 ∧ fl.hopByHopOptions = true then .error (.err .hopByHopNotAtStart) else .ok (fl, n)

/-- one round of the loop of `write`, the six kinds as one. -/
theorem writeLoop_eq (e : Exts) (fl : Flags) (rr : Bool) (out : Bytes) (next : Nat) :
    writeLoop e fl rr out next =
      match sel? fl rr next with
      | none => (out, stopRes fl next)
      | some k =>
        match e.hdr k with
        | none => (out, .error .panic)
        | some h => writeLoop e (fl.clear k) (routed rr k) (out ++ h.bytes) h.next := by
  fun_cases writeLoop e fl rr out next <;>
    simp_all [sel?, stopRes, Exts.hdr, Exts.finalDest, Flags.clear, routed]

theorem writeLoop_snd (e : Exts) (fl : Flags) (rw : Bool) (out : Bytes) (next : Nat) :
    (writeLoop e fl rw out next).2 = nextHeaderLoop e fl rw next := by
  fun_induction writeLoop e fl rw out next <;> simp_all [nextHeaderLoop]

theorem Flags.clear_le (fl : Flags) (k k' : Kind) (h : (fl.clear k).of k' = true) : fl.of k' = true := by
  by_cases hk : k' = k
  · rw [hk, clear_of_self] at h; cases h
  · rwa [clear_of_ne _ hk] at h

theorem Flags.clear_of_false {fl : Flags} {k : Kind} (h : fl.of k = false) : fl.clear k = fl := by
  cases k <;> cases fl <;> simp_all [Flags.of, Flags.clear]

theorem Flags.count_clear {fl : Flags} {rr : Bool} {k : Kind} (hs : Sel false rr k) (hf : fl.of k = true) :
    (fl.clear k).count < fl.count := by
  cases k <;> simp_all [Sel, Flags.of, Flags.clear, Flags.count]

/-- flags only name headers that are present (holds initially, preserved by both loops). -/
def Flags.Sub (fl : Flags) (e : Exts) : Prop := ∀ k, fl.of k = true → (e.hdr k).isSome = true

theorem Flags.ofExts_sub (e : Exts) : (Flags.ofExts e).Sub e := fun k h => by rwa [ofExts_of] at h

/-- A run of `next_header` / `write` from the flags `fl` and the number `next` to where the loop stops:
    the headers passed, the flags left and the last number. -/
inductive Run (e : Exts) : Flags → Bool → Bool → Nat → List Hdr → Flags → Nat → Prop
  | stop (fl start rr n) : Run e fl start rr n [] fl n
  | step (fl start rr k h chain fl' n) : Sel start rr k → fl.of k = true → e.hdr k = some h →
      Run e (fl.clear k) false (routed rr k) h.next chain fl' n → Run e fl start rr k.ipNumber (h :: chain) fl' n

theorem writeLoop_run (e : Exts) (fl : Flags) (start rr : Bool) (out : Bytes) (next : Nat) (hs : fl.Sub e) :
    ∃ chain fl' n, Run e fl start rr next chain fl' n ∧
      writeLoop e fl rr out next = (out ++ serialise chain, stopRes fl' n) := by
  induction hc : fl.count using Nat.strongRecOn generalizing fl start rr out next with | _ c ih => ?_
  rw [writeLoop_eq]
  cases hk : sel? fl rr next with
  | none => exact ⟨[], fl, next, .stop .., by simp⟩
  | some k =>
    obtain ⟨hsel, hf, rfl⟩ := sel?_eq_some.mp hk
    obtain ⟨h, hx⟩ := Option.isSome_iff_exists.mp (hs k hf)
    obtain ⟨chain, fl', n, hr, hw⟩ := ih _ (hc ▸ Flags.count_clear hsel hf) (fl.clear k) false (routed rr k)
      (out ++ h.bytes) h.next (fun k' hk' => hs k' (fl.clear_le k k' hk')) rfl
    exact ⟨h :: chain, fl', n,
      .step _ _ _ k h _ _ _ (by cases k <;> first | exact hsel | cases hsel) hf hx hr, by simp [hx, hw]⟩

section
variable {e : Exts} {fl fl' : Flags} {start rr : Bool} {next n : Nat} {chain : List Hdr}

theorem Run.walk (h : Run e fl start rr next chain fl' n) : Walk next chain n := by
  induction h with
  | stop => rfl
  | step _ _ _ k h _ _ _ _ _ hx _ ih => exact ⟨by rw [e.hdr_kind k h hx], ih⟩

theorem Run.of_le (h : Run e fl start rr next chain fl' n) (k' : Kind) (hk' : fl'.of k' = true) :
    fl.of k' = true := by
  induction h with
  | stop => exact hk'
  | step fl _ _ k _ _ _ _ _ _ _ _ ih => exact fl.clear_le k k' (ih hk')

theorem Run.of_false (h : Run e fl start rr next chain fl' n) {k' : Kind} (hk' : fl.of k' = false) :
    fl'.of k' = false :=
  Bool.eq_false_iff.mpr fun h' => by rw [h.of_le k' h'] at hk'; cases hk'

theorem Run.unref (h : Run e fl start rr next chain fl' n) (k0 : Kind) (hnext : next ≠ k0.ipNumber)
    (hrefs : ∀ k hd, e.hdr k = some hd → hd.next ≠ k0.ipNumber) : fl'.of k0 = fl.of k0 := by
  induction h with
  | stop => rfl
  | step fl _ _ k _ _ _ _ _ _ hx _ ih =>
    rw [ih (hrefs k _ hx), Flags.clear_of_ne]
    exact fun hk => hnext (by rw [hk])

theorem Run.hop_kept (h : Run e fl start rr next chain fl' n) (h0 : start = true → next ≠ 0) :
    fl'.of .hopByHop = fl.of .hopByHop := by
  induction h with
  | stop => rfl
  | step fl _ _ k _ _ _ _ hsel _ _ _ ih =>
    rw [ih nofun, Flags.clear_of_ne]
    exact fun hk => by subst hk; exact h0 hsel rfl
end

theorem filter_of_clear (fl : Flags) (k : Kind) (hf : fl.of k = true) :
    (rfc8200Order.filter fl.of).Perm (k :: rfc8200Order.filter (fl.clear k).of) := by
  have hn : (rfc8200Order.filter fl.of).Nodup := List.Nodup.sublist List.filter_sublist (by decide)
  rw [show rfc8200Order.filter (fl.clear k).of = (rfc8200Order.filter fl.of).erase k by
    rw [hn.erase_eq_filter, List.filter_filter]
    exact List.filter_congr fun k' _ => by
      by_cases h : k' = k <;> simp [h, Flags.clear_of_self, Flags.clear_of_ne]]
  exact List.perm_cons_erase (List.mem_filter.mpr ⟨mem_rfc8200Order k, hf⟩)

theorem Run.perm {e : Exts} {fl fl' : Flags} {start rr : Bool} {next n : Nat} {chain : List Hdr}
    (h : Run e fl start rr next chain fl' n) :
    (chain ++ (rfc8200Order.filter fl'.of).filterMap e.hdr).Perm ((rfc8200Order.filter fl.of).filterMap e.hdr) := by
  induction h with
  | stop => exact .refl _
  | step fl _ _ k h _ _ _ _ hf hx _ ih =>
    have := (filter_of_clear fl k hf).filterMap e.hdr
    rw [List.filterMap_cons_some hx] at this
    exact (ih.cons h).trans this.symm

theorem filterMap_filter_isSome {α β : Type} (f : α → Option β) (l : List α) :
    (l.filter fun a => (f a).isSome).filterMap f = l.filterMap f := by
  induction l with
  | nil => rfl
  | cons a l ih => cases h : f a <;> simp [h, ih]

theorem Flags.check_ok (fl : Flags) (h : fl.check = .ok ()) (k : Kind) : fl.of k = false := by
  rw [check_eq] at h
  split at h
  · cases h
  · rename_i hn
    simpa using List.find?_eq_none.mp hn k (mem_rfc8200Order k)

theorem Flags.check_err (fl : Flags) (f : Fault WalkErr) (h : fl.check = .error f) :
    ∃ k, fl.of k = true ∧ f = .err (.extNotReferenced k.ipNumber) := by
  rw [check_eq] at h
  split at h
  · rename_i k hk
    exact ⟨k, List.find?_some hk, by cases h; rfl⟩
  · cases h

theorem finishWrite_eq (out : Bytes) (r : Except (Fault WalkErr) (Flags × Nat)) :
    finishWrite (out, r) = (out, (finishWalk r).map fun _ => ()) := by
  rcases r with f | ⟨fl, n⟩
  · rfl
  · simp only [finishWrite, finishWalk]
    cases fl.check <;> rfl

theorem finishWalk_stop_ok {fl : Flags} {n m : Nat} (h : finishWalk (stopRes fl n) = .ok m) :
    m = n ∧ fl.check = .ok () := by
  unfold stopRes at h
  split at h
  · cases h
  · cases hc : fl.check <;> simp [finishWalk, hc] at h
    exact ⟨h.symm, rfl⟩

theorem finishWalk_stop_err {fl : Flags} {n : Nat} {f : Fault WalkErr} (h : finishWalk (stopRes fl n) = .error f) :
    (f = .err .hopByHopNotAtStart ∧ fl.of .hopByHop = true) ∨ fl.check = .error f := by
  unfold stopRes at h
  split at h
  · rename_i hc
    cases h
    exact .inl ⟨rfl, hc.2⟩
  · cases hc : fl.check <;> simp [finishWalk, hc] at h
    exact .inr (congrArg _ h)

/-- `write` and `next_header` as one run from the initial flags, the hop-by-hop header (taken iff it is
    present and `first` is 0) in front. -/
theorem walk_run (e : Exts) (first : Nat) : ∃ chain fl' n, Run e (Flags.ofExts e) true false first chain fl' n ∧
    (first = 0 → fl'.of .hopByHop = false) ∧
    e.write first = finishWrite (serialise chain, stopRes fl' n) ∧ e.nextHeader first = finishWalk (stopRes fl' n) := by
  unfold Exts.write Exts.nextHeader
  split
  · rename_i h0
    cases hh : e.hopByHopOptions with
    | none =>
      obtain ⟨chain, fl', n, hr, hw⟩ := writeLoop_run e _ true false [] first (Flags.ofExts_sub e)
      exact ⟨chain, fl', n, hr, fun _ => hr.of_false (by simp [Flags.of, Flags.ofExts, hh]), by simp [hw],
        by simp [← writeLoop_snd e _ false [], hw]⟩
    | some hd =>
      obtain ⟨chain, fl', n, hr, hw⟩ := writeLoop_run e { Flags.ofExts e with hopByHopOptions := false } false false
        hd.toBytes hd.nextHeader fun k hk => Flags.ofExts_sub e k (Flags.clear_le _ .hopByHop k hk)
      refine ⟨⟨.hopByHop, hd.nextHeader, hd.toBytes⟩ :: chain, fl', n, ?_, fun _ => hr.of_false rfl, by simp [hw],
        by simp [← writeLoop_snd e _ false hd.toBytes, hw]⟩
      rw [← h0]
      exact .step _ _ _ .hopByHop _ _ _ _ rfl (by simp [Flags.of, Flags.ofExts, hh]) (by simp [Exts.hdr, hh]) hr
  · rename_i h0
    obtain ⟨chain, fl', n, hr, hw⟩ := writeLoop_run e _ true false [] first (Flags.ofExts_sub e)
    exact ⟨chain, fl', n, hr, fun h => absurd h.symm h0, by simp [hw], by simp [← writeLoop_snd e _ false [], hw]⟩

theorem write_snd_eq (e : Exts) (first : Nat) :
    (e.write first).2 = (e.nextHeader first).map (fun _ => ()) := by
  obtain ⟨_, _, _, _, _, hw, hn⟩ := walk_run e first
  rw [hw, hn, finishWrite_eq]

theorem walk_ok_chain (e : Exts) (first n : Nat) (h : e.nextHeader first = .ok n) :
    ∃ chain, chain.Perm e.rfcChain ∧ Walk first chain n ∧ e.write first = (serialise chain, .ok ()) := by
  obtain ⟨chain, fl, m, hr, _, hw, hn⟩ := walk_run e first
  rw [hn] at h
  obtain ⟨rfl, hc⟩ := finishWalk_stop_ok h
  refine ⟨chain, ?_, hr.walk, by rw [hw, finishWrite_eq, h]; rfl⟩
  have := hr.perm
  rwa [List.filter_eq_nil_iff.mpr fun k _ => by simp [fl.check_ok hc k], List.filterMap_nil, List.append_nil,
    funext (Flags.ofExts_of e), filterMap_filter_isSome] at this

theorem Flags.check_hop (fl : Flags) (h : fl.hopByHopOptions = true) :
    fl.check = .error (.err (.extNotReferenced 0)) := by
  simp [Flags.check, h]

theorem Raw.toBytes_length (r : Raw) (h : r.WF) : r.toBytes.length = r.headerLen := by
  obtain ⟨_, h1, h2, h3⟩ := h
  simp [Raw.toBytes, Raw.headerLen, Raw.headerLength]; omega

theorem Frag.toBytes_length (f : Frag) : f.toBytes.length = f.headerLen := by
  simp [Frag.toBytes, Frag.headerLen]

theorem Auth.toBytes_length (a : Auth) (h : a.WF) : a.toBytes.length = a.headerLen := by
  obtain ⟨_, _, _, h1, h2⟩ := h
  simp [Auth.toBytes, Auth.headerLen, Auth.rawIcvLen]; omega

theorem raw_roundtrip (r : Raw) (h : r.WF) (rest : Bytes) :
    rawSliceLen (r.toBytes ++ rest) = .ok r.headerLen ∧
    rawToHeader (r.toBytes ++ rest) r.headerLen = .ok r ∧
    (r.toBytes ++ rest).drop r.headerLen = rest := by
  have htb := r.toBytes_length h
  obtain ⟨h0, h1, h2, h3⟩ := h
  have hl : r.headerLength * 8 + 6 = r.payload.length := by unfold Raw.headerLength; omega
  have hlen : r.headerLen = 2 + r.payload.length := by unfold Raw.headerLen; omega
  have hb : bAt (r.toBytes ++ rest) 0 = r.nextHeader := by simp [Raw.toBytes, bAt]; omega
  have hb1 : bAt (r.toBytes ++ rest) 1 = r.headerLength := by simp [Raw.toBytes, bAt]; omega
  have hs : sub (r.toBytes ++ rest) 2 (r.headerLen - 2) = r.payload := by simp [Raw.toBytes, sub, hlen]
  obtain ⟨e1, e2, e3, e4, e5, e6⟩ : ¬ r.headerLen + rest.length < 8 ∧ (r.headerLength + 1) * 8 = r.headerLen ∧
      ¬ r.headerLen + rest.length < r.headerLen ∧ ¬ r.payload.length < 6 ∧ ¬ r.payload.length > 2046 ∧
      ¬ 0 ≠ (r.payload.length + 2) % 8 := by omega
  refine ⟨?_, ?_, by rw [← htb, List.drop_left]⟩
  · simp only [rawSliceLen, List.length_append, htb, hb1, e1, e2, e3, if_false]
  · simp only [rawToHeader, Raw.newRaw, hb, hs, e4, e5, e6, if_false]

theorem frag_roundtrip (f : Frag) (h : f.WF) (rest : Bytes) :
    fragFromSlice (f.toBytes ++ rest) = .ok f ∧ (f.toBytes ++ rest).drop 8 = rest := by
  obtain ⟨h0, h1, h2⟩ := h
  have hm : (if f.moreFragments = true then 1 else 0) ≤ 1 := by split <;> omega
  have hb : bAt (f.toBytes ++ rest) 0 = f.nextHeader := by simp [Frag.toBytes, bAt]; omega
  have hb3 : bAt (f.toBytes ++ rest) 3 = (f.fragmentOffset * 8 % 65536 + if f.moreFragments = true then 1 else 0) % 256 := by
    simp [Frag.toBytes, enc16, bAt]
  have h2' : be16 (f.toBytes ++ rest) 2 = f.fragmentOffset * 8 % 65536 + if f.moreFragments = true then 1 else 0 := by
    simpa [Frag.toBytes] using Lemmas.Codec.be16_enc16_at [u8 f.nextHeader, 0] _ (by omega) (enc32 f.identification ++ rest)
  have h4 : be32 (f.toBytes ++ rest) 4 = f.identification := by
    simpa [Frag.toBytes] using Lemmas.Codec.be32_enc32_at
      ([u8 f.nextHeader, 0] ++ enc16 (f.fragmentOffset * 8 % 65536 + if f.moreFragments then 1 else 0))
      f.identification h2 rest
  refine ⟨?_, by simp [Frag.toBytes, enc16, enc32]⟩
  unfold fragFromSlice
  rw [if_neg (by simp [Frag.toBytes]; omega), hb, hb3, h2', h4]
  rcases f with ⟨nh, off, more, ident⟩
  simp only [Except.ok.injEq, Frag.mk.injEq, true_and]
  cases more <;> simp at h0 h1 ⊢ <;> omega

theorem auth_roundtrip {ε : Type} (a : Auth) (h : a.WF) (rest : Bytes) :
    authSliceLen (a.toBytes ++ rest) = .ok a.headerLen ∧
    authToHeader (ε := ε) (a.toBytes ++ rest) a.headerLen = .ok a ∧
    (a.toBytes ++ rest).drop a.headerLen = rest ∧ bAt (a.toBytes ++ rest) 0 = a.nextHeader := by
  have htb := a.toBytes_length h
  obtain ⟨h0, h1, h2, h3, h4⟩ := h
  have hl : a.rawIcvLen * 4 = a.rawIcv.length := by unfold Auth.rawIcvLen; omega
  have hlen : a.headerLen = 12 + a.rawIcv.length := by unfold Auth.headerLen; omega
  have hb : bAt (a.toBytes ++ rest) 0 = a.nextHeader := by simp [Auth.toBytes, bAt]; omega
  have hb1 : bAt (a.toBytes ++ rest) 1 = a.rawIcvLen + 1 := by simp [Auth.toBytes, bAt]; omega
  have h4' : be32 (a.toBytes ++ rest) 4 = a.spi := by
    simpa [Auth.toBytes] using Lemmas.Codec.be32_enc32_at [u8 a.nextHeader, u8 (a.rawIcvLen + 1), 0, 0] a.spi h1
      (enc32 a.sequenceNumber ++ (a.rawIcv ++ rest))
  have h8 : be32 (a.toBytes ++ rest) 8 = a.sequenceNumber := by
    simpa [Auth.toBytes] using Lemmas.Codec.be32_enc32_at ([u8 a.nextHeader, u8 (a.rawIcvLen + 1), 0, 0] ++ enc32 a.spi)
      a.sequenceNumber h2 (a.rawIcv ++ rest)
  have hs : sub (a.toBytes ++ rest) 12 (a.headerLen - 12) = a.rawIcv := by simp [Auth.toBytes, enc32, sub, hlen]
  obtain ⟨e1, e2, e3, e4, e5, e6⟩ : ¬ a.headerLen + rest.length < 12 ∧ ¬ a.rawIcvLen + 1 < 1 ∧
      (a.rawIcvLen + 1 + 2) * 4 = a.headerLen ∧ ¬ a.headerLen + rest.length < a.headerLen ∧
      ¬ a.rawIcv.length > 1016 ∧ ¬ 0 ≠ a.rawIcv.length % 4 := by omega
  refine ⟨?_, ?_, by rw [← htb, List.drop_left], hb⟩
  · simp only [authSliceLen, List.length_append, htb, hb1, e1, e2, e3, e4, if_false]
  · simp only [authToHeader, Auth.new, hs, hb, h4', h8, e5, e6, if_false]

/-- the part of `e` already handled according to the flags (cleared flag = written / decoded). -/
def Exts.restrict (e : Exts) (fl : Flags) : Exts :=
  { hopByHopOptions := if fl.hopByHopOptions then none else e.hopByHopOptions
    destinationOptions := if fl.destinationOptions then none else e.destinationOptions
    routing := if fl.routing then none else
      e.routing.map fun r => { r with finalDestinationOptions := if fl.finalDestinationOptions then none else r.finalDestinationOptions }
    fragment := if fl.fragment then none else e.fragment
    auth := if fl.auth then none else e.auth }

theorem fromSliceLoop_stop (slice : Bytes) (r : Exts) (rest : Bytes) (n : Nat) (h : isWalked n = false) :
    fromSliceLoop slice r rest n = .ok (r, n, rest) := by
  unfold fromSliceLoop
  split <;> simp_all [isWalked]

/-- the writer's `rr` is the decoder's "routing slot filled", and while the routing header is outstanding
    so is its final destination options header (the decoder stores it inside the routing slot). -/
def DecInv (e : Exts) (fl : Flags) (rr : Bool) : Prop :=
  rr = (!fl.routing && e.routing.isSome) ∧ (fl.routing = true → fl.finalDestinationOptions = e.finalDest.isSome)

theorem optWF_some {α : Type} {p : α → Prop} {o : Option α} {a : α} (h : optWF p o) (ho : o = some a) : p a := by
  subst ho; exact h

/-- one header written by the loop of `write` is one round of the loop of `from_slice`. -/
theorem fromSliceLoop_take (e : Exts) (hwf : e.WF) (slice : Bytes) (fl : Flags) (rr : Bool) (k : Kind) (h : Hdr)
    (rest : Bytes) (hsel : Sel false rr k) (hf : fl.of k = true) (hx : e.hdr k = some h) (hI : DecInv e fl rr) :
    fromSliceLoop slice (e.restrict fl) (h.bytes ++ rest) k.ipNumber =
      fromSliceLoop slice (e.restrict (fl.clear k)) rest h.next ∧ DecInv e (fl.clear k) (routed rr k) := by
  obtain ⟨hrw, hI⟩ := hI
  obtain ⟨w1, w2, w3, w4, w5⟩ := hwf
  cases k with
  | hopByHop | esp => cases hsel
  | fragment =>
    obtain ⟨header, he, rfl⟩ := Option.map_eq_some_iff.mp hx
    obtain ⟨hd1, hd2⟩ := frag_roundtrip header (optWF_some w4 he) rest
    change fl.fragment = true at hf
    refine ⟨?_, hrw, hI⟩
    rw [Kind.ipNumber, fromSliceLoop]
    split <;> simp_all [Exts.restrict, Flags.clear] <;> rfl
  | auth =>
    obtain ⟨header, he, rfl⟩ := Option.map_eq_some_iff.mp hx
    obtain ⟨hl, hh, hd, _⟩ := auth_roundtrip (ε := SliceErr) header (optWF_some w5 he) rest
    change fl.auth = true at hf
    refine ⟨?_, hrw, hI⟩
    rw [Kind.ipNumber, fromSliceLoop]
    split <;> simp_all [Exts.restrict, Flags.clear] <;> rfl
  | destOpts =>
    obtain ⟨header, he, rfl⟩ := Option.map_eq_some_iff.mp hx
    refine ⟨?_, hrw, hI⟩
    obtain ⟨hl, hh, hd⟩ := raw_roundtrip header (optWF_some w2 he) rest
    change fl.destinationOptions = true at hf
    change rr = false at hsel
    change fromSliceLoop slice _ _ 60 = fromSliceLoop slice (e.restrict { fl with destinationOptions := false }) _ _
    rw [fromSliceLoop]
    split
    · rename_i ro hro
      simp [Exts.restrict] at hro
      obtain ⟨h1, a, h2, _⟩ := hro
      simp [h1, h2, hsel] at hrw
    · split
      · rename_i hfr; simp [Exts.restrict, hf] at hfr
      · simp only [hl, hh, hd]
        congr 1
        simp [Exts.restrict, he]
  | routing =>
    obtain ⟨r, he, rfl⟩ := Option.map_eq_some_iff.mp hx
    change fl.routing = true at hf
    refine ⟨?_, by simp [routed, Flags.clear, he], by simp [Flags.clear]⟩
    change fromSliceLoop slice _ _ 43 = fromSliceLoop slice (e.restrict { fl with routing := false }) _ _
    obtain ⟨hl, hh, hd⟩ := raw_roundtrip r.routing (optWF_some w3 he).1 rest
    rw [fromSliceLoop]
    split
    · rename_i hfr; simp [Exts.restrict, hf] at hfr
    · simp only [hl, hh, hd]
      congr 1
      have := hI hf
      simp [Exts.restrict, he, hf]
      intro hfd
      rw [hfd] at this
      simp [Exts.finalDest, he] at this
      exact this.symm
  | finalDestOpts =>
    obtain ⟨header, he, rfl⟩ := Option.map_eq_some_iff.mp hx
    change fl.finalDestinationOptions = true at hf
    change rr = true at hsel
    cases hr : e.routing with
    | none => simp [Exts.finalDest, hr] at he
    | some r =>
      have hxf : r.finalDestinationOptions = some header := by simpa [Exts.finalDest, hr] using he
      have hrt : fl.routing = false := by simpa [hr, hsel] using hrw
      refine ⟨?_, by simp [routed, Flags.clear, hr, hrt, hsel], by simp [Flags.clear, hrt]⟩
      change fromSliceLoop slice _ _ 60 = fromSliceLoop slice (e.restrict { fl with finalDestinationOptions := false }) _ _
      obtain ⟨hl, hh, hd⟩ := raw_roundtrip header (optWF_some (optWF_some w3 hr).2 hxf) rest
      rw [fromSliceLoop]
      split
      · rename_i ro hro
        simp [Exts.restrict, hrt, hr, hf] at hro
        subst hro
        split
        · rename_i hfr; simp at hfr
        · simp only [hl, hh, hd]
          congr 1
          simp [Exts.restrict, hr, hxf, hrt]
      · rename_i hro
        simp [Exts.restrict, hrt, hr] at hro

theorem Run.decode {e : Exts} {fl fl' : Flags} {rr : Bool} {next last : Nat} {chain : List Hdr}
    (h : Run e fl false rr next chain fl' last) (hwf : e.WF) (slice : Bytes) (hlast : isWalked last = false)
    (hI : DecInv e fl rr) (tail : Bytes) :
    fromSliceLoop slice (e.restrict fl) (serialise chain ++ tail) next = .ok (e.restrict fl', last, tail) := by
  generalize hs : false = start at h
  induction h with
  | stop => exact fromSliceLoop_stop slice _ tail _ hlast
  | step fl _ rr k h chain _ _ hsel hf hx _ ih =>
    subst hs
    obtain ⟨hstep, hI'⟩ := fromSliceLoop_take e hwf slice fl rr k h (serialise chain ++ tail) hsel hf hx hI
    rw [serialise_cons, List.append_assoc, hstep]
    exact ih hlast hI' rfl

theorem restrict_ofExts (e : Exts) : e.restrict (Flags.ofExts e) = Exts.empty := by
  obtain ⟨a, b, c, d, f⟩ := e
  simp only [Exts.restrict, Flags.ofExts, Exts.empty, Exts.mk.injEq]
  exact ⟨by cases a <;> rfl, by cases b <;> rfl, by cases c <;> rfl, by cases d <;> rfl, by cases f <;> rfl⟩

theorem restrict_ofExts_hop (e : Exts) :
    e.restrict ((Flags.ofExts e).clear .hopByHop) = { Exts.empty with hopByHopOptions := e.hopByHopOptions } := by
  obtain ⟨a, b, c, d, f⟩ := e
  simp only [Exts.restrict, Flags.ofExts, Flags.clear, Exts.empty, Exts.mk.injEq]
  exact ⟨rfl, by cases b <;> rfl, by cases c <;> rfl, by cases d <;> rfl, by cases f <;> rfl⟩

theorem restrict_none (e : Exts) (fl : Flags) (h : ∀ k, fl.of k = false) : e.restrict fl = e := by
  obtain ⟨a, b, c, d, f⟩ := e
  have h1 := h .hopByHop; have h2 := h .destOpts; have h3 := h .routing
  have h4 := h .fragment; have h5 := h .auth; have h6 := h .finalDestOpts
  simp only [Flags.of] at h1 h2 h3 h4 h5 h6
  simp only [Exts.restrict, h1, h2, h3, h4, h5, h6]
  cases c <;> rfl

theorem ofExts_decInv (e : Exts) : DecInv e (Flags.ofExts e) false :=
  ⟨by cases h : e.routing <;> simp [Flags.ofExts, h], by cases h : e.routing <;> simp [Flags.ofExts, Exts.finalDest, h]⟩

theorem Sel.of_ne_hop {rr : Bool} {k : Kind} (h : Sel true rr k) (hk : k ≠ .hopByHop) :
    Sel false rr k ∧ k.ipNumber ≠ 0 := by
  cases k <;> first | exact absurd rfl hk | exact ⟨h, by decide⟩

def osum {α : Type} (f : α → Nat) : Option α → Nat
  | some a => f a
  | none => 0

theorem headerLen_eq (e : Exts) : e.headerLen =
    osum Raw.headerLen e.hopByHopOptions + osum Raw.headerLen e.destinationOptions +
    osum (fun r => r.routing.headerLen + osum Raw.headerLen r.finalDestinationOptions) e.routing +
    osum Frag.headerLen e.fragment + osum Auth.headerLen e.auth := by
  rcases e with ⟨_ | a, _ | b, _ | ⟨c, _ | d⟩, _ | f, _ | g⟩ <;> simp [Exts.headerLen, osum] <;> omega

theorem osum_none {α : Type} (f : α → Nat) : osum f none = 0 := rfl

theorem osum_some {α : Type} (f : α → Nat) (a : α) : osum f (some a) = f a := rfl

theorem osum_map {α β : Type} (f : α → β) (g : β → Nat) (o : Option α) :
    osum g (o.map f) = osum (fun a => g (f a)) o := by
  cases o <;> rfl

theorem osum_congr {α : Type} {p : α → Prop} {f g : α → Nat} {o : Option α} (hp : optWF p o)
    (h : ∀ a, p a → f a = g a) : osum f o = osum g o := by
  cases o with
  | none => rfl
  | some a => exact h a hp

theorem serialise_filterMap_length (f : Kind → Option Hdr) (l : List Kind) :
    (serialise (l.filterMap f)).length = (l.map fun k => osum (·.bytes.length) (f k)).sum := by
  induction l with
  | nil => rfl
  | cons k l ih =>
    rw [List.filterMap_cons]
    cases hk : f k <;> simp [osum, ih, hk]

theorem rfcChain_length (e : Exts) (hwf : e.WF) : (serialise e.rfcChain).length = e.headerLen := by
  obtain ⟨h1, h2, h3, h4, h5⟩ := hwf
  rw [Exts.rfcChain, serialise_filterMap_length, headerLen_eq]
  simp only [rfc8200Order, List.map_cons, List.map_nil, List.sum_cons, List.sum_nil, Exts.hdr, osum_map]
  rw [osum_congr h1 Raw.toBytes_length, osum_congr h2 Raw.toBytes_length,
    osum_congr h4 fun f _ => f.toBytes_length, osum_congr h5 Auth.toBytes_length]
  cases hr : e.routing with
  | none => simp only [Exts.finalDest, hr, osum_none]; omega
  | some r =>
    rw [hr] at h3
    simp only [Exts.finalDest, hr, osum_none, osum_some, Raw.toBytes_length _ h3.1, osum_congr h3.2 Raw.toBytes_length]
    omega

theorem filterMap_cons_toList {α β : Type} (f : α → Option β) (a : α) (l : List α) :
    (a :: l).filterMap f = (f a).toList ++ l.filterMap f := by
  rw [List.filterMap_cons]; cases f a <;> rfl

theorem rfcChain_eq (e : Exts) : e.rfcChain = (e.hdr .hopByHop).toList ++ ((e.hdr .destOpts).toList ++
    ((e.hdr .routing).toList ++ ((e.hdr .fragment).toList ++ ((e.hdr .auth).toList ++
    ((e.hdr .finalDestOpts).toList ++ []))))) := by
  simp only [Exts.rfcChain, rfc8200Order, filterMap_cons_toList, List.filterMap_nil]; rfl

/-- the loop of `write` started with `fl`, `rr`, `next` writes `chain`, clears all flags and stops at `n`. -/
def Accepts (e : Exts) (fl : Flags) (rr : Bool) (next : Nat) (chain : List Hdr) (n : Nat) : Prop :=
  ∃ fl', (∀ k, fl'.of k = false) ∧ ∀ out, writeLoop e fl rr out next = (out ++ serialise chain, .ok (fl', n))

theorem Accepts.nil {e : Exts} {fl : Flags} {rr : Bool} {next n : Nat} (h : ∀ k, fl.of k = false)
    (hw : Walk next [] n) : Accepts e fl rr next [] n := by
  refine ⟨fl, h, fun out => ?_⟩
  rw [writeLoop_eq, ← show next = n from hw]
  cases hk : sel? fl rr next with
  | some k => have := h k; rw [(sel?_eq_some.mp hk).2.1] at this; cases this
  | none => simp [stopRes, show fl.hopByHopOptions = false from h .hopByHop]

/-- a header of kind `k` that may be absent, in front of a chain the loop accepts. -/
theorem Accepts.opt {e : Exts} {fl : Flags} {rr : Bool} {next n : Nat} {rest : List Hdr} (k : Kind) (rr' : Bool)
    (hsel : ∀ h, e.hdr k = some h → Sel false rr k ∧ rr' = routed rr k) (hrr : e.hdr k = none → rr' = rr)
    (hf : fl.of k = (e.hdr k).isSome) (hrest : ∀ next', Walk next' rest n → Accepts e (fl.clear k) rr' next' rest n)
    (hw : Walk next ((e.hdr k).toList ++ rest) n) : Accepts e fl rr next ((e.hdr k).toList ++ rest) n := by
  cases hx : e.hdr k with
  | none =>
    rw [hx] at hf hw
    rw [← Flags.clear_of_false hf, ← hrr hx]
    exact hrest next hw
  | some h =>
    rw [hx] at hf hw
    obtain ⟨hs, rfl⟩ := hsel h hx
    obtain ⟨fl', hfl', hl⟩ := hrest h.next hw.2
    refine ⟨fl', hfl', fun out => ?_⟩
    rw [hw.1, e.hdr_kind k h hx, writeLoop_eq, sel?_eq_some.mpr ⟨hs, hf, rfl⟩]
    simp [hx, hl]

theorem Accepts.finish {e : Exts} {fl : Flags} {rr : Bool} {next n : Nat} {chain : List Hdr}
    (h : Accepts e fl rr next chain n) (pre : Bytes) :
    finishWrite (writeLoop e fl rr pre next) = (pre ++ serialise chain, .ok ()) ∧
      finishWalk (nextHeaderLoop e fl rr next) = .ok n := by
  obtain ⟨fl', hfl', hl⟩ := h
  have hc : fl'.check = .ok () := by rw [Flags.check_eq, List.find?_eq_none.mpr fun k _ => by simp [hfl' k]]
  rw [← writeLoop_snd e _ _ pre next, hl, finishWrite, finishWalk, hc]
  exact ⟨rfl, rfl⟩

/-- a struct whose headers are linked in the order of RFC 8200 is accepted by both walkers. -/
theorem write_of_walk (e : Exts) (first n : Nat) (hw : Walk first e.rfcChain n) :
    e.write first = (serialise e.rfcChain, .ok ()) ∧ e.nextHeader first = .ok n := by
  rw [rfcChain_eq] at hw ⊢
  have hfl : ∀ {fl : Flags} {k : Kind}, fl.of k = (Flags.ofExts e).of k → fl.of k = (e.hdr k).isSome :=
    fun h => h.trans (Flags.ofExts_of e _)
  -- a final destination options header is stored inside the routing header, so `rr` is `true` when it is taken
  have hfin : ∀ h, e.hdr .finalDestOpts = some h → Sel false (e.hdr .routing).isSome .finalDestOpts := fun h hx => by
    cases hr : e.routing <;> simp [Exts.hdr, Exts.finalDest, hr] at hx <;> simp [Sel, Exts.hdr, hr]
  have hloop : ∀ next, Walk next _ n → Accepts e ((Flags.ofExts e).clear .hopByHop) false next _ n := fun _ hw =>
    .opt .destOpts false (hsel := fun _ _ => ⟨rfl, rfl⟩) (hrr := fun _ => rfl) (hf := hfl rfl) (hw := hw)
      (hrest := fun _ hw =>
    .opt .routing (e.hdr .routing).isSome (hsel := fun _ hx => ⟨trivial, by simp [hx, routed]⟩)
      (hrr := fun hx => by simp [hx]) (hf := hfl rfl) (hw := hw) (hrest := fun _ hw =>
    .opt .fragment _ (hsel := fun _ _ => ⟨trivial, rfl⟩) (hrr := fun _ => rfl) (hf := hfl rfl) (hw := hw)
      (hrest := fun _ hw =>
    .opt .auth _ (hsel := fun _ _ => ⟨trivial, rfl⟩) (hrr := fun _ => rfl) (hf := hfl rfl) (hw := hw)
      (hrest := fun _ hw =>
    .opt .finalDestOpts _ (hsel := fun h hx => ⟨hfin h hx, rfl⟩) (hrr := fun _ => rfl) (hf := hfl rfl) (hw := hw)
      (hrest := fun _ hw => .nil (fun k => by cases k <;> rfl) hw)))))
  cases hh : e.hopByHopOptions with
  | none =>
    have hx : e.hdr .hopByHop = none := by simp [Exts.hdr, hh]
    rw [hx] at hw ⊢
    have := (hloop first hw).finish []
    rw [Flags.clear_of_false (by rw [Flags.ofExts_of, hx]; rfl)] at this
    simpa [Exts.write, Exts.nextHeader, hh] using this
  | some hd =>
    have hx : e.hdr .hopByHop = some ⟨.hopByHop, hd.nextHeader, hd.toBytes⟩ := by simp [Exts.hdr, hh]
    rw [hx] at hw ⊢
    obtain ⟨rfl, hw⟩ := hw
    simpa [Exts.write, Exts.nextHeader, hh, Kind.ipNumber, Flags.clear] using (hloop _ hw).finish hd.toBytes

/-- `set_next_headers` replaces the `next_header` fields and nothing else: each header gets the number of
    the next present one in the order of RFC 8200, the last one gets `n`. -/
theorem setNextHeaders_eq (e : Exts) (n : Nat) :
    let f := if e.finalDest.isSome then IPV6_DEST_OPTIONS else n
    let d := if e.auth.isSome then AUTH else f
    let c := if e.fragment.isSome then IPV6_FRAG else d
    let b := if e.routing.isSome then IPV6_ROUTE else c
    let a := if e.destinationOptions.isSome then IPV6_DEST_OPTIONS else b
    e.setNextHeaders n =
      ({ hopByHopOptions := e.hopByHopOptions.map ({ · with nextHeader := a })
         destinationOptions := e.destinationOptions.map ({ · with nextHeader := b })
         routing := e.routing.map fun r =>
           { routing := { r.routing with nextHeader := c }
             finalDestinationOptions := r.finalDestinationOptions.map ({ · with nextHeader := n }) }
         fragment := e.fragment.map ({ · with nextHeader := d })
         auth := e.auth.map ({ · with nextHeader := f }) },
       if e.hopByHopOptions.isSome then IPV6_HOP_BY_HOP else a) := by
  rcases e with ⟨_ | a, _ | b, _ | ⟨c, _ | d⟩, _ | f, _ | g⟩ <;> rfl

theorem optWF_map {α : Type} {p : α → Prop} {f : α → α} {o : Option α} (h : optWF p o)
    (hf : ∀ a, p a → p (f a)) : optWF p (o.map f) := by
  cases o with
  | none => trivial
  | some a => exact hf a h

theorem ite_lt {c : Prop} [Decidable c] {k x m : Nat} (hk : k < m) (hx : x < m) : (if c then k else x) < m := by
  split <;> assumption

theorem setNextHeaders_WF (e e' : Exts) (n first' : Nat) (hn : n < 256) (hwf : e.WF)
    (h : e.setNextHeaders n = (e', first')) : e'.WF := by
  obtain ⟨h1, h2, h3, h4, h5⟩ := hwf
  rw [setNextHeaders_eq] at h
  obtain ⟨rfl, -⟩ := Prod.mk.inj h
  have hf := ite_lt (c := e.finalDest.isSome) (show IPV6_DEST_OPTIONS < 256 by decide) hn
  have hd := ite_lt (c := e.auth.isSome) (show AUTH < 256 by decide) hf
  have hc := ite_lt (c := e.fragment.isSome) (show IPV6_FRAG < 256 by decide) hd
  have hb := ite_lt (c := e.routing.isSome) (show IPV6_ROUTE < 256 by decide) hc
  have ha := ite_lt (c := e.destinationOptions.isSome) (show IPV6_DEST_OPTIONS < 256 by decide) hb
  refine ⟨optWF_map h1 fun r hr => ⟨ha, hr.2⟩, optWF_map h2 fun r hr => ⟨hb, hr.2⟩, ?_,
    optWF_map h4 fun r hr => ⟨hd, hr.2⟩, optWF_map h5 fun r hr => ⟨hf, hr.2⟩⟩
  cases hr : e.routing with
  | none => trivial
  | some r =>
    rw [hr] at h3
    exact ⟨⟨hc, h3.1.2⟩, optWF_map h3.2 fun r hr => ⟨hn, hr.2⟩⟩

theorem setNextHeaders_headerLen (e : Exts) (n : Nat) : (e.setNextHeaders n).1.headerLen = e.headerLen := by
  rw [setNextHeaders_eq, headerLen_eq, headerLen_eq]
  simp only [osum_map]
  cases e.routing with
  | none => rfl
  | some r => simp only [osum_some]; rfl

theorem walk_map {α : Type} (o : Option α) (k : Kind) (nx n : Nat) (bytes : α → Bytes) (rest : List Hdr)
    (hw : Walk nx rest n) :
    Walk (if o.isSome then k.ipNumber else nx) ((o.map fun x => ⟨k, nx, bytes x⟩).toList ++ rest) n := by
  cases o with
  | none => exact hw
  | some x => exact ⟨rfl, hw⟩

theorem finalDest_link (e : Exts) (a b : Option Raw) (d : Option Frag) (f : Option Auth) (F : Routing → Raw)
    (G : Raw → Raw) :
    (⟨a, b, e.routing.map fun r => ⟨F r, r.finalDestinationOptions.map G⟩, d, f⟩ : Exts).finalDest =
      e.finalDest.map G := by
  unfold Exts.finalDest; cases e.routing <;> rfl

theorem link_walk (e e' : Exts) (n first' : Nat) (h : e.setNextHeaders n = (e', first')) :
    Walk first' e'.rfcChain n := by
  rw [setNextHeaders_eq] at h
  obtain ⟨rfl, rfl⟩ := Prod.mk.inj h
  rw [rfcChain_eq]
  simp only [Exts.hdr, finalDest_link, Option.map_map, Function.comp_def]
  exact walk_map _ .hopByHop _ _ _ _ (walk_map _ .destOpts _ _ _ _ (walk_map _ .routing _ _ _ _
    (walk_map _ .fragment _ _ _ _ (walk_map _ .auth _ _ _ _ (walk_map _ .finalDestOpts _ _ _ _ rfl)))))

theorem rawSliceLen_ok (s : Bytes) (len : Nat) (h : rawSliceLen s = .ok len) :
    len = (bAt s 1 + 1) * 8 ∧ 8 ≤ len ∧ len ≤ s.length := by
  unfold rawSliceLen at h
  split at h
  · cases h
  · simp only at h
    split at h <;> cases h
    exact ⟨rfl, by omega, by omega⟩

theorem fragFromSlice_ok (s : Bytes) (header : Frag) (h : fragFromSlice s = .ok header) :
    8 ≤ s.length ∧ header.nextHeader = bAt s 0 := by
  unfold fragFromSlice at h
  split at h <;> cases h
  exact ⟨by omega, rfl⟩

theorem authSliceLen_ok (s : Bytes) (len : Nat) (h : authSliceLen s = .ok len) :
    len = (bAt s 1 + 2) * 4 ∧ 12 ≤ len ∧ len ≤ s.length ∧ ¬ s.length < 12 ∧ ¬ bAt s 1 < 1 := by
  unfold authSliceLen at h
  split at h
  · cases h
  · simp only at h
    split at h
    · cases h
    · split at h <;> cases h
      exact ⟨rfl, by omega, by omega, by omega, by omega⟩

/-- behind an accepted length the `unwrap()` of `to_header` succeeds, with a header of that length. -/
theorem rawToHeader_spec {s : Bytes} {len : Nat} (h : rawSliceLen s = .ok len) :
    ∃ r, rawToHeader s len = .ok r ∧ r.headerLen = len ∧ len ≤ s.length := by
  obtain ⟨rfl, _, hle⟩ := rawSliceLen_ok _ _ h
  have hb := bAt_lt s 1
  have hlen := sub_length s 2 ((bAt s 1 + 1) * 8 - 2) (by omega)
  refine ⟨⟨bAt s 0, sub s 2 ((bAt s 1 + 1) * 8 - 2)⟩, ?_, ?_, hle⟩
  · unfold rawToHeader Raw.newRaw
    rw [hlen, if_neg (by omega), if_neg (by omega), if_neg (by omega)]
  · simp [Raw.headerLen, Raw.headerLength, hlen]
    omega

theorem authToHeader_spec {ε : Type} {s : Bytes} {len : Nat} (h : authSliceLen s = .ok len) :
    ∃ a, authToHeader (ε := ε) s len = .ok a ∧ a.headerLen = len ∧ len ≤ s.length := by
  obtain ⟨rfl, _, hle, _, h1⟩ := authSliceLen_ok _ _ h
  have hb := bAt_lt s 1
  have hlen := sub_length s 12 ((bAt s 1 + 2) * 4 - 12) (by omega)
  refine ⟨⟨bAt s 0, be32 s 4, be32 s 8, sub s 12 ((bAt s 1 + 2) * 4 - 12)⟩, ?_, ?_, hle⟩
  · unfold authToHeader Auth.new
    rw [hlen, if_neg (by omega), if_neg (by omega)]
  · simp [Auth.headerLen, Auth.rawIcvLen, hlen]
    omega

theorem lenErrAt_ne_panic (slice rest : Bytes) (err : LenError) (h : rest.length ≤ slice.length) :
    lenErrAt slice rest err ≠ .panic := by
  simp [lenErrAt, h]

theorem fromSliceLoop_no_panic (slice : Bytes) (result : Exts) (rest : Bytes) (next : Nat)
    (h : rest.length ≤ slice.length) :
    fromSliceLoop slice result rest next ≠ .error .panic := by
  fun_induction fromSliceLoop slice result rest next
  -- the loop returns: number 0, slot taken, content error of the auth header, any other number
  case case1 | case2 | case6 | case10 | case14 | case17 | case19 | case22 => simp
  -- length errors
  case case3 | case7 | case11 | case15 | case18 => simp; exact lenErrAt_ne_panic _ _ _ h
  -- a header is decoded and the loop goes on
  case case5 ih | case9 ih | case13 ih | case16 ih | case21 ih => exact ih (by simp; omega)
  -- `to_header` fails
  case case4 hl f hf | case8 hl f hf | case12 hl f hf =>
    obtain ⟨r, hr, _⟩ := rawToHeader_spec hl
    rw [hr] at hf; cases hf
  case case20 hl f hf =>
    obtain ⟨r, hr, _⟩ := authToHeader_spec (ε := SliceErr) hl
    rw [hr] at hf; cases hf

/-- what has been read so far is exactly the serialised length of the headers decoded so far. -/
def Window (slice : Bytes) (result : Exts) (rest : Bytes) : Prop :=
  ∃ pre, slice = pre ++ rest ∧ pre.length = result.headerLen

theorem Window.step (slice : Bytes) (result result' : Exts) (rest : Bytes) (len : Nat)
    (h : Window slice result rest) (hlen : len ≤ rest.length) (hr : result'.headerLen = result.headerLen + len) :
    Window slice result' (rest.drop len) := by
  obtain ⟨pre, hs, hp⟩ := h
  refine ⟨pre ++ rest.take len, ?_, ?_⟩
  · rw [List.append_assoc, List.take_append_drop]; exact hs
  · simp [hp, hr]; omega

theorem fromSliceLoop_window (slice : Bytes) (result : Exts) (rest : Bytes) (next : Nat)
    (e : Exts) (n : Nat) (rest' : Bytes)
    (h : fromSliceLoop slice result rest next = .ok (e, n, rest'))
    (hw : Window slice result rest) : Window slice e rest' := by
  fun_induction fromSliceLoop slice result rest next
  -- errors
  case case1 | case3 | case4 | case7 | case8 | case11 | case12 | case15 | case18 | case19 | case20 => simp at h
  -- the loop returns: slot taken, any other number
  case case2 | case6 | case10 | case14 | case17 | case22 => simp at h; obtain ⟨rfl, rfl, rfl⟩ := h; exact hw
  -- a header is decoded and the loop goes on
  case case5 len hl header hh ih | case9 len hl header hh ih | case13 len hl header hh ih =>
    obtain ⟨_, hr', h1, h2⟩ := rawToHeader_spec hl; cases hh.symm.trans hr'
    exact ih h (Window.step _ _ _ _ _ hw h2 (by simp [headerLen_eq, osum, *]; omega))
  case case16 result rest hfr header hh ih =>
    have h2 := (fragFromSlice_ok _ _ hh).1
    exact ih h (Window.step _ _ _ _ _ hw h2 (by simp [headerLen_eq, osum, hfr, Frag.headerLen]; omega))
  case case21 result rest ha len hl header hh ih =>
    obtain ⟨_, hr', h1, h2⟩ := authToHeader_spec hl; cases hh.symm.trans hr'
    exact ih h (Window.step _ _ _ _ _ hw h2 (by simp [headerLen_eq, osum, ha, h1]))

def LaxAgrees : Except (Fault SliceErr) (Exts × Nat × Bytes) → Except (Fault SliceErr) LaxResult → Prop
  | .ok (e, n, r), lax => lax = .ok (e, n, r, none)
  | .error .panic, lax => lax = .error .panic
  | .error (.err er), lax => ∃ e n r layer, lax = .ok (e, n, r, some (er, layer))

theorem laxLenErr_agrees (slice : Bytes) (result : Exts) (next : Nat) (rest : Bytes) (err : LenError) (layer : Layer) :
    LaxAgrees (.error (lenErrAt slice rest err)) (laxLenErr slice result next rest err layer) := by
  unfold laxLenErr
  cases h : lenErrAt slice rest err with
  | panic => simp [LaxAgrees]
  | err e => exact ⟨_, _, _, _, rfl⟩

theorem rawToHeader_err (s : Bytes) (len : Nat) (f : Fault SliceErr) (h : rawToHeader s len = .error f) : f = .panic := by
  unfold rawToHeader at h
  split at h <;> simp at h
  exact h.symm

theorem authToHeader_err {ε : Type} (s : Bytes) (len : Nat) (f : Fault ε) (h : authToHeader s len = .error f) : f = .panic := by
  unfold authToHeader at h
  split at h <;> simp at h
  exact h.symm

theorem agrees_fault (f : Fault SliceErr) (h : f = .panic) : LaxAgrees (.error f) (.error f) := by
  subst h; rfl

/- In each branch of the strict loop the lax loop is unfolded once; its branches that contradict the
   branch conditions of the strict one go first, what remains is the same branch of the copy. -/
theorem laxLoop_agrees (slice : Bytes) (result : Exts) (rest : Bytes) (next : Nat) :
    LaxAgrees (fromSliceLoop slice result rest next) (fromSliceLaxLoop slice result rest next) := by
  fun_induction fromSliceLoop slice result rest next
  all_goals unfold fromSliceLaxLoop
  all_goals try simp only [*]
  all_goals repeat' split
  all_goals try (simp_all only [LaxAgrees, reduceCtorEq, Option.some.injEq]; done)
  all_goals first
    | exact laxLenErr_agrees ..
    | exact agrees_fault _ (rawToHeader_err _ _ _ ‹_›)
    | exact agrees_fault _ (authToHeader_err _ _ _ ‹_›)
    | exact ⟨_, _, _, _, rfl⟩

theorem lax_agrees (first : Nat) (slice : Bytes) :
    LaxAgrees (Exts.fromSlice first slice) (Exts.fromSliceLax first slice) := by
  unfold Exts.fromSlice Exts.fromSliceLax
  split
  · cases hl : rawSliceLen slice with
    | error err => exact ⟨_, _, _, _, rfl⟩
    | ok len =>
      cases hh : rawToHeader slice len with
      | error f =>
        have := rawToHeader_err _ _ _ hh
        subst this
        simp [LaxAgrees, hh]
      | ok header => simp only [hh]; exact laxLoop_agrees ..
  · exact laxLoop_agrees ..

end EpModel.Ext
