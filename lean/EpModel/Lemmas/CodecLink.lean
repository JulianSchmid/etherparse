import EpModel.Model.Codec.LinkCommon
/-
  Byte-level lemmas about `bAt` / `be16` / `be32` / `be64` / `sub` / `u8` / `enc16` / `enc32` /
  `enc64` (Model/Basic.lean, Model/Codec/LinkCommon.lean), used by all header codec, builder, reader
  and view proofs: reading through `++`, `::`, `take`, `drop`, `sub`; an encoded field read back
  (`be#_enc#`) and a read field written back (`enc#_be#`, `sub_one`, `sub_append_sub`: decoded
  pieces glued to a slice of the input); an encoded field in front skipped (`*_skip_enc#`, for `simp`).
-/
namespace EpModel.Lemmas.Codec
open EpModel EpModel.Codec

/-! ### byte strings of a known short length -/

theorem list2 (b : Bytes) (h : b.length = 2) : ∃ a0 a1, b = [a0, a1] := by
  match b, h with
  | [a0, a1], _ => exact ⟨a0, a1, rfl⟩

theorem list4 (b : Bytes) (h : b.length = 4) : ∃ a0 a1 a2 a3, b = [a0, a1, a2, a3] := by
  match b, h with
  | [a0, a1, a2, a3], _ => exact ⟨a0, a1, a2, a3, rfl⟩

/-! ### reading through `x :: r` and `a ++ r` -/

theorem bAt_append_left (a r : Bytes) (i : Nat) (h : i < a.length) : bAt (a ++ r) i = bAt a i := by
  unfold bAt; simp [List.getD, List.getElem?_append_left h]

theorem bAt_append_right (a r : Bytes) (i : Nat) (h : a.length ≤ i) :
    bAt (a ++ r) i = bAt r (i - a.length) := by
  unfold bAt; simp [List.getD, List.getElem?_append_right h]

@[simp] theorem bAt_cons_zero (x : UInt8) (r : Bytes) : bAt (x :: r) 0 = x.toNat := by
  simp [bAt, List.getD]

@[simp] theorem bAt_cons_succ (x : UInt8) (r : Bytes) (i : Nat) : bAt (x :: r) (i + 1) = bAt r i := by
  simp [bAt, List.getD]

theorem be16_append_right (a r : Bytes) (i : Nat) (h : a.length ≤ i) :
    be16 (a ++ r) i = be16 r (i - a.length) := by
  unfold be16
  rw [bAt_append_right a r i h, bAt_append_right a r (i + 1) (by omega), Nat.sub_add_comm h]

@[simp] theorem be16_cons_succ (x : UInt8) (r : Bytes) (i : Nat) : be16 (x :: r) (i + 1) = be16 r i := by
  simp [be16]

/-- A 32 bit field is two 16 bit fields, read and written; `be64` / `enc64` are defined from the
    32 bit ones in the same way. -/
theorem be32_eq_be16 (b : Bytes) (i : Nat) : be32 b i = be16 b i * 65536 + be16 b (i + 2) := by
  unfold be32 be16; rw [show i + 2 + 1 = i + 3 from rfl]; omega

theorem enc32_eq_enc16 (n : Nat) : enc32 n = enc16 (n / 65536) ++ enc16 n := by
  simp [enc32, enc16, Nat.div_div_eq_div_mul]

theorem be32_append_right (a r : Bytes) (i : Nat) (h : a.length ≤ i) :
    be32 (a ++ r) i = be32 r (i - a.length) := by
  rw [be32_eq_be16, be32_eq_be16, be16_append_right a r i h, be16_append_right a r (i + 2) (by omega),
    Nat.sub_add_comm h]

@[simp] theorem be32_cons_succ (x : UInt8) (r : Bytes) (i : Nat) : be32 (x :: r) (i + 1) = be32 r i := by
  simp [be32]

theorem be64_append_right (a r : Bytes) (i : Nat) (h : a.length ≤ i) :
    be64 (a ++ r) i = be64 r (i - a.length) := by
  unfold be64
  rw [be32_append_right a r i h, be32_append_right a r (i + 4) (by omega), Nat.sub_add_comm h]

@[simp] theorem be64_cons_succ (x : UInt8) (r : Bytes) (i : Nat) : be64 (x :: r) (i + 1) = be64 r i := by
  simp [be64]

theorem drop_append_right (a r : Bytes) (o : Nat) (h : a.length ≤ o) :
    (a ++ r).drop o = r.drop (o - a.length) := by
  rw [List.drop_append, List.drop_eq_nil_of_le h]; simp

theorem sub_append_right (a r : Bytes) (o l : Nat) (h : a.length ≤ o) :
    sub (a ++ r) o l = sub r (o - a.length) l := by
  unfold sub; rw [drop_append_right a r o h]

theorem sub_append_exact (a r : Bytes) (l : Nat) (h : a.length = l) : sub (a ++ r) 0 l = a := by
  subst h; simp [sub]

@[simp] theorem sub_cons_succ (x : UInt8) (r : Bytes) (o l : Nat) : sub (x :: r) (o + 1) l = sub r o l := by
  simp [sub]

/-! ### reading from `b.take n`, `b.drop n` and `sub b o l`; pieces of one slice glued together -/

theorem bAt_take (b : Bytes) (n i : Nat) (h : i < n) : bAt (b.take n) i = bAt b i := by
  simp [bAt, List.getD_eq_getElem?_getD, h]

theorem bAt_drop (b : Bytes) (n i : Nat) : bAt (b.drop n) i = bAt b (n + i) := by
  simp [bAt, List.getD_eq_getElem?_getD]

theorem bAt_sub (b : Bytes) (o l i : Nat) (h : i < l) : bAt (sub b o l) i = bAt b (o + i) := by
  unfold sub; rw [bAt_take _ _ _ h, bAt_drop]

theorem be16_take (b : Bytes) (n i : Nat) (h : i + 1 < n) : be16 (b.take n) i = be16 b i := by
  unfold be16; rw [bAt_take _ _ _ (by omega), bAt_take _ _ _ h]

theorem be32_take (b : Bytes) (n i : Nat) (h : i + 3 < n) : be32 (b.take n) i = be32 b i := by
  unfold be32
  rw [bAt_take _ _ _ (by omega), bAt_take _ _ _ (by omega), bAt_take _ _ _ (by omega), bAt_take _ _ _ h]

theorem be64_take (b : Bytes) (n i : Nat) (h : i + 7 < n) : be64 (b.take n) i = be64 b i := by
  unfold be64; rw [be32_take b n i (by omega), be32_take b n (i + 4) (by omega)]

theorem be32_drop (b : Bytes) (n i : Nat) : be32 (b.drop n) i = be32 b (n + i) := by
  unfold be32; simp only [bAt_drop]; rfl

theorem sub_take (b : Bytes) (n o l : Nat) (h : o + l ≤ n) : sub (b.take n) o l = sub b o l := by
  unfold sub
  rw [List.drop_take, List.take_take]
  congr 1; omega

theorem sub_drop (b : Bytes) (n o l : Nat) : sub (b.drop n) o l = sub b (n + o) l := by
  unfold sub; rw [List.drop_drop]

theorem sub_length' (b : Bytes) (o l : Nat) (h : o + l ≤ b.length) : (sub b o l).length = l :=
  sub_length b o l h

@[simp] theorem u8_toNat_self (x : UInt8) : u8 x.toNat = x := by
  unfold u8
  have := x.toNat_lt
  rw [Nat.mod_eq_of_lt (by omega)]
  simp

theorem drop_eq_cons (b : Bytes) (i : Nat) (h : i < b.length) :
    b.drop i = u8 (bAt b i) :: b.drop (i + 1) := by
  rw [List.drop_eq_getElem_cons h]
  congr 1
  simp [bAt, List.getD, h]

theorem sub_one (b : Bytes) (i : Nat) (h : i < b.length) : [u8 (bAt b i)] = sub b i 1 := by
  unfold sub; rw [drop_eq_cons b i h]; rfl

theorem sub_append_sub (b : Bytes) (i k j m : Nat) (hj : j = i + k) :
    sub b i k ++ sub b j m = sub b i (k + m) := by
  subst hj
  unfold sub
  rw [List.take_add, List.drop_drop]

theorem cons_sub (b : Bytes) (i j k : Nat) (hj : j = i + 1) (h : i < b.length) :
    u8 (bAt b i) :: sub b j k = sub b i (1 + k) := by
  rw [← sub_append_sub b i 1 j k hj, ← sub_one b i h]; rfl

theorem sub_append_drop (b : Bytes) (i k j : Nat) (hj : j = i + k) : sub b i k ++ b.drop j = b.drop i := by
  subst hj; unfold sub; rw [← List.drop_drop, List.take_append_drop]

theorem sub_zero (b : Bytes) (n : Nat) : sub b 0 n = b.take n := by simp [sub]

theorem mapAt_take (b : Bytes) (i n : Nat) (f : Nat → Nat) (hi : i < n) (hn : n ≤ b.length) :
    mapAt (b.take n) i f = sub b 0 i ++ u8 (f (bAt b i)) :: sub b (i + 1) (n - (i + 1)) := by
  have hib : i < b.length := by omega
  unfold mapAt
  rw [List.take_take, Nat.min_eq_left (Nat.le_of_lt hi), List.drop_take, List.drop_eq_getElem_cons hib,
    show n - i = (n - (i + 1)) + 1 by omega, List.take_succ_cons]
  simp [sub, bAt, List.getD, List.getElem?_eq_getElem hib]

/-! ### round trips: an encoded field read back, a read field written back -/

theorem enc32_small (n : Nat) (h : n < 65536) : enc32 n = [0, 0] ++ enc16 n := by
  simp only [enc32, enc16, u8]
  have h1 : n / 16777216 % 256 = 0 := by omega
  have h2 : n / 65536 % 256 = 0 := by omega
  simp [h1, h2]

theorem be16_enc16_mod (n : Nat) (r : Bytes) : be16 (enc16 n ++ r) 0 = n % 65536 := by
  simp only [be16, enc16, List.cons_append, bAt_cons_zero, bAt_cons_succ, u8_toNat]
  rw [Nat.mod_mul (a := 256) (b := 256), Nat.mul_comm, Nat.add_comm]

theorem be16_enc16 (n : Nat) (r : Bytes) (h : n < 65536) : be16 (enc16 n ++ r) 0 = n := by
  rw [be16_enc16_mod, Nat.mod_eq_of_lt h]

theorem be16_enc16_at (pre : Bytes) (n : Nat) (hn : n < 65536) (r : Bytes) :
    be16 (pre ++ (enc16 n ++ r)) pre.length = n := by
  rw [be16_append_right _ _ _ (Nat.le_refl _), Nat.sub_self, be16_enc16 _ _ hn]

theorem be32_enc32_mod (n : Nat) (r : Bytes) : be32 (enc32 n ++ r) 0 = n % 4294967296 := by
  rw [be32_eq_be16, enc32_eq_enc16, List.append_assoc, be16_enc16_mod,
    be16_append_right _ _ _ (Nat.le_refl 2)]
  show _ + be16 (enc16 n ++ r) 0 = _
  rw [be16_enc16_mod, Nat.mod_mul (a := 65536) (b := 65536), Nat.mul_comm, Nat.add_comm]

theorem be32_enc32 (n : Nat) (r : Bytes) (h : n < 4294967296) : be32 (enc32 n ++ r) 0 = n := by
  rw [be32_enc32_mod, Nat.mod_eq_of_lt h]

theorem be32_enc32_at (pre : Bytes) (n : Nat) (hn : n < 4294967296) (r : Bytes) :
    be32 (pre ++ (enc32 n ++ r)) pre.length = n := by
  rw [be32_append_right _ _ _ (Nat.le_refl _), Nat.sub_self, be32_enc32 _ _ hn]

theorem be64_enc64 (n : Nat) (r : Bytes) (h : n < 18446744073709551616) : be64 (enc64 n ++ r) 0 = n := by
  unfold be64 enc64
  rw [List.append_assoc, be32_enc32_mod, be32_append_right _ _ _ (Nat.le_refl 4)]
  show _ + be32 (enc32 n ++ r) 0 = _
  rw [be32_enc32_mod, Nat.mod_eq_of_lt (Nat.div_lt_of_lt_mul h), Nat.mul_comm, Nat.div_add_mod]

theorem u8_congr (a b : Nat) (h : a % 256 = b % 256) : u8 a = u8 b := by
  unfold u8; rw [h]

/-- equal modulo `a * b`: equal low digit (base `a`) and equal next digit (base `b`). -/
theorem mod_mul_congr {m n a b : Nat} (h : m % (a * b) = n % (a * b)) :
    m % a = n % a ∧ m / a % b = n / a % b :=
  ⟨by rw [← Nat.mod_mul_right_mod m a b, h, Nat.mod_mul_right_mod],
   by rw [← Nat.mod_mul_right_div_self, h, Nat.mod_mul_right_div_self]⟩

theorem enc16_congr {m n : Nat} (h : m % 65536 = n % 65536) : enc16 m = enc16 n := by
  obtain ⟨h0, h1⟩ := mod_mul_congr (a := 256) (b := 256) h
  unfold enc16; rw [u8_congr _ _ h0, u8_congr _ _ h1]

theorem enc32_congr {m n : Nat} (h : m % 4294967296 = n % 4294967296) : enc32 m = enc32 n := by
  obtain ⟨h0, h1⟩ := mod_mul_congr (a := 65536) (b := 65536) h
  rw [enc32_eq_enc16, enc32_eq_enc16, enc16_congr h0, enc16_congr h1]

theorem enc16_mod (n : Nat) : enc16 n = enc16 (n % 65536) := enc16_congr (Nat.mod_mod _ _).symm

/-- the digits of `x * m + y` in base `m`. -/
theorem mul_add_div_mod {x y m : Nat} (hy : y < m) : (x * m + y) / m = x ∧ (x * m + y) % m = y % m := by
  rw [Nat.mul_comm]
  exact ⟨by rw [Nat.mul_add_div (Nat.zero_lt_of_lt hy), Nat.div_eq_of_lt hy, Nat.add_zero],
    Nat.mul_add_mod ..⟩

theorem enc16_be16_cons (b : Bytes) (i : Nat) :
    enc16 (be16 b i) = [u8 (bAt b i), u8 (bAt b (i + 1))] := by
  obtain ⟨hd, hm⟩ := mul_add_div_mod (x := bAt b i) (bAt_lt b (i + 1))
  unfold enc16 be16
  rw [hd, u8_congr _ _ hm]

theorem enc32_be32_cons (b : Bytes) (i : Nat) :
    enc32 (be32 b i) = [u8 (bAt b i), u8 (bAt b (i + 1)), u8 (bAt b (i + 2)), u8 (bAt b (i + 3))] := by
  obtain ⟨hd, hm⟩ := mul_add_div_mod (x := be16 b i) (be16_lt b (i + 2))
  rw [be32_eq_be16, enc32_eq_enc16, hd, enc16_congr hm, enc16_be16_cons, enc16_be16_cons]
  rfl

theorem enc16_be16 (b : Bytes) (i : Nat) (h : i + 2 ≤ b.length) : enc16 (be16 b i) = sub b i 2 := by
  rw [enc16_be16_cons, ← sub_append_sub b i 1 (i + 1) 1 rfl, ← sub_one b i (by omega),
    ← sub_one b (i + 1) (by omega)]
  rfl

theorem enc32_be32 (b : Bytes) (i : Nat) (h : i + 4 ≤ b.length) : enc32 (be32 b i) = sub b i 4 := by
  rw [be32_eq_be16, enc32_eq_enc16, (mul_add_div_mod (x := be16 b i) (be16_lt b (i + 2))).1,
    enc16_congr (mul_add_div_mod (x := be16 b i) (be16_lt b (i + 2))).2, enc16_be16 b i (by omega),
    enc16_be16 b (i + 2) (by omega), sub_append_sub b i 2 (i + 2) 2 rfl]

theorem enc64_be64 (b : Bytes) (i : Nat) (h : i + 8 ≤ b.length) : enc64 (be64 b i) = sub b i 8 := by
  obtain ⟨hd, hm⟩ := mul_add_div_mod (x := be32 b i) (be32_lt b (i + 4))
  unfold enc64 be64
  rw [hd, enc32_congr hm, enc32_be32 b i (by omega), enc32_be32 b (i + 4) (by omega),
    sub_append_sub b i 4 (i + 4) 4 rfl]

/-! ### skipping an encoded field in front (stated with literal offsets so that `simp` can use them) -/

@[simp] theorem bAt_skip_enc16 (n : Nat) (r : Bytes) (i : Nat) : bAt (enc16 n ++ r) (i + 2) = bAt r i :=
  bAt_append_right _ _ _ (Nat.le_add_left _ _)

@[simp] theorem bAt_skip_enc32 (n : Nat) (r : Bytes) (i : Nat) : bAt (enc32 n ++ r) (i + 4) = bAt r i :=
  bAt_append_right _ _ _ (Nat.le_add_left _ _)

@[simp] theorem bAt_skip_enc64 (n : Nat) (r : Bytes) (i : Nat) : bAt (enc64 n ++ r) (i + 8) = bAt r i :=
  bAt_append_right _ _ _ (Nat.le_add_left _ _)

@[simp] theorem be16_skip_enc16 (n : Nat) (r : Bytes) (i : Nat) : be16 (enc16 n ++ r) (i + 2) = be16 r i :=
  be16_append_right _ _ _ (Nat.le_add_left _ _)

@[simp] theorem be16_skip_enc32 (n : Nat) (r : Bytes) (i : Nat) : be16 (enc32 n ++ r) (i + 4) = be16 r i :=
  be16_append_right _ _ _ (Nat.le_add_left _ _)

@[simp] theorem be16_skip_enc64 (n : Nat) (r : Bytes) (i : Nat) : be16 (enc64 n ++ r) (i + 8) = be16 r i :=
  be16_append_right _ _ _ (Nat.le_add_left _ _)

@[simp] theorem be32_skip_enc16 (n : Nat) (r : Bytes) (i : Nat) : be32 (enc16 n ++ r) (i + 2) = be32 r i :=
  be32_append_right _ _ _ (Nat.le_add_left _ _)

@[simp] theorem be32_skip_enc32 (n : Nat) (r : Bytes) (i : Nat) : be32 (enc32 n ++ r) (i + 4) = be32 r i :=
  be32_append_right _ _ _ (Nat.le_add_left _ _)

@[simp] theorem be32_skip_enc64 (n : Nat) (r : Bytes) (i : Nat) : be32 (enc64 n ++ r) (i + 8) = be32 r i :=
  be32_append_right _ _ _ (Nat.le_add_left _ _)

@[simp] theorem be64_skip_enc16 (n : Nat) (r : Bytes) (i : Nat) : be64 (enc16 n ++ r) (i + 2) = be64 r i :=
  be64_append_right _ _ _ (Nat.le_add_left _ _)

@[simp] theorem be64_skip_enc32 (n : Nat) (r : Bytes) (i : Nat) : be64 (enc32 n ++ r) (i + 4) = be64 r i :=
  be64_append_right _ _ _ (Nat.le_add_left _ _)

@[simp] theorem be64_skip_enc64 (n : Nat) (r : Bytes) (i : Nat) : be64 (enc64 n ++ r) (i + 8) = be64 r i :=
  be64_append_right _ _ _ (Nat.le_add_left _ _)

@[simp] theorem sub_skip_enc16 (n : Nat) (r : Bytes) (i l : Nat) : sub (enc16 n ++ r) (i + 2) l = sub r i l :=
  sub_append_right _ _ _ _ (Nat.le_add_left _ _)

@[simp] theorem drop_skip_enc16 (n : Nat) (r : Bytes) (i : Nat) : (enc16 n ++ r).drop (i + 2) = r.drop i :=
  drop_append_right _ _ _ (Nat.le_add_left _ _)

@[simp] theorem sub_skip_enc32 (n : Nat) (r : Bytes) (i l : Nat) : sub (enc32 n ++ r) (i + 4) l = sub r i l :=
  sub_append_right _ _ _ _ (Nat.le_add_left _ _)

@[simp] theorem drop_skip_enc32 (n : Nat) (r : Bytes) (i : Nat) : (enc32 n ++ r).drop (i + 4) = r.drop i :=
  drop_append_right _ _ _ (Nat.le_add_left _ _)

@[simp] theorem sub_skip_enc64 (n : Nat) (r : Bytes) (i l : Nat) : sub (enc64 n ++ r) (i + 8) l = sub r i l :=
  sub_append_right _ _ _ _ (Nat.le_add_left _ _)

@[simp] theorem drop_skip_enc64 (n : Nat) (r : Bytes) (i : Nat) : (enc64 n ++ r).drop (i + 8) = r.drop i :=
  drop_append_right _ _ _ (Nat.le_add_left _ _)

end EpModel.Lemmas.Codec
