import EpModel.Lemmas.Dec
/- The hand-copied IP doors agree (C06): dispatching vs version-specific, slice vs struct, strict and lax;
   starting at the IP ether types vs starting at IP. -/
namespace EpModel.Lemmas.Copies
open EpModel EpModel.Dec EpModel.Lemmas.Refine

-- implicit in a lemma one of whose hypotheses mentions them; lemmas that other files call bind them explicitly
variable {g : Mem} {o l : Nat}

/-- error renaming of the dispatching decoders applied to a result -/
def renameErr {α : Type} : Except PErr α → Except PErr α
  | .error e => .error (renameIp e)
  | .ok x => .ok x

theorem ipv4AfterHeaderStrict_noRename (g : Mem) (o l hl : Nat) :
    renameErr (ipv4AfterHeaderStrict g o l hl) = ipv4AfterHeaderStrict g o l hl := by
  unfold ipv4AfterHeaderStrict
  simp only
  split
  · rfl
  · split
    · split <;> rfl
    · rfl

/-- IpHeaders::from_ipv4_slice is Ipv4Slice::from_slice (same header checks, same boundary, same AH) -/
theorem ipHeaders_ipv4_eq_ipv4Slice (g : Mem) (o l : Nat) :
    ipHeadersFromIpv4Slice g o l = ipv4SliceFromSlice g o l := rfl

/-- IpSlice::from_slice on a version 4 nibble, 20 bytes or more: Ipv4Slice::from_slice up to the
    names of the content errors -/
theorem ipSlice_eq_ipv4Slice (g : Mem) (o l : Nat) (h4 : g o / 16 = 4) (h20 : 20 ≤ l) :
    ipSliceFromSlice g o l = renameErr (ipv4SliceFromSlice g o l) := by
  rw [ipSlice_v4 g o l h4 h20]
  unfold ipv4SliceFromSlice
  cases ipv4HeaderFromSlice g o l with
  | error e => rfl
  | ok hl => exact (ipv4AfterHeaderStrict_noRename g o l hl).symm

/-- IpHeaders::from_slice on a version 4 nibble, any length: IpHeaders::from_ipv4_slice up to the
    names of the content errors (this copy checks `len < 20` first, like the version-specific one) -/
theorem ipHeaders_eq_ipv4 (g : Mem) (o l : Nat) (h4 : g o / 16 = 4) (h0 : 0 < l) :
    ipHeadersFromSlice g o l = renameErr (ipHeadersFromIpv4Slice g o l) := by
  unfold ipHeadersFromSlice ipHeadersFromIpv4Slice
  rw [ipDispatch_v4 true o l h4 nofun h0]
  cases ipv4HeaderFromSlice g o l with
  | error e => rfl
  | ok hl => exact (ipv4AfterHeaderStrict_noRename g o l hl).symm

/-- version 6: the dispatching decoders are the version-specific ones, errors included -/
theorem ipSlice_eq_ipv6Slice (g : Mem) (o l : Nat) (h6 : g o / 16 = 6) (h0 : 0 < l) :
    ipSliceFromSlice g o l = ipv6SliceFromSlice g o l := ipSlice_v6 g o l h6 h0

theorem ipHeaders_eq_ipv6 (g : Mem) (o l : Nat) (h6 : g o / 16 = 6) (h0 : 0 < l) :
    ipHeadersFromSlice g o l = ipHeadersFromIpv6Slice g o l := by
  unfold ipHeadersFromSlice ipHeadersFromIpv6Slice
  rw [ipDispatch_v6 true o l h6 h0]
  cases ipv6HeaderFromSlice g o l <;> rfl

def renameErrLax {α : Type} : Except PErr α → Except PErr α := renameErr

theorem laxIpSlice_eq_laxIpv4Slice (g : Mem) (o l : Nat) (h4 : g o / 16 = 4) (h20 : 20 ≤ l) :
    laxIpSliceFromSlice g o l = renameErr (laxIpv4SliceFromSlice g o l) := by
  unfold laxIpSliceFromSlice laxIpv4SliceFromSlice
  rw [ipDispatch_v4 false o l h4 (fun _ => h20) (by omega)]
  cases ipv4HeaderFromSlice g o l <;> rfl

theorem laxIpSlice_eq_laxIpv6Slice (g : Mem) (o l : Nat) (h6 : g o / 16 = 6) (h0 : 0 < l) :
    laxIpSliceFromSlice g o l = laxIpv6SliceFromSlice g o l := by
  unfold laxIpSliceFromSlice laxIpv6SliceFromSlice
  rw [ipDispatch_v6 false o l h6 h0]
  cases ipv6HeaderFromSlice g o l <;> rfl

/-- IpHeaders::from_slice_lax = IpHeaders::from_ipv4_slice_lax on a version 4 nibble: this pair even
    agrees on the error names -/
theorem ipHeadersLax_eq_ipv4Lax (g : Mem) (o l : Nat) (h4 : g o / 16 = 4) (h0 : 0 < l) :
    ipHeadersFromSliceLax g o l = ipHeadersFromIpv4SliceLax g o l := by
  unfold ipHeadersFromSliceLax ipHeadersFromIpv4SliceLax
  rw [ipDispatch_v4 true o l h4 nofun h0]
  cases he : ipv4HeaderFromSlice g o l with
  | error e => rcases ipv4Header_err_kind g o l e h4 he with ⟨v, rfl⟩ | ⟨le, rfl⟩ <;> rfl
  | ok hl => rfl

theorem ipHeadersLax_eq_ipv6Lax (g : Mem) (o l : Nat) (h6 : g o / 16 = 6) (h0 : 0 < l) :
    ipHeadersFromSliceLax g o l = ipHeadersFromIpv6SliceLax g o l := by
  unfold ipHeadersFromSliceLax ipHeadersFromIpv6SliceLax
  rw [ipDispatch_v6 true o l h6 h0]
  cases ipv6HeaderFromSlice g o l <;> rfl

def Packet.withLink (p : Packet) (lk : Option LinkR) : Packet :=
  { link := lk, exts := p.exts, net := p.net, tp := p.tp, stop := p.stop }

def mapOk {α β : Type} (f : α → β) : Except PErr α → Except PErr β
  | .ok x => .ok (f x)
  | .error e => .error e

theorem sliceTransport_link (c : Cur) (lk : Option LinkR) (g : Mem) (num o l : Nat) :
    ({ c with r := Packet.withLink c.r lk } : Cur).sliceTransport g num o l =
      mapOk (Packet.withLink · lk) (c.sliceTransport g num o l) := by
  unfold Cur.sliceTransport
  refine Dec.ite4₂ (P := fun a b => a = mapOk (Packet.withLink · lk) b) ?_ ?_ ?_ ?_ rfl
  · cases icmp4FromSlice g o l <;> rfl
  · cases udpFromSlice g o l <;> rfl
  · cases tcpFromSlice g o l with
    | error e => cases e <;> rfl
    | ok hl => rfl
  · cases icmp6FromSlice o l <;> rfl

theorem afterIp_link (c : Cur) (lk : Option LinkR) (g : Mem) (o : Nat) (ip : IpR) :
    ({ c with r := Packet.withLink c.r lk } : Cur).afterIp g o ip =
      mapOk (Packet.withLink · lk) (c.afterIp g o ip) := by
  unfold Cur.afterIp
  simp only
  split
  · rfl
  · exact sliceTransport_link { off := c.off + (ip.pl.w.o - o), src := ip.pl.src, r := c.r.setNet (.ip ip) } lk g _ _ _

theorem lenAddOff_rename (k : Nat) (e : PErr) : lenAddOff k (renameIp e) = renameIp (lenAddOff k e) := by
  cases e <;> rfl

/-- the IPv4 path of the strict cursor; `ren` names the header content errors -/
def ipv4Path (ren : PErr → PErr) (c : Cur) (g : Mem) (o l : Nat) : Except PErr Packet :=
  match ipv4HeaderFromSlice g o l with
  | .error e => .error (lenAddOff c.off (ren e))
  | .ok hl =>
    match ipv4AfterHeaderStrict g o l hl with
    | .error e => .error (lenAddOff c.off e)
    | .ok ip => c.afterIp g o ip

theorem sliceIpv4_path (c : Cur) (g : Mem) (o l : Nat) : c.sliceIpv4 g o l = ipv4Path id c g o l := by
  unfold Cur.sliceIpv4 ipv4SliceFromSlice ipv4Path
  cases ipv4HeaderFromSlice g o l with
  | error e => rfl
  | ok hl => cases ipv4AfterHeaderStrict g o l hl <;> rfl

/-- `slice_ip` on a version 4 nibble (20 bytes or more) is `slice_ipv4` except for the names of the
    header content errors -/
theorem sliceIp_path (c : Cur) (g : Mem) (o l : Nat) (h4 : g o / 16 = 4) (h20 : 20 ≤ l) :
    c.sliceIp g o l = ipv4Path renameIp c g o l := by
  unfold Cur.sliceIp ipv4Path
  rw [ipSlice_v4 g o l h4 h20]
  cases ipv4HeaderFromSlice g o l with
  | error e => rfl
  | ok hl => cases ipv4AfterHeaderStrict g o l hl <;> rfl

theorem ipv4Path_link (ren : PErr → PErr) (c : Cur) (lk : Option LinkR) (g : Mem) (o l : Nat) :
    ipv4Path ren ({ c with r := Packet.withLink c.r lk } : Cur) g o l =
      mapOk (Packet.withLink · lk) (ipv4Path ren c g o l) := by
  unfold ipv4Path
  cases ipv4HeaderFromSlice g o l with
  | error e => rfl
  | ok hl =>
    dsimp only
    cases ipv4AfterHeaderStrict g o l hl with
    | error e => rfl
    | ok ip => dsimp only; exact afterIp_link c lk g o ip

/-- SlicedPacket::from_ether_type(IPV4, bytes) = SlicedPacket::from_ip(bytes) with the link set, up to
    the names of the header content errors (version 4 nibble, at least 20 bytes) -/
theorem from_ether_type_ipv4_vs_from_ip (g : Mem) (n : Nat) (h4 : g 0 / 16 = 4) (h20 : 20 ≤ n) :
    slicedFromEtherType g 0x0800 n =
        mapOk (Packet.withLink · (some (.etherPayload 0x0800 ⟨0, n⟩))) (ipv4Path id Cur.new g 0 n) ∧
      slicedFromIp g n = ipv4Path renameIp Cur.new g 0 n := by
  constructor
  · unfold slicedFromEtherType
    rw [Cur.sliceEtherType, if_neg (by omega), if_neg (by omega), if_neg (by omega), if_pos rfl, sliceIpv4_path]
    exact ipv4Path_link id Cur.new _ g 0 n
  · unfold slicedFromIp
    exact sliceIp_path Cur.new g 0 n h4 h20

/-- the same for IPv6: no renaming at all -/
theorem from_ether_type_ipv6_vs_from_ip (g : Mem) (n : Nat) (h6 : g 0 / 16 = 6) (h0 : 0 < n) :
    slicedFromEtherType g 0x86dd n =
      mapOk (Packet.withLink · (some (.etherPayload 0x86dd ⟨0, n⟩))) (slicedFromIp g n) := by
  unfold slicedFromEtherType slicedFromIp
  rw [Cur.sliceEtherType, if_neg (by omega), if_neg (by omega), if_neg (by omega), if_neg (by omega), if_pos rfl]
  unfold Cur.sliceIp Cur.sliceIpv6
  rw [ipSlice_v6 g 0 n h6 h0]
  cases ipv6SliceFromSlice g 0 n with
  | error e => rfl
  | ok ip => dsimp only; exact afterIp_link Cur.new _ g 0 ip

end EpModel.Lemmas.Copies
