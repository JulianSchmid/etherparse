import EpModel.Lemmas.CodecLink
import EpModel.Model.Codec.TpUdpTcp
import EpModel.Model.Codec.LinkEth
/-
  Bit-field facts about single header bytes of the 802.1Q and TCP headers, each proved by
  exhaustive evaluation (`decide` over all values of the byte / of the fields packed into it), and,
  from them, the decoded TCP header in pieces of the input slice; what an accepting SLL decoder tells
  about its input.  Used by Props/C08Link.lean.
-/
namespace EpModel.Lemmas.Codec
open EpModel EpModel.Codec

/-! ### 802.1Q: byte 0 = pcp(3) dei(1) vid-high(4) -/

theorem vlan_b0_fwd : ∀ pcp, pcp < 8 → ∀ hi, hi < 16 → ∀ dei : Bool,
    let B := ((if dei then hi ||| 0x10 else hi) ||| ((pcp <<< 5) % 256)) % 256
    ((B >>> 5) &&& 0b111 = pcp ∧ decide ((B &&& 0x10) ≠ 0) = dei ∧ B &&& 0b1111 = hi) := by decide +kernel

theorem vlan_b0_bwd : ∀ x, x < 256 →
    ((if decide ((x &&& 0x10) ≠ 0) then (x &&& 0b1111) ||| 0x10 else (x &&& 0b1111)) |||
      ((((x >>> 5) &&& 0b111) <<< 5) % 256)) % 256 = x ∧ (x >>> 5) &&& 0b111 < 8 ∧ x &&& 0b1111 < 16 := by
  decide +kernel

/-! ### TCP byte 12 (data offset, reserved, ns) and byte 13 (flags) -/

theorem tcp_b12_fwd (B len : Nat) (hl : len < 41) (h4 : len % 4 = 0) (ns : Bool)
    (hB : B = (let v := (((5 + (len >>> 2)) <<< 4) % 256) &&& 0xF0
               if ns then v ||| 1 else v)) :
    (B % 256 &&& 0xf0) >>> 2 = 20 + len ∧ (B % 256 &&& 0b1111_0000) >>> 4 = 5 + len / 4 ∧
      decide ((B % 256 &&& 1) ≠ 0) = ns := by
  subst hB
  revert len ns
  decide +kernel

theorem tcp_b12_bwd : ∀ x, x < 256 → 20 ≤ (x &&& 0xf0) >>> 2 →
    let v := (((5 + (((x &&& 0xf0) >>> 2 - 20) >>> 2)) <<< 4) % 256) &&& 0xF0
    ((if decide ((x &&& 1) ≠ 0) then v ||| 1 else v) % 256 = (x &&& 0xF1) % 256 ∧
      (x &&& 0xf0) >>> 2 = ((x &&& 0b1111_0000) >>> 4) * 4 ∧ (x &&& 0xf0) >>> 2 ≤ 60) := by decide +kernel

theorem tcp_b13_fwd (B : Nat) (fin syn rst psh ack urg ece cwr : Bool)
    (hB : B = (let v := 0
               let v := if fin then v ||| 1 else v
               let v := if syn then v ||| 2 else v
               let v := if rst then v ||| 4 else v
               let v := if psh then v ||| 8 else v
               let v := if ack then v ||| 16 else v
               let v := if urg then v ||| 32 else v
               let v := if ece then v ||| 64 else v
               if cwr then v ||| 128 else v)) :
    decide ((B % 256 &&& 1) ≠ 0) = fin ∧ decide ((B % 256 &&& 2) ≠ 0) = syn ∧
      decide ((B % 256 &&& 4) ≠ 0) = rst ∧ decide ((B % 256 &&& 8) ≠ 0) = psh ∧
      decide ((B % 256 &&& 16) ≠ 0) = ack ∧ decide ((B % 256 &&& 32) ≠ 0) = urg ∧
      decide ((B % 256 &&& 64) ≠ 0) = ece ∧ decide ((B % 256 &&& 128) ≠ 0) = cwr := by
  subst hB
  revert fin syn rst psh ack urg ece cwr
  decide +kernel

theorem tcp_b13_bwd : ∀ x, x < 256 →
    (let v := 0
     let v := if decide ((x &&& 1) ≠ 0) then v ||| 1 else v
     let v := if decide ((x &&& 2) ≠ 0) then v ||| 2 else v
     let v := if decide ((x &&& 4) ≠ 0) then v ||| 4 else v
     let v := if decide ((x &&& 8) ≠ 0) then v ||| 8 else v
     let v := if decide ((x &&& 16) ≠ 0) then v ||| 16 else v
     let v := if decide ((x &&& 32) ≠ 0) then v ||| 32 else v
     let v := if decide ((x &&& 64) ≠ 0) then v ||| 64 else v
     let v := if decide ((x &&& 128) ≠ 0) then v ||| 128 else v
     v) = x := by decide +kernel

/-! ### a decoded TCP header, in pieces of the slice -/
section toHeader
open EpModel.Codec.Tcp

/-- byte 12 as written by `fixed` gives back the header length, the data offset and the ns flag. -/
theorem byte12_of_fixed (h : Tcp) (r : Bytes) (hw : h.opts.WF) :
    (bAt (fixed h ++ r) 12 &&& 0xf0) >>> 2 = 20 + h.opts.len ∧
      (bAt (fixed h ++ r) 12 &&& 0b1111_0000) >>> 4 = 5 + h.opts.len / 4 ∧
      decide ((bAt (fixed h ++ r) 12 &&& 1) ≠ 0) = h.ns := by
  rw [show bAt (fixed h ++ r) 12 = byte12 h % 256 by simp [fixed]]
  exact tcp_b12_fwd (byte12 h) h.opts.len (by have := hw.1; omega) hw.2.1 h.ns rfl

/-- the options: the bytes behind the fixed part up to the data offset `hl`, in a zero-padded buffer. -/
theorem toHeader_opts (b : Bytes) (hl : Nat) (hhl : hl = (bAt b 12 &&& 0xf0) >>> 2) (h20 : 20 ≤ hl)
    (hlb : hl ≤ b.length) :
    (toHeader b).opts = { len := hl - 20, buf := sub b 20 (hl - 20) ++ zeros (40 - (hl - 20)) } ∧
      (hl - 20) % 4 = 0 ∧ hl ≤ 60 := by
  subst hhl
  obtain ⟨-, hx2, hx3⟩ := tcp_b12_bwd (bAt b 12) (bAt_lt _ _) h20
  refine ⟨?_, by omega, hx3⟩
  simp only [toHeader]
  rw [← hx2, sub_length _ _ _ (by omega), Nat.mod_eq_of_lt (by omega)]

theorem fixed_toHeader (b : Bytes) (hb : 20 ≤ b.length) :
    fixed (toHeader b) = sub b 0 12 ++ u8 (byte12 (toHeader b)) :: sub b 13 7 := by
  unfold fixed
  rw [show byte13 (toHeader b) = bAt b 13 from tcp_b13_bwd _ (bAt_lt _ _)]
  generalize byte12 (toHeader b) = x
  simp (disch := omega) only [toHeader, enc16_be16, enc32_be32, sub_append_sub, List.cons_append,
    List.nil_append, List.append_assoc, cons_sub, Nat.reduceAdd]

end toHeader

/-- what an accepting `LinuxSllHeader::from_slice` tells about the input. -/
theorem sll_fromSlice_ok (b rest : Bytes) (h : Sll) (hd : Sll.fromSlice b = .ok (h, rest)) :
    16 ≤ b.length ∧ be16 b 0 ≤ 7 ∧ ∃ proto, sllProtoTryFrom (be16 b 2) (be16 b 14) = .ok proto ∧
      h = { ptype := be16 b 0, hrd := be16 b 2, alen := be16 b 4, addr := sub b 6 8, proto := proto } ∧
      rest = b.drop 16 := by
  unfold Sll.fromSlice Sll.ptypeTryFrom at hd
  split at hd
  · cases hd
  split at hd
  · cases hd
  rename_i pt hpt
  split at hd
  · cases hd
  rename_i proto hproto
  cases hd
  split at hpt <;> cases hpt
  exact ⟨by omega, by assumption, proto, hproto, rfl, rfl⟩

end EpModel.Lemmas.Codec
