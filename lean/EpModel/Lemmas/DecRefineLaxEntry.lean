import EpModel.Lemmas.DecRefineLaxIp
/-
  The lax cursor against the lax walk (C05): ARP, the lax link-extension loop (`Cur.laxSliceEtherType`) and the
  three lax entry points of `LaxSlicedPacket`; for `from_ip`, that an `Ok` result never stops at the layer of
  the first header (the `*_stop_layer` lemmas).
-/
namespace EpModel.Lemmas.RefineLax
open EpModel EpModel.Dec EpModel.Spec EpModel.Lemmas.Refine

theorem arp_refinesL (c : Cur) (g : Mem) (o l : Nat) (ctx : Ctx) (k : Nat) (ht : Tied c ctx o l)
    (hst : c.r.stop = none) :
    RelLax (c.laxSliceArp g o l) (walkN true g (k + 1) c.r (.ether 0x0806) ctx) := by
  have hstep := arp_step true g c.r ctx o l ht.coff ht.stop
  unfold Cur.laxSliceArp
  cases hd : arpFromSlice g o l with
  | ok w =>
    rw [hd] at hstep
    obtain ⟨c', hs1⟩ := hstep
    exact relLax_last k (fun h => Tag.noConfusion h) hs1 hst
  | error e =>
    rw [hd] at hstep
    obtain ⟨f, hf, hu, hrel⟩ := hstep
    exact relLax_fault k (fun h => Tag.noConfusion h) hf hst (by rw [hu]; trivial) (lenRel_fix e f c ctx o l ht hrel)

theorem ether_refinesL (c : Cur) (g : Mem) (hg : ByteMem g) (n et o l : Nat) (ctx : Ctx) (k : Nat)
    (ht : Tied c ctx o l) (hst : c.r.stop = none) (hn : ctx.nExt + n = 3) (hk : n + 4 ≤ k) :
    RelLaxW g (c.laxSliceEtherType g n et o l) (walkN true g k c.r (.ether et) ctx) := by
  have hnd : ∀ e, Tag.ether e ≠ .done := fun _ h => Tag.noConfusion h
  fun_induction Cur.laxSliceEtherType c g n et o l generalizing ctx k
  all_goals obtain ⟨k', rfl⟩ : ∃ k', k = k' + 1 := ⟨k - 1, by omega⟩
  case case1 c et o l het =>
    exact relLaxW_of (relLax_last k' (hnd _)
      (by rw [step_vlan _ _ _ _ _ het, if_pos (by omega)]; rfl) hst)
  case case2 c et o l het n e hv =>
    obtain ⟨hl4, rfl⟩ := EpModel.Lemmas.Dec.vlan_err hv
    refine relLaxW_of (relLax_fault k' (hnd _)
      (by rw [step_vlan _ _ _ _ _ het, if_neg (by omega), ht.avail, if_pos hl4]; rfl) hst (by trivial) ?_)
    exact lenRel_addOff ht.off (lenRel_slice ht.coff ht.avail (by decide) (by trivial) 4)
  case case3 c et o l het n w hv ih =>
    obtain ⟨rfl, h4⟩ := EpModel.Lemmas.Dec.vlan_ok o l w hv
    rw [walkN_next true g k' _ _ _ _ _ _ (hnd _)
      (by rw [step_vlan _ _ _ _ _ het, if_neg (by omega), ht.avail, if_neg (by omega), ht.coff]; rfl)]
    exact ih _ _ ⟨by simp [ht.off], rfl, by simp [ht.stop]; omega, by simpa using ht.src⟩ hst (by simp; omega)
      (by omega)
  case case4 c o l hnv =>
    exact relLaxW_of (relLax_last k' (hnd _) (show macsecStep true g c.r ctx = _ by rw [macsecStep, if_pos (by omega)]; rfl) hst)
  case case5 c o l n e he hnv =>
    have hstep := macsec_stepL g hg c.r ctx o l ht.coff ht.stop (by omega)
    rw [he] at hstep
    obtain ⟨f, hf, hrel, hly, hu⟩ := hstep
    exact relLaxW_of (relLax_fault k' (hnd _) hf hst (by rw [hu, hly]; trivial)
      (lenRel_addOff ht.off hrel))
  case case6 c o l n e hnl he hnv =>
    have hstep := macsec_stepL g hg c.r ctx o l ht.coff ht.stop (by omega)
    rw [he] at hstep
    cases e with
    | len le => exact absurd rfl (hnl le)
    | _ =>
      obtain ⟨f, hf, hrel, hu⟩ := hstep
      exact relLaxW_of (relLax_fault k' (hnd _) hf hst (by rw [hu]; trivial) (contentMatch_err hrel))
  case case7 c o l n hdr pl src inc hm r' et' hnx hnv ih =>
    have hstep := macsec_stepL g hg c.r ctx o l ht.coff ht.stop (by omega)
    rw [hm] at hstep
    obtain ⟨hs1, hplo, _, _, hsrc⟩ := hstep
    rw [hnx] at hs1
    rw [walkN_next true g k' _ _ _ _ _ _ (hnd _) hs1]
    apply ih
    · refine ⟨by simp only [ht.off]; omega, rfl, rfl, ?_⟩
      simp only
      by_cases h0 : src = .slice
      · simp only [h0, ne_eq, not_true_eq_false, if_false, inherit, if_true]
        exact ht.src
      · simp only [h0, ne_eq, not_false_eq_true, if_true, inherit, if_false]; right; trivial
    · exact hst
    · simp only; omega
    · omega
  case case8 c o l n hdr pl src inc hm r' hnx hnv =>
    have hstep := macsec_stepL g hg c.r ctx o l ht.coff ht.stop (by omega)
    rw [hm] at hstep
    obtain ⟨hs1, _⟩ := hstep
    rw [hnx] at hs1
    exact relLaxW_of (relLax_last k' (hnd _) hs1 hst)
  case case9 c o l n x hno hx hnv =>
    have hstep := macsec_stepL g hg c.r ctx o l ht.coff ht.stop (by omega)
    rw [hx] at hstep
    cases x <;> first | exact (hno _ _ _ _ rfl).elim | exact hstep.elim
  case case10 n c o l _ _ =>
    exact relLaxW_of (arp_refinesL c g o l ctx k' ht hst)
  case case11 n c et o l h1 h2 h3 hip =>
    obtain ⟨k', rfl⟩ : ∃ k'', k' = k'' + 3 := ⟨k' - 3, by omega⟩
    have hstep : Spec.step true g c.r (.ether et) ctx = ⟨c.r, .ipAny, ctx, none⟩ := by
      rcases hip with rfl | rfl
      · rfl
      · rfl
    rw [walkN_next true g (k' + 3) _ _ _ _ _ _ (hnd _) hstep]
    exact ip_refinesL c g hg o l ctx k' ht hst
  case case12 n c et o l h1 h2 h3 h4 =>
    exact relLaxW_of (relLax_last k' (hnd _) (step_ether_other true g c.r et ctx
      h1 h2 h3 (fun h => h4 (Or.inl h)) (fun h => h4 (Or.inr h))) hst)

/-- no stop layer names the Ethernet II header: a lax result with a stop error has its fault elsewhere -/
theorem stopLayer_not_eth (ly : Layer) : ¬ StopLayer ly .eth := by
  cases ly <;> simp [StopLayer]

theorem relLaxW_fault_not_eth {g : Mem} {m : Packet} {s : Packet × Option Fault} (h : RelLaxW g m s) (f : Fault)
    (hf : s.2 = some f) : f.unit ≠ .eth := by
  obtain ⟨_, h2⟩ := h
  rw [hf] at h2
  cases hm : m.stop with
  | none => rw [hm] at h2; exact absurd h2 (by simp)
  | some x =>
    obtain ⟨e, ly⟩ := x
    rw [hm] at h2
    simp only at h2
    rcases h2 with h2 | h2
    · intro hu
      exact stopLayer_not_eth ly (hu ▸ h2.1)
    · rw [h2.2.2.1]; simp

/-- `LaxSlicedPacket::from_ether_type` against the lax wire-format walk -/
theorem lax_from_ether_type_refinesW (g : Mem) (hg : ByteMem g) (et n : Nat) :
    RelLaxW g (laxSlicedFromEtherType g et n)
      (walkN true g maxSteps (startPacket n (.etherType et)) (.ether et) (ctx0 n)) := by
  unfold laxSlicedFromEtherType
  exact ether_refinesL _ g hg 3 et 0 n (ctx0 n) maxSteps ⟨rfl, rfl, by simp [ctx0], Or.inl rfl⟩ rfl
    (by simp [ctx0]) (by simp [maxSteps])

theorem lax_from_ether_type_refines (g : Mem) (hg : ByteMem g) (et n : Nat)
    (hnw : ¬ ShortV4Fault (walkN true g maxSteps (startPacket n (.etherType et)) (.ether et) (ctx0 n))) :
    RelLax (laxSlicedFromEtherType g et n)
      (walkN true g maxSteps (startPacket n (.etherType et)) (.ether et) (ctx0 n)) :=
  relLax_of_W (lax_from_ether_type_refinesW g hg et n) hnw

/-- `LaxSlicedPacket::from_ethernet`: `Err` exactly when the walk faults at the Ethernet II header -/
theorem lax_from_ethernet_refinesW (g : Mem) (hg : ByteMem g) (n : Nat) :
    match laxSlicedFromEthernet g n with
    | .error e =>
      ∃ f, walkN true g maxSteps Packet.empty .eth (ctx0 n) = (Packet.empty, some f) ∧ f.unit = .eth ∧ LenMatch e f
    | .ok m =>
      RelLaxW g m (walkN true g maxSteps Packet.empty .eth (ctx0 n)) ∧
        ∀ f, (walkN true g maxSteps Packet.empty .eth (ctx0 n)).2 = some f → f.unit ≠ .eth := by
  have hnd : Tag.eth ≠ .done := fun h => Tag.noConfusion h
  have hstep := step_eth true g Packet.empty (ctx0 n)
  rw [show (ctx0 n).avail = n from rfl] at hstep
  unfold laxSlicedFromEthernet eth2FromSlice
  rw [show maxSteps = 11 + 1 from rfl]
  by_cases h : n < 14
  · rw [if_pos h] at hstep ⊢
    rw [walkN_fault true g 11 _ _ _ _ _ _ _ hnd hstep]
    exact ⟨_, rfl, rfl, fun h => FaultClass.noConfusion h, trivial, rfl, rfl, rfl, Or.inl rfl⟩
  · rw [if_neg h] at hstep ⊢
    rw [walkN_next true g 11 _ _ _ _ _ _ hnd hstep]
    exact (fun key => ⟨key, fun f hf => relLaxW_fault_not_eth key f hf⟩)
      (ether_refinesL _ g hg 3 (g16 g 12) 14 (n - 14) _ 11 ⟨rfl, rfl, by simp [ctx0]; omega, Or.inl rfl⟩ rfl rfl (by omega))

theorem addOffset_zero_srcIfSlice_slice (e : LenError) : (e.addOffset 0).srcIfSlice .slice = e := by
  cases e with
  | mk req len src layer off =>
    unfold LenError.srcIfSlice LenError.addOffset LenError.withSrc
    by_cases h : src = .slice <;> simp [h]

/-- `parse_from_ip` is the cursor's `slice_ip` on a fresh cursor, except that an undecodable first
    header is returned as `Err` -/
theorem laxSlicedFromIp_eq (g : Mem) (n : Nat) :
    match laxIpSliceFromSlice g 0 n with
    | .error e => laxSlicedFromIp g n = .error e
    | .ok _ => laxSlicedFromIp g n = .ok (Cur.new.laxSliceIp g 0 n) := by
  unfold laxSlicedFromIp
  cases h : laxIpSliceFromSlice g 0 n with
  | error e => rfl
  | ok r =>
    simp only
    rw [laxSliceIp_ok Cur.new g 0 n r h]
    obtain ⟨ip, stop⟩ := r
    unfold laxIpCont
    cases stop with
    | none =>
      simp only [Cur.new, Nat.zero_add, Nat.sub_zero]
      unfold Cur.laxSliceTransport
      rfl
    | some x =>
      obtain ⟨e, ly⟩ := x
      cases e with
      | len le =>
        simp only [Cur.new, addOffset_zero_srcIfSlice_slice]
        rw [laxSliceTransport_stopped _ g ip.pl rfl]
      | _ => exact congrArg _ (laxSliceTransport_stopped _ g ip.pl rfl)

/-- what `slice_transport` of the lax cursor returns: the packet as it was, with a transport layer, or with a
    stop error at a transport layer -/
@[elab_as_elim]
theorem laxSliceTransport_cases {motive : Packet → Prop} (c : Cur) (g : Mem) (pl : IpPl) (same : motive c.r)
    (tp : ∀ x, motive (c.r.setTp x)) (stop : ∀ e ly, ly ≠ .ipHeader → motive (c.r.setStop e ly)) :
    motive (c.laxSliceTransport g pl) := by
  have hly : ∀ {ly : Layer}, ly = .icmpv4 ∨ ly = .udpHeader ∨ ly = .tcpHeader ∨ ly = .icmpv6 → ly ≠ .ipHeader := by
    rintro _ (rfl | rfl | rfl | rfl) h <;> exact Layer.noConfusion h
  unfold Cur.laxSliceTransport
  by_cases h0 : pl.frag = true ∨ c.r.stop.isSome = true
  · rw [if_pos h0]; exact same
  rw [if_neg h0]
  by_cases h1 : pl.num = 1
  · rw [if_pos h1]
    cases icmp4FromSlice g pl.w.o pl.w.l with
    | ok w => exact tp _
    | error e => exact stop _ _ (hly (Or.inl rfl))
  rw [if_neg h1]
  by_cases h17 : pl.num = 17
  · rw [if_pos h17]
    cases udpFromSliceLax g pl.w.o pl.w.l with
    | ok w => exact tp _
    | error e => exact stop _ _ (hly (Or.inr (Or.inl rfl)))
  rw [if_neg h17]
  by_cases h6 : pl.num = 6
  · rw [if_pos h6]
    cases tcpFromSlice g pl.w.o pl.w.l with
    | ok w => exact tp _
    | error e => cases e <;> exact stop _ _ (hly (Or.inr (Or.inr (Or.inl rfl))))
  rw [if_neg h6]
  by_cases h58 : pl.num = 58
  · rw [if_pos h58]
    cases icmp6FromSlice pl.w.o pl.w.l with
    | ok w => exact tp _
    | error e => exact stop _ _ (hly (Or.inr (Or.inr (Or.inr rfl))))
  rw [if_neg h58]; exact same

theorem laxSliceTransport_net (c : Cur) (g : Mem) (pl : IpPl) : (c.laxSliceTransport g pl).net = c.r.net :=
  laxSliceTransport_cases (motive := fun m => m.net = c.r.net) c g pl rfl (fun _ => rfl) (fun _ _ _ => rfl)

theorem laxIpCont_net (c : Cur) (g : Mem) (o : Nat) (r : IpR × Option (PErr × Layer)) :
    (laxIpCont c g o r).net = some (.ip r.1) := by
  obtain ⟨ip, stop⟩ := r
  unfold laxIpCont
  cases stop with
  | none => simp only; rw [laxSliceTransport_net]; rfl
  | some x =>
    obtain ⟨e, ly⟩ := x
    cases e <;> rfl

theorem stopLayer_ipHeader (u : Unit_) :
    StopLayer .ipHeader u ↔ (u = .ipAny ∨ u = .ipv4Header ∨ u = .ipv6Header) := by
  cases u <;> simp [StopLayer]

/-- `LaxSlicedPacket::from_ip` against the lax wire-format walk.  `Err` exactly when the first header
    is undecodable (then the walk faults before any layer, at the IP header); the exception is the
    short-IPv4 class of the strict `from_ip` (`ShortV4`). -/
theorem lax_from_ip_refines (g : Mem) (hg : ByteMem g) (n : Nat) :
    if g 0 / 16 = 4 ∧ 0 < n ∧ n < 20 then
      (∃ e, laxSlicedFromIp g n = .error e ∧ ShortV4 g 0 n Cur.new e) ∧
        walkN true g maxSteps Packet.empty .ipAny (ctx0 n) =
          (Packet.empty, some (mkFault (ctx0 n) .cutShort .ipv4Header 20))
    else
      match laxSlicedFromIp g n with
      | .error e =>
        ∃ f, walkN true g maxSteps Packet.empty .ipAny (ctx0 n) = (Packet.empty, some f) ∧
          (f.unit = .ipAny ∨ f.unit = .ipv4Header ∨ f.unit = .ipv6Header) ∧ ErrMatch e f
      | .ok m => RelLax m (walkN true g maxSteps Packet.empty .ipAny (ctx0 n)) ∧ m.net.isSome := by
  have ht : Tied Cur.new (ctx0 n) 0 n := ⟨rfl, rfl, by simp [ctx0], Or.inl rfl⟩
  have heq := laxSlicedFromIp_eq g n
  split
  · rename_i hw
    have hwalk : walkN true g maxSteps Packet.empty .ipAny (ctx0 n) =
        (Packet.empty, some (mkFault (ctx0 n) .cutShort .ipv4Header 20)) :=
      (ip_refinesL_short Cur.new g 0 n (ctx0 n) 9 ht hw).2
    refine ⟨?_, hwalk⟩
    have hm := laxIpSlice_v4 g 0 n hw.1 hw.2.1
    by_cases hi : g 0 % 16 < 5
    · simp only [hi, if_true] at hm
      rw [hm] at heq
      exact ⟨_, heq, Or.inl ⟨hi, rfl⟩⟩
    · have hl : n < g 0 % 16 * 4 := by omega
      simp only [hi, hl, if_true, if_false] at hm
      rw [hm] at heq
      exact ⟨_, heq, Or.inr ⟨by omega, rfl⟩⟩
  · rename_i hnw
    have h : RelLax (Cur.new.laxSliceIp g 0 n) (walkN true g maxSteps Packet.empty .ipAny (ctx0 n)) :=
      ip_refinesL_main Cur.new g hg 0 n (ctx0 n) 9 ht rfl hnw
    cases hd : laxIpSliceFromSlice g 0 n with
    | error e =>
      rw [hd] at heq
      simp only at heq
      rw [heq]
      simp only
      have hcur : Cur.new.laxSliceIp g 0 n = Packet.empty.setStop e .ipHeader := by
        cases e with
        | len le => rw [laxSliceIp_errLen Cur.new g 0 n le hd]; simp only [Cur.new, addOffset_zero_srcIfSlice_slice]
        | _ => exact laxSliceIp_err Cur.new g 0 n _ hd (by simp)
      rw [hcur] at h
      obtain ⟨h1, h2⟩ := h
      generalize walkN true g maxSteps Packet.empty .ipAny (ctx0 n) = s at *
      obtain ⟨p, fo⟩ := s
      cases fo with
      | none => simp at h2
      | some f =>
        simp only [stop_setStop] at h2
        have : p = Packet.empty := h1.symm
        subst this
        exact ⟨f, rfl, (stopLayer_ipHeader _).mp h2.1, h2.2⟩
    | ok r =>
      rw [hd] at heq
      simp only at heq
      rw [heq]
      simp only
      refine ⟨h, ?_⟩
      rw [laxSliceIp_ok Cur.new g 0 n r hd, laxIpCont_net]
      rfl

theorem extsLoop_stop_layer (g : Mem) (sm : Bool) (l0 nh : Nat) (frag : Bool) (slots : ExtSlots) (o l : Nat)
    (e : ExtErr) (ly : Layer) (h : (extsLoop g sm l0 nh frag slots o l).stop = some (e, ly)) : ly ≠ .ipHeader := by
  have hraw : ∀ n, rawLayer n ≠ .ipHeader := fun n => by
    unfold rawLayer; split <;> exact fun h => Layer.noConfusion h
  fun_induction extsLoop g sm l0 nh frag slots o l
  -- case5 / case8 / case13: the loop goes on; in all other cases it ends in `extsDone` (no stop) or in
  -- `extsFail` at a layer of the chain
  case case5 ih => exact ih h
  case case8 ih => exact ih h
  case case13 ih => exact ih h
  all_goals cases h <;> first | exact hraw _ | exact fun h => Layer.noConfusion h

theorem extsWalk_stop_layer (g : Mem) (sm : Bool) (nh o l : Nat)
    (e : ExtErr) (ly : Layer) (h : (extsWalk g sm nh o l).stop = some (e, ly)) : ly ≠ .ipHeader := by
  unfold extsWalk at h
  split at h
  · split at h
    · simp at h; rw [← h.2]; simp
    · exact extsLoop_stop_layer _ _ _ _ _ _ _ _ _ _ h
  · exact extsLoop_stop_layer _ _ _ _ _ _ _ _ _ _ h

theorem ipv4AfterHeaderLax_stop_layer (g : Mem) (o l hl : Nat) (e : PErr) (ly : Layer)
    (h : (ipv4AfterHeaderLax g o l hl).2 = some (e, ly)) : ly ≠ .ipHeader := by
  unfold ipv4AfterHeaderLax at h
  simp only at h
  split at h
  · split at h
    · simp at h
    · rename_i e' _
      cases e' <;> (simp at h; rw [← h.2]; simp)
  · simp at h

theorem ipv6AfterHeaderLax_stop_layer (g : Mem) (sm : Bool) (o l : Nat) (e : PErr) (ly : Layer)
    (h : (ipv6AfterHeaderLax g sm o l).2 = some (e, ly)) : ly ≠ .ipHeader := by
  unfold ipv6AfterHeaderLax at h
  simp only at h
  split at h
  · simp at h
  · rename_i e' ly' hst
    simp at h
    rw [← h.2]
    exact extsWalk_stop_layer _ _ _ _ _ _ _ hst
  · rename_i e' ly' _ hst
    simp at h
    rw [← h.2]
    exact extsWalk_stop_layer _ _ _ _ _ _ _ hst

theorem laxIpSlice_stop_layer (g : Mem) (o l : Nat) (r : IpR × Option (PErr × Layer)) (e : PErr) (ly : Layer)
    (h : laxIpSliceFromSlice g o l = .ok r) (hs : r.2 = some (e, ly)) : ly ≠ .ipHeader := by
  unfold laxIpSliceFromSlice at h
  split at h
  · cases h
  · cases h; exact ipv4AfterHeaderLax_stop_layer _ _ _ _ _ _ hs
  · cases h; exact ipv6AfterHeaderLax_stop_layer _ _ _ _ _ _ hs

theorem laxSliceTransport_stop_layer (c : Cur) (g : Mem) (pl : IpPl) (e : PErr) (ly : Layer)
    (hc : c.r.stop = none) (h : (c.laxSliceTransport g pl).stop = some (e, ly)) : ly ≠ .ipHeader := by
  have hn : c.r.stop ≠ some (e, ly) := fun h => by rw [hc] at h; cases h
  revert h
  exact laxSliceTransport_cases (motive := fun m => m.stop = some (e, ly) → ly ≠ .ipHeader) c g pl
    (fun h => (hn h).elim) (fun _ h => (hn h).elim) (fun _ _ hne h => by cases h; exact hne)

theorem laxIpCont_stop_layer (c : Cur) (g : Mem) (o : Nat) (r : IpR × Option (PErr × Layer)) (e : PErr) (ly : Layer)
    (hc : c.r.stop = none) (hr : ∀ e ly, r.2 = some (e, ly) → ly ≠ .ipHeader)
    (h : (laxIpCont c g o r).stop = some (e, ly)) : ly ≠ .ipHeader := by
  obtain ⟨ip, stop⟩ := r
  unfold laxIpCont at h
  cases stop with
  | none => exact laxSliceTransport_stop_layer _ g ip.pl e ly (by simp [hc]) h
  | some x =>
    obtain ⟨e', ly'⟩ := x
    have := hr e' ly' rfl
    cases e' <;> (simp at h; rw [← h.2]; exact this)

/-- a lax `from_ip` result that is `Ok` never has a stop error at the first (IP) header -/
theorem laxSlicedFromIp_stop_layer (g : Mem) (n : Nat) (m : Packet) (e : PErr) (ly : Layer)
    (h : laxSlicedFromIp g n = .ok m) (hs : m.stop = some (e, ly)) : ly ≠ .ipHeader := by
  have heq := laxSlicedFromIp_eq g n
  cases hd : laxIpSliceFromSlice g 0 n with
  | error e' => rw [hd] at heq; simp only at heq; rw [heq] at h; cases h
  | ok r =>
    rw [hd] at heq
    simp only at heq
    rw [heq] at h
    cases h
    rw [laxSliceIp_ok Cur.new g 0 n r hd] at hs
    exact laxIpCont_stop_layer Cur.new g 0 r e ly rfl (fun e ly h => laxIpSlice_stop_layer g 0 n r e ly hd h) hs

theorem stopLayer_first (ly : Layer) (u : Unit_) (h : StopLayer ly u)
    (hu : u = .ipAny ∨ u = .ipv4Header ∨ u = .ipv6Header) : ly = .ipHeader := by
  rcases hu with rfl | rfl | rfl <;> cases ly <;> simp_all [StopLayer]

/-- if lax `from_ip` is `Ok`, a fault of the walk is not at the first (IP) header -/
theorem lax_from_ip_ok_fault_unit (g : Mem) (hg : ByteMem g) (n : Nat) (m : Packet)
    (h : laxSlicedFromIp g n = .ok m) (f : Fault)
    (hf : (walkN true g maxSteps Packet.empty .ipAny (ctx0 n)).2 = some f) :
    ¬ (f.unit = .ipAny ∨ f.unit = .ipv4Header ∨ f.unit = .ipv6Header) := by
  have key := lax_from_ip_refines g hg n
  split at key
  · obtain ⟨⟨e, he, _⟩, _⟩ := key
    rw [he] at h; cases h
  · rw [h] at key
    simp only at key
    obtain ⟨⟨_, h2⟩, _⟩ := key
    rw [hf] at h2
    cases hm : m.stop with
    | none => rw [hm] at h2; exact absurd h2 (by simp)
    | some x =>
      obtain ⟨e, ly⟩ := x
      rw [hm] at h2
      simp only at h2
      intro hu
      exact laxSlicedFromIp_stop_layer g n m e ly h hm (stopLayer_first ly f.unit h2.1 hu)

end EpModel.Lemmas.RefineLax
