import EpModel.Model.BitFields
import EpModel.Spec.BitLayout
import EpModel.Lemmas.CodecNetBits
/-
  Helper lemmas for C15: bitwise or of disjoint operands is addition, byte access into literal
  lists, `extract` / `spanVal` on the shapes that occur, well-formedness predicates of the six header
  models, named access (`get` / `set`) and, per header, the bitwise ors of `to_bytes` written as sums
  (valid for well-formed headers).
-/
namespace EpModel.BitFields
open EpModel EpModel.Spec.BitLayout EpModel.Lemmas.Codec EpModel.Lemmas.CodecNet

/-- setting bit 3 of a byte (`raw |= 0b1000`), whatever its previous value. -/
theorem lor_8 (x : Nat) : x ||| 8 = x / 16 * 16 + 8 + x % 8 := by
  have small : ∀ r, r < 16 → (r ||| 8) < 2 ^ 4 ∧ r ||| 8 = 8 + r % 8 := by decide
  obtain ⟨h2, h4⟩ := small (x % 16) (Nat.mod_lt _ (by decide))
  have h3 := Nat.two_pow_add_eq_or_of_lt h2 (x / 16)
  rw [← Nat.or_assoc, ← Nat.two_pow_add_eq_or_of_lt (Nat.mod_lt x (by decide)),
    show 2 ^ 4 * (x / 16) + x % 16 = x by omega, h4] at h3
  omega

@[simp] theorem bAt_nil (n : Nat) : bAt [] n = 0 := by simp [bAt]
@[simp] theorem arr_cons_zero (x : UInt8) (xs : Bytes) : arr (x :: xs) 0 = x := by simp [arr]
@[simp] theorem arr_cons_succ (x : UInt8) (xs : Bytes) (n : Nat) :
    arr (x :: xs) (n + 1) = arr xs n := by simp [arr]

theorem arr_toNat (b : Bytes) (i : Nat) : (arr b i).toNat = bAt b i := rfl

theorem u8_congr {a b : Nat} (h : a % 256 = b % 256) : u8 a = u8 b :=
  EpModel.Lemmas.Codec.u8_congr a b h

theorem u8_bAt (b : Bytes) (i : Nat) : u8 (bAt b i) = arr b i := by
  unfold bAt arr; exact u8_toNat_self _

theorem list16_eta (l : Bytes) (h : l.length = 16) :
    [arr l 0, arr l 1, arr l 2, arr l 3, arr l 4, arr l 5, arr l 6, arr l 7,
     arr l 8, arr l 9, arr l 10, arr l 11, arr l 12, arr l 13, arr l 14, arr l 15] = l := by
  match l, h with
  | [_, _, _, _, _, _, _, _, _, _, _, _, _, _, _, _], _ => rfl

theorem spanVal_lt (b : Bytes) (off n : Nat) : spanVal b off n < 256 ^ n := by
  induction n with
  | zero => simp [spanVal]
  | succ n ih =>
    have := bAt_lt b (off + n)
    simp only [spanVal, Nat.pow_succ]
    omega

theorem spanVal_four (b : Bytes) (o : Nat) : spanVal b o 4 = be32 b o := by
  simp only [spanVal, be32, Nat.zero_mul, Nat.zero_add, Nat.add_zero]
  omega

/-- `extract` on a field given by its numbers; `simp` evaluates the right side. -/
@[simp] theorem extract_mk (name : String) (o s w : Nat) (b : Bytes) :
    extract ⟨name, o, s, w⟩ b
      = spanVal b o ((s + w + 7) / 8) / 2 ^ ((s + w + 7) / 8 * 8 - s - w) % 2 ^ w := rfl

attribute [simp] spanVal

theorem extract_bytes (name : String) (o w n : Nat) (h : w = 8 * n) (b : Bytes) :
    extract ⟨name, o, 0, w⟩ b = spanVal b o n := by
  subst h
  have h1 : (0 + 8 * n + 7) / 8 = n := by omega
  have h2 : n * 8 - 0 - 8 * n = 0 := by omega
  rw [extract_mk, h1, h2, Nat.pow_zero, Nat.div_one, Nat.pow_mul]
  exact Nat.mod_eq_of_lt (spanVal_lt b o n)

theorem spanVal_append_right (l r : Bytes) (o k n : Nat) (ho : o = l.length + k) :
    spanVal (l ++ r) o n = spanVal r k n := by
  subst ho
  induction n with
  | zero => rfl
  | succ n ih =>
    simp only [spanVal, ih, bAt_append_right l r _ (Nat.le_add_right _ _), Nat.add_assoc,
      Nat.add_sub_cancel_left]

theorem spanVal_cons_succ (x : UInt8) (b : Bytes) (o n : Nat) :
    spanVal (x :: b) (o + 1) n = spanVal b o n := by
  induction n with
  | zero => rfl
  | succ n ih => simp only [spanVal, ih, Nat.add_right_comm o 1 n, bAt_cons_succ]

/-- one step of reassembling `s` from its base-256 digits, most significant first. -/
theorem digit_step (s k K : Nat) (hK : K = k * 256) : s / K * 256 + s / k % 256 = s / k := by
  rw [hK, ← Nat.div_div_eq_div_mul]; exact Nat.div_add_mod' (s / k) 256

theorem spanVal_be4 (v : Nat) (hv : v < 4294967296) (r : Bytes) :
    spanVal (u8 (v / 16777216 % 256) :: u8 (v / 65536 % 256) :: u8 (v / 256 % 256) :: u8 (v % 256) :: r)
      0 4 = v := by
  have h : v / 16777216 % 256 = v / 16777216 := Nat.mod_eq_of_lt (by omega)
  simp only [spanVal, bAt_cons_zero, bAt_cons_succ, u8_toNat, Nat.mod_mod, Nat.zero_mul,
    Nat.zero_add, h]
  rw [digit_step v 65536 _ rfl, digit_step v 256 _ rfl]
  exact Nat.div_add_mod' v 256

theorem spanVal_enc64 (s : Nat) (hs : s < 18446744073709551616) (r : Bytes) :
    spanVal (enc64 s ++ r) 0 8 = s := by
  have h : s / 72057594037927936 % 256 = s / 72057594037927936 := Nat.mod_eq_of_lt (by omega)
  simp only [spanVal, enc64, List.cons_append, bAt_cons_zero, bAt_cons_succ, u8_toNat, Nat.mod_mod,
    Nat.zero_mul, Nat.zero_add, h]
  rw [digit_step s 281474976710656 _ rfl, digit_step s 1099511627776 _ rfl,
    digit_step s 4294967296 _ rfl, digit_step s 16777216 _ rfl, digit_step s 65536 _ rfl,
    digit_step s 256 _ rfl]
  exact Nat.div_add_mod' s 256

theorem spanVal_sub (b : Bytes) (o l k n : Nat) (h : k + n ≤ l) :
    spanVal (sub b o l) k n = spanVal b (o + k) n := by
  induction n with
  | zero => rfl
  | succ n ih => simp only [spanVal, ih (by omega), bAt_sub b o l (k + n) (by omega), Nat.add_assoc]

theorem sub_append_middle (a m c : Bytes) (o n : Nat) (ho : a.length = o) (hn : m.length = n) :
    sub (a ++ (m ++ c)) o n = m := by
  unfold sub; rw [List.drop_left' ho, List.take_left' hn]

/-- a decoder that got past a check: the check passed and the rest produced the result. -/
theorem of_guard_ok {ε α : Type} {c : Prop} [Decidable c] {e : ε} {x : Except ε α} {v : α}
    (h : (if c then .error e else x) = .ok v) : ¬ c ∧ x = .ok v := by
  split at h
  · cases h
  · exact ⟨‹_›, h⟩

theorem name_ne {T : List Field} (hT : (T.map Field.name).Nodup) {f g : Field} (hf : f ∈ T)
    (hg : g ∈ T) (hne : g ≠ f) : g.name ≠ f.name := by
  induction T with
  | nil => cases hf
  | cons a T ih =>
    rw [List.map_cons, List.nodup_cons] at hT
    rcases List.mem_cons.mp hf with rfl | hf' <;> rcases List.mem_cons.mp hg with rfl | hg'
    · exact absurd rfl hne
    · intro e; exact hT.1 (e ▸ List.mem_map_of_mem hg')
    · intro e; exact hT.1 (e ▸ List.mem_map_of_mem hf')
    · exact ih hT.2 hf' hg'

theorem vlan_names : (vlan.map Field.name).Nodup := by decide
theorem ipv4_names : (ipv4.map Field.name).Nodup := by decide
theorem ipv6_names : (ipv6.map Field.name).Nodup := by decide
theorem ipv6Frag_names : (ipv6Frag.map Field.name).Nodup := by decide

/-- a change of the named value of `f` alone is a change of the bits of `f` alone. -/
theorem isolated {T : List Field} (hT : (T.map Field.name).Nodup) {b b' : Bytes}
    {get get' : String → Nat} (lay : ∀ g ∈ T, extract g b = get g.name)
    (lay' : ∀ g ∈ T, extract g b' = get' g.name) {f : Field} (hf : f ∈ T) {v : Nat}
    (self : get' f.name = v) (ne : ∀ m, m ≠ f.name → get' m = get m) :
    extract f b' = v ∧ ∀ g ∈ T, g ≠ f → extract g b' = extract g b :=
  ⟨(lay' f hf).trans self,
   fun g hg hne => by rw [lay' g hg, lay g hg, ne _ (name_ne hT hf hg hne)]⟩

/-! ### well-formed header values: every field holds a value of its Rust type -/

def Vlan.WF (h : Vlan) : Prop := h.pcp < 8 ∧ h.vid < 4096 ∧ h.etherType < 65536
instance (h : Vlan) : Decidable h.WF := by unfold Vlan.WF; infer_instance

def Ip4.WF (h : Ip4) : Prop :=
  h.dscp < 64 ∧ h.ecn < 4 ∧ h.totalLen < 65536 ∧ h.ident < 65536 ∧ h.fragOff < 8192 ∧ h.ttl < 256 ∧
  h.proto < 256 ∧ h.checksum < 65536 ∧ h.src.length = 4 ∧ h.dst.length = 4 ∧
  h.options.length ≤ 40 ∧ h.options.length % 4 = 0
instance (h : Ip4) : Decidable h.WF := by unfold Ip4.WF; infer_instance

def Ip6.WF (h : Ip6) : Prop :=
  h.trafficClass < 256 ∧ h.flowLabel < 1048576 ∧ h.payloadLen < 65536 ∧ h.nextHeader < 256 ∧
  h.hopLimit < 256 ∧ h.src.length = 16 ∧ h.dst.length = 16
instance (h : Ip6) : Decidable h.WF := by unfold Ip6.WF; infer_instance

def Frag6.WF (h : Frag6) : Prop := h.nextHeader < 256 ∧ h.fragOff < 8192 ∧ h.ident < 4294967296
instance (h : Frag6) : Decidable h.WF := by unfold Frag6.WF; infer_instance

def PType.WF : PType → Prop
  | .unmodified e => e < 65536
  | _ => True
instance (p : PType) : Decidable p.WF := by cases p <;> unfold PType.WF <;> infer_instance

def Macsec.WF (h : Macsec) : Prop :=
  h.ptype.WF ∧ h.an < 4 ∧ h.shortLen < 64 ∧ h.pn < 4294967296 ∧
  (∀ s, h.sci = some s → s < 18446744073709551616)
instance (h : Macsec) : Decidable h.WF := by
  unfold Macsec.WF
  cases h.sci <;> simp <;> infer_instance

def Query.WF (h : Query) : Prop :=
  h.maxRespCode < 256 ∧ h.group.length = 4 ∧ h.rawByte8 < 256 ∧ h.qqic < 256 ∧ h.numSources < 65536
instance (h : Query) : Decidable h.WF := by unfold Query.WF; infer_instance

/-- what it means for `f` to be the checked constructor of a `bits` wide type: it accepts exactly
    the values below `2^bits`, returns them unchanged, and otherwise reports the offending value,
    the maximum and the value type. -/
def Exact (bits : Nat) (vt : ValueType) (f : Nat → Except TooBig Nat) : Prop :=
  ∀ v, ((f v).isOk = true ↔ v < 2 ^ bits) ∧ (v < 2 ^ bits → f v = .ok v) ∧
    (¬ v < 2 ^ bits → f v = .error ⟨v, 2 ^ bits - 1, vt⟩)

theorem exact_of (bits : Nat) (vt : ValueType) (f : Nat → Except TooBig Nat)
    (h : ∀ v, f v = if v ≤ 2 ^ bits - 1 then .ok v else .error ⟨v, 2 ^ bits - 1, vt⟩) :
    Exact bits vt f := by
  intro v
  have hp : 0 < 2 ^ bits := Nat.two_pow_pos bits
  rw [h v]
  refine ⟨?_, ?_, ?_⟩
  · split <;> simp [Except.isOk, Except.toBool] <;> omega
  · intro hv; rw [if_pos (by omega)]
  · intro hv; rw [if_neg (by omega)]

/-! ### named access to header fields (names as in the layout tables of `Spec.BitLayout`) -/

def b2n (b : Bool) : Nat := if b then 1 else 0

@[simp] theorem b2n_true_aux : b2n true = 1 := rfl
@[simp] theorem b2n_false_aux : b2n false = 0 := rfl

theorem b2n_lt (b : Bool) : b2n b < 2 := by cases b <;> decide

/-- `b2n (decide (v ≠ 0))` as `simp` writes it. -/
theorem b2n_ne_zero (v : Nat) (hv : v < 2) : b2n (!decide (v = 0)) = v := by
  match v, hv with
  | 0, _ => rfl
  | 1, _ => rfl

theorem decide_ne_zero_eq (v : Nat) (d : Bool) (h : v = b2n d) : decide (v ≠ 0) = d := by
  subst h; cases d <;> rfl

theorem decide_bit_eq (x k : Nat) (d : Bool) (hk : 0 < k) (hx : x % 2 = b2n d) :
    decide (x % 2 * k ≠ 0) = d := by
  cases d <;> rw [hx]
  · exact decide_eq_false (by simp [b2n])
  · exact decide_eq_true (by simp only [b2n, if_true]; omega)

theorem lor_flag (i x m : Nat) (c : Bool) (hx : x < 2 ^ i) (hm : m % 2 ^ i = 0) :
    x ||| (if c then m else 0) = x + b2n c * m := by
  cases c
  · simp [b2n]
  · rw [if_pos rfl, Nat.or_comm, or_eq_add i hm hx]; simp only [b2n, if_true]; omega

/-! ### SingleVlanHeader -/

def Vlan.get (h : Vlan) (name : String) : Nat :=
  if name = "pcp" then h.pcp else if name = "dei" then b2n h.dei
  else if name = "vid" then h.vid else if name = "ether_type" then h.etherType else 0

def Vlan.set (h : Vlan) (name : String) (v : Nat) : Vlan :=
  if name = "pcp" then { h with pcp := v } else if name = "dei" then { h with dei := decide (v ≠ 0) }
  else if name = "vid" then { h with vid := v }
  else if name = "ether_type" then { h with etherType := v } else h

theorem Vlan.get_set (h : Vlan) (f : Field) (hf : f ∈ vlan) (v : Nat)
    (hv : v < 2 ^ f.width) :
    (h.set f.name v).get f.name = v ∧ ∀ m, m ≠ f.name → (h.set f.name v).get m = h.get m := by
  repeat' rcases hf with _ | ⟨_, hf⟩
  -- `dei` is stored as a `Bool`: a value below 2 comes back through `b2n_ne_zero`
  all_goals simp at hv <;>
    refine ⟨?_, fun m hm => ?_⟩ <;> simp [Vlan.set, Vlan.get, b2n_ne_zero, *]

/-- the slice decoder reads the same four bytes as `from_bytes`. -/
theorem Vlan.fromSlice_append (a b c d : UInt8) (rest : Bytes) :
    Vlan.fromSlice ([a, b, c, d] ++ rest) = .ok (Vlan.fromBytes [a, b, c, d], rest) := by
  rw [Vlan.fromSlice, if_neg (by simp)]; rfl

theorem Vlan.or_arith (h : Vlan) (wf : h.WF) :
    (if h.dei then h.vid / 256 % 256 ||| 16 else h.vid / 256 % 256) ||| (h.pcp * 32 % 256)
      = h.pcp * 32 + (if h.dei then 16 else 0) + h.vid / 256 := by
  obtain ⟨h1, h2, -⟩ := wf
  cases h.dei <;> simp only [if_true, if_false, Bool.false_eq_true]
  · rw [Nat.or_comm, or_eq_add 5 (by omega) (by omega)]; omega
  · rw [Nat.or_comm (h.vid / 256 % 256), or_eq_add (a := 16) 4 (by omega) (by omega), Nat.or_comm,
      or_eq_add 5 (by omega) (by omega)]; omega

/-! ### Ipv6FragmentHeader -/

def Frag6.get (h : Frag6) (name : String) : Nat :=
  if name = "next_header" then h.nextHeader else if name = "frag_off" then h.fragOff
  else if name = "m" then b2n h.mf else if name = "identification" then h.ident else 0

def Frag6.set (h : Frag6) (name : String) (v : Nat) : Frag6 :=
  if name = "next_header" then { h with nextHeader := v }
  else if name = "frag_off" then { h with fragOff := v }
  else if name = "m" then { h with mf := decide (v ≠ 0) }
  else if name = "identification" then { h with ident := v } else h

def Frag6.settable : List String := ["next_header", "frag_off", "m", "identification"]

theorem Frag6.get_set (h : Frag6) (f : Field) (hf : f ∈ ipv6Frag) (hs : f.name ∈ Frag6.settable) (v : Nat)
    (hv : v < 2 ^ f.width) :
    (h.set f.name v).get f.name = v ∧ ∀ m, m ≠ f.name → (h.set f.name v).get m = h.get m := by
  repeat' rcases hf with _ | ⟨_, hf⟩
  -- `m` is stored as a `Bool`: a value below 2 comes back through `b2n_ne_zero`
  all_goals simp [Frag6.settable] at hs hv <;>
    refine ⟨?_, fun m hm => ?_⟩ <;> simp [Frag6.set, Frag6.get, b2n_ne_zero, *]

theorem Frag6.or_arith (h : Frag6) (wf : h.WF) :
    (h.fragOff * 8 % 65536) ||| (if h.mf then 1 else 0) = h.fragOff * 8 + b2n h.mf := by
  obtain ⟨-, h2, -⟩ := wf
  rw [or_eq_add 3 (by omega) (by split <;> omega)]
  unfold b2n; omega

/-! ### igmp::MembershipQueryWithSourcesHeader (IGMPv3 query) -/

def Query.get (h : Query) (checksum : Nat) (name : String) : Nat :=
  if name = "type" then 17 else if name = "max_resp_code" then h.maxRespCode
  else if name = "checksum" then checksum else if name = "group" then spanVal h.group 0 4
  else if name = "flags" then h.rawByte8 / 16 else if name = "s" then h.rawByte8 / 8 % 2
  else if name = "qrv" then h.rawByte8 % 8 else if name = "qqic" then h.qqic
  else if name = "num_sources" then h.numSources else 0

theorem Query.setFlags_arith (raw v : Nat) :
    Query.setFlags raw v = raw % 16 + v % 16 * 16 := by
  unfold Query.setFlags
  rw [Nat.or_comm, or_eq_add 4 (by omega) (by omega)]; omega

theorem Query.setSFlag_arith (raw : Nat) (v : Bool) :
    Query.setSFlag raw v = raw / 16 * 16 + b2n v * 8 + raw % 8 := by
  unfold Query.setSFlag b2n
  cases v <;> simp [lor_8] <;> omega

theorem Query.setQrv_arith (raw v : Nat) : Query.setQrv raw v = raw / 8 * 8 + v % 8 := by
  unfold Query.setQrv
  rw [or_eq_add 3 (by omega) (by omega)]

/-- what `IgmpHeader::from_slice` checked and returns when the result is an IGMPv3 query. -/
theorem Query.fromSlice_ok (b : Bytes) (h : Query) (cks : Nat) (r : Bytes)
    (hd : Query.fromSlice b = .ok (.query h cks r)) :
    12 ≤ b.length ∧ bAt b 0 = 17 ∧
    h = { maxRespCode := bAt b 1, group := [arr b 4, arr b 5, arr b 6, arr b 7],
          rawByte8 := bAt b 8, qqic := bAt b 9, numSources := bAt b 10 * 256 + bAt b 11 } ∧
    cks = bAt b 2 * 256 + bAt b 3 ∧ r = b.drop 12 := by
  unfold Query.fromSlice at hd
  repeat (split at hd <;> try cases hd)
  exact ⟨by omega, by assumption, rfl, rfl, rfl⟩

/-! ### Ipv6Header -/

theorem tc_or_eq_add (x y : Nat) (hy : y < 256) :
    (x * 16 % 256) ||| (y / 16) = x * 16 % 256 + y / 16 :=
  or_eq_add 4 (by omega) (by omega)

def Ip6.get (h : Ip6) (name : String) : Nat :=
  if name = "version" then 6 else if name = "traffic_class" then h.trafficClass
  else if name = "flow_label" then h.flowLabel else if name = "payload_len" then h.payloadLen
  else if name = "next_header" then h.nextHeader else if name = "hop_limit" then h.hopLimit
  else if name = "src" then spanVal h.src 0 16 else if name = "dst" then spanVal h.dst 0 16 else 0

def Ip6.set (h : Ip6) (name : String) (v : Nat) : Ip6 :=
  if name = "traffic_class" then { h with trafficClass := v }
  else if name = "flow_label" then { h with flowLabel := v }
  else if name = "payload_len" then { h with payloadLen := v }
  else if name = "next_header" then { h with nextHeader := v }
  else if name = "hop_limit" then { h with hopLimit := v } else h

def Ip6.settable : List String :=
  ["traffic_class", "flow_label", "payload_len", "next_header", "hop_limit"]

theorem Ip6.get_set (h : Ip6) (f : Field) (hf : f ∈ ipv6) (hs : f.name ∈ Ip6.settable) (v : Nat)
    (hv : v < 2 ^ f.width) :
    (h.set f.name v).get f.name = v ∧ ∀ m, m ≠ f.name → (h.set f.name v).get m = h.get m := by
  repeat' rcases hf with _ | ⟨_, hf⟩
  all_goals simp [Ip6.settable] at hs hv <;>
    refine ⟨?_, fun m hm => ?_⟩ <;> simp [Ip6.set, Ip6.get, *]

/-- what a successful `Ipv6Header::from_slice` checked and what it returns. -/
theorem Ip6.fromSlice_ok (b : Bytes) (h : Ip6) (r : Bytes) (hd : Ip6.fromSlice b = .ok (h, r)) :
    40 ≤ b.length ∧ bAt b 0 / 16 = 6 ∧
    h = { trafficClass := (bAt b 0 * 16 % 256) ||| (bAt b 1 / 16),
          flowLabel := (bAt b 1 % 16) * 65536 + bAt b 2 * 256 + bAt b 3, payloadLen := be16 b 4,
          nextHeader := bAt b 6, hopLimit := bAt b 7, src := sub b 8 16, dst := sub b 24 16 } ∧
    r = b.drop 40 := by
  unfold Ip6.fromSlice at hd
  obtain ⟨a1, hd⟩ := of_guard_ok hd
  obtain ⟨a2, hd⟩ := of_guard_ok hd
  cases hd
  exact ⟨by omega, by omega, rfl, rfl⟩

/-- the two bitwise ors of `Ipv6Header::to_bytes` join disjoint bits. -/
theorem Ip6.or_arith (h : Ip6) (wf : h.WF) :
    (6 * 16) ||| (h.trafficClass / 16) = 96 + h.trafficClass / 16 ∧
    (h.trafficClass * 16 % 256) ||| (h.flowLabel / 65536 % 256)
      = h.trafficClass * 16 % 256 + h.flowLabel / 65536 := by
  obtain ⟨h1, h2, -⟩ := wf
  refine ⟨or_eq_add 4 (by omega) (by omega), ?_⟩
  rw [or_eq_add 4 (by omega) (by omega)]; omega

/-! ### Ipv4Header -/

def Ip4.get (h : Ip4) (name : String) : Nat :=
  if name = "version" then 4 else if name = "ihl" then 5 + h.options.length / 4
  else if name = "dscp" then h.dscp else if name = "ecn" then h.ecn
  else if name = "total_len" then h.totalLen else if name = "identification" then h.ident
  else if name = "df" then b2n h.df else if name = "mf" then b2n h.mf
  else if name = "frag_off" then h.fragOff else if name = "ttl" then h.ttl
  else if name = "protocol" then h.proto else if name = "checksum" then h.checksum
  else if name = "src" then spanVal h.src 0 4 else if name = "dst" then spanVal h.dst 0 4 else 0

def Ip4.set (h : Ip4) (name : String) (v : Nat) : Ip4 :=
  if name = "dscp" then { h with dscp := v } else if name = "ecn" then { h with ecn := v }
  else if name = "total_len" then { h with totalLen := v }
  else if name = "identification" then { h with ident := v }
  else if name = "df" then { h with df := decide (v ≠ 0) }
  else if name = "mf" then { h with mf := decide (v ≠ 0) }
  else if name = "frag_off" then { h with fragOff := v } else if name = "ttl" then { h with ttl := v }
  else if name = "protocol" then { h with proto := v }
  else if name = "checksum" then { h with checksum := v } else h

def Ip4.settable : List String :=
  ["dscp", "ecn", "total_len", "identification", "df", "mf", "frag_off", "ttl", "protocol", "checksum"]

theorem Ip4.get_set (h : Ip4) (f : Field) (hf : f ∈ ipv4) (hs : f.name ∈ Ip4.settable) (v : Nat)
    (hv : v < 2 ^ f.width) :
    (h.set f.name v).get f.name = v ∧ ∀ m, m ≠ f.name → (h.set f.name v).get m = h.get m := by
  repeat' rcases hf with _ | ⟨_, hf⟩
  -- `df`, `mf` are stored as `Bool`s: a value below 2 comes back through `b2n_ne_zero`
  all_goals simp [Ip4.settable] at hs hv <;>
    refine ⟨?_, fun m hm => ?_⟩ <;> simp [Ip4.set, Ip4.get, b2n_ne_zero, *]

/-- what a successful `Ipv4Header::from_slice` checked and what it returns. -/
theorem Ip4.fromSlice_ok (b : Bytes) (h : Ip4) (r : Bytes) (hd : Ip4.fromSlice b = .ok (h, r)) :
    20 ≤ b.length ∧ bAt b 0 / 16 = 4 ∧ 5 ≤ bAt b 0 % 16 ∧ bAt b 0 % 16 * 4 ≤ b.length ∧
    h = { dscp := bAt b 1 / 4, ecn := bAt b 1 % 4, totalLen := be16 b 2, ident := be16 b 4,
          df := decide (bAt b 6 / 64 % 2 * 64 ≠ 0), mf := decide (bAt b 6 / 32 % 2 * 32 ≠ 0),
          fragOff := (bAt b 6 % 32) * 256 + bAt b 7, ttl := bAt b 8, proto := bAt b 9,
          checksum := be16 b 10, src := sub b 12 4, dst := sub b 16 4,
          options := sub b 20 (bAt b 0 % 16 * 4 - 20) } ∧
    r = b.drop (bAt b 0 % 16 * 4) := by
  unfold Ip4.fromSlice at hd
  obtain ⟨a1, hd⟩ := of_guard_ok hd
  obtain ⟨a2, hd⟩ := of_guard_ok hd
  obtain ⟨a3, hd⟩ := of_guard_ok hd
  obtain ⟨a4, hd⟩ := of_guard_ok hd
  cases hd
  exact ⟨by omega, by omega, by omega, by omega, rfl, rfl⟩

theorem Ip4.toBytes_append (h : Ip4) (wf : h.WF) (rest : Bytes) :
    h.toBytes ++ rest =
  [ u8 (69 + h.options.length / 4), u8 (h.dscp * 4 + h.ecn),
    u8 (h.totalLen / 256 % 256), u8 (h.totalLen % 256), u8 (h.ident / 256 % 256), u8 (h.ident % 256),
    u8 (b2n h.df * 64 + b2n h.mf * 32 + h.fragOff / 256), u8 (h.fragOff % 256), u8 h.ttl, u8 h.proto,
    u8 (h.checksum / 256 % 256), u8 (h.checksum % 256) ]
    ++ (h.src ++ (h.dst ++ (h.options ++ rest))) := by
  obtain ⟨h1, h2, -, -, h5, -, -, -, h9, h10, h11, -⟩ := wf
  have := b2n_lt h.df
  have := b2n_lt h.mf
  have e0 : (4 * 16) ||| ((h.options.length % 256 / 4 + 5) % 256) = 69 + h.options.length / 4 := by
    rw [or_eq_add 6 (by omega) (by omega)]; omega
  have e1 : (h.dscp * 4 % 256) ||| h.ecn = h.dscp * 4 + h.ecn := by
    rw [or_eq_add 2 (by omega) (by omega)]; omega
  have e2 : (if h.mf then (if h.df then 0 ||| 64 else 0) ||| 32 else (if h.df then 0 ||| 64 else 0))
      = b2n h.df * 64 + b2n h.mf * 32 := by cases h.df <;> cases h.mf <;> rfl
  have e3 : (b2n h.df * 64 + b2n h.mf * 32) ||| (h.fragOff / 256 % 256 % 32)
      = b2n h.df * 64 + b2n h.mf * 32 + h.fragOff / 256 := by
    rw [or_eq_add 5 (by omega) (by omega)]; omega
  obtain ⟨s0, s1, s2, s3, hs⟩ := list4 h.src h9
  obtain ⟨d0, d1, d2, d3, hd⟩ := list4 h.dst h10
  simp only [Ip4.toBytes, Ip4.first20, Ip4.fragAndFlags, Ip4.ihl, e0, e1, e2, e3, hs, hd,
    arr_cons_zero, arr_cons_succ, List.cons_append, List.nil_append]

/-! ### MacsecHeader -/

def Macsec.get (h : Macsec) (name : String) : Nat :=
  if name = "v" then 0 else if name = "es" then b2n h.es else if name = "sc" then b2n h.sci.isSome
  else if name = "scb" then b2n h.scb else if name = "e" then b2n h.encrypted
  else if name = "c" then b2n h.userdataChanged else if name = "an" then h.an
  else if name = "sl_reserved" then 0 else if name = "short_len" then h.shortLen
  else if name = "pn" then h.pn else if name = "sci" then h.sci.getD 0
  else if name = "ether_type" then (match h.ptype with | .unmodified e => e | _ => 0) else 0

theorem Macsec.tciAn_arith (h : Macsec) (ha : h.an < 4) :
    h.tciAn % 256 = h.an + b2n h.userdataChanged * 4 + b2n h.encrypted * 8 + b2n h.scb * 16
      + b2n h.sci.isSome * 32 + b2n h.es * 64 := by
  have := b2n_lt h.userdataChanged; have := b2n_lt h.encrypted; have := b2n_lt h.scb
  have := b2n_lt h.sci.isSome; have := b2n_lt h.es
  unfold Macsec.tciAn
  rw [lor_flag 2 _ 4 _ (by omega) (by decide), lor_flag 3 _ 8 _ (by omega) (by decide),
    lor_flag 4 _ 16 _ (by omega) (by decide), lor_flag 5 _ 32 _ (by omega) (by decide),
    lor_flag 6 _ 64 _ (by omega) (by decide)]
  omega

/-- `MacsecHeader::to_bytes` as the six fixed bytes followed by the parts that are present. -/
theorem Macsec.toBytes_eq (h : Macsec) :
    h.toBytes =
      [u8 h.tciAn, u8 (h.shortLen % 64), u8 (h.pn / 16777216 % 256), u8 (h.pn / 65536 % 256),
        u8 (h.pn / 256 % 256), u8 (h.pn % 256)]
      ++ ((if h.sci.isSome then enc64 (h.sci.getD 0) else [])
      ++ (if h.isUnmodified then
            [u8 ((match h.ptype with | .unmodified e => e | _ => 0) / 256 % 256),
             u8 ((match h.ptype with | .unmodified e => e | _ => 0) % 256)] else [])) := by
  unfold Macsec.toBytes Macsec.headerLen
  cases h.sci.isSome <;> cases h.isUnmodified <;> rfl

/-- the bits of a byte put together from a two bit value and five flags. -/
theorem flags_byte : ∀ a < 4, ∀ c e s k x : Bool,
    let t := a + b2n c * 4 + b2n e * 8 + b2n s * 16 + b2n k * 32 + b2n x * 64
    t / 128 % 2 = 0 ∧ t / 64 % 2 = b2n x ∧ t / 32 % 2 = b2n k ∧ t / 16 % 2 = b2n s ∧
    t / 8 % 2 = b2n e ∧ t / 4 % 2 = b2n c ∧ t % 4 = a := by decide

/-- the six bytes that all four arrangements share. -/
theorem macsec_fixed (h : Macsec) (wf : h.WF) (f : Field)
    (hf : f ∈ [⟨"v", 0, 0, 1⟩, ⟨"es", 0, 1, 1⟩, ⟨"sc", 0, 2, 1⟩, ⟨"scb", 0, 3, 1⟩, ⟨"e", 0, 4, 1⟩,
      ⟨"c", 0, 5, 1⟩, ⟨"an", 0, 6, 2⟩, ⟨"sl_reserved", 1, 0, 2⟩, ⟨"short_len", 1, 2, 6⟩,
      ⟨"pn", 2, 0, 32⟩]) : extract f h.toBytes = h.get f.name := by
  obtain ⟨-, ha, hs, hp, -⟩ := wf
  have b0 : bAt h.toBytes 0 = h.tciAn % 256 := by
    rw [Macsec.toBytes_eq, List.cons_append, bAt_cons_zero, u8_toNat]
  rw [Macsec.tciAn_arith h ha] at b0
  have b1 : bAt h.toBytes 1 = h.shortLen := by
    rw [Macsec.toBytes_eq, List.cons_append, bAt_cons_succ, List.cons_append, bAt_cons_zero, u8_toNat]
    omega
  have s1 : h.shortLen / 64 % 4 = 0 := by omega
  have s2 : h.shortLen % 64 = h.shortLen := by omega
  have t := flags_byte h.an ha h.userdataChanged h.encrypted h.scb h.sci.isSome h.es
  repeat' rcases hf with _ | ⟨_, hf⟩
  -- the version bit, the five flags and `an`: bits of byte 0
  iterate 7 simp [b0, Macsec.get, t]
  -- the two reserved bits and `short_len`: byte 1
  iterate 2 simp [b1, Macsec.get, s1, s2]
  -- the packet number: bytes 2 to 5
  rw [extract_bytes _ 2 32 4 rfl, Macsec.toBytes_eq, List.cons_append, spanVal_cons_succ,
    List.cons_append, spanVal_cons_succ]
  simp only [Macsec.get, String.reduceEq, ↓reduceIte]
  exact spanVal_be4 h.pn hp _

theorem macsec_sci (h : Macsec) (wf : h.WF) (hs : h.sci.isSome = true) :
    extract ⟨"sci", 6, 0, 64⟩ h.toBytes = h.get "sci" := by
  obtain ⟨s, e⟩ := Option.isSome_iff_exists.mp hs
  rw [extract_bytes _ 6 64 8 rfl, Macsec.toBytes_eq, hs, if_pos rfl, e, Option.getD_some,
    spanVal_append_right _ _ 6 0 8 rfl, spanVal_enc64 s (wf.2.2.2.2 s e)]
  simp only [Macsec.get, String.reduceEq, ↓reduceIte, e, Option.getD_some]

theorem macsec_ether_type (h : Macsec) (wf : h.WF) (hu : h.isUnmodified = true) :
    extract ⟨"ether_type", if h.sci.isSome then 14 else 6, 0, 16⟩ h.toBytes = h.get "ether_type" := by
  have o : (if h.sci.isSome then 14 else 6)
      = 6 + ((if h.sci.isSome then enc64 (h.sci.getD 0) else []).length + 0) := by
    cases h.sci.isSome <;> rfl
  have he : (match h.ptype with | .unmodified e => e | _ => 0) < 65536 := by
    have := wf.1
    cases hp : h.ptype <;> simp only [hp, PType.WF] at this ⊢ <;> omega
  rw [extract_bytes _ _ 16 2 rfl, Macsec.toBytes_eq, hu, if_pos rfl,
    spanVal_append_right _ _ _ _ 2 o, spanVal_append_right _ _ _ 0 2 rfl]
  simp only [spanVal, bAt_cons_zero, bAt_cons_succ, u8_toNat, Macsec.get, String.reduceEq,
    ↓reduceIte, Nat.zero_mul, Nat.zero_add, Nat.mod_mod]
  exact hi_lo16 he

end EpModel.BitFields
