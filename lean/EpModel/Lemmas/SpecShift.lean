import EpModel.Lemmas.SpecStep
/-
  Placement independence of the wire-format walk (used by C06).

  `shM k g` is the memory `g` seen from offset `k`.  Every window the walk hands out, every context
  and every fault carries absolute offsets; `shW`, `shPacket`, `shCtx`, `shFault` add `k` to exactly
  those.  `step_shift` / `walkN_shift`: the walk over the shifted memory, shifted afterwards, is the
  walk over the original memory started at the shifted context.
-/
namespace EpModel.Spec
open EpModel EpModel.Dec

def shM (k : Nat) (g : Mem) : Mem := fun i => g (k + i)

def shW (k : Nat) (w : Win) : Win := ⟨k + w.o, w.l⟩

def shLink (k : Nat) : LinkR → LinkR
  | .eth2 w => .eth2 (shW k w)
  | .sll w => .sll (shW k w)
  | .etherPayload et w => .etherPayload et (shW k w)

def shExt (k : Nat) : ExtR → ExtR
  | .vlan w => .vlan (shW k w)
  | .macsec hdr pl src inc => .macsec (shW k hdr) (shW k pl) src inc

def shSlots (k : Nat) (s : ExtSlots) : ExtSlots :=
  { hbh := s.hbh.map (shW k), dest := s.dest.map (shW k), routing := s.routing.map (shW k),
    finalDest := s.finalDest.map (shW k), frag := s.frag.map (shW k), auth := s.auth.map (shW k) }

def shPl (k : Nat) (x : IpPl) : IpPl :=
  { num := x.num, frag := x.frag, src := x.src, w := shW k x.w, inc := x.inc }

def shIp (k : Nat) (r : IpR) : IpR :=
  { v4 := r.v4, hdr := shW k r.hdr, auth := r.auth.map (shW k), exts := shW k r.exts, first := r.first,
    slots := shSlots k r.slots, pl := shPl k r.pl }

def shNet (k : Nat) : NetR → NetR
  | .arp w => .arp (shW k w)
  | .ip r => .ip (shIp k r)

def shTp (k : Nat) : TpR → TpR
  | .udp w => .udp (shW k w)
  | .tcp w hl => .tcp (shW k w) hl
  | .icmp4 w => .icmp4 (shW k w)
  | .icmp6 w => .icmp6 (shW k w)

/-- every window of a packet moved by `k`; nothing else changes -/
def shPacket (k : Nat) (p : Packet) : Packet :=
  { link := p.link.map (shLink k), exts := p.exts.map (shExt k), net := p.net.map (shNet k),
    tp := p.tp.map (shTp k), stop := p.stop }

def shCtx (k : Nat) (c : Ctx) : Ctx := { off := k + c.off, stop := k + c.stop, lim := c.lim, nExt := c.nExt }

def shFault (k : Nat) (f : Fault) : Fault :=
  { cls := f.cls, unit := f.unit, off := k + f.off, avail := f.avail, need := f.need, lim := f.lim,
    value := f.value }

def shStepR (k : Nat) (r : StepR) : StepR :=
  { p := shPacket k r.p, next := r.next, c := shCtx k r.c, fault := r.fault.map (shFault k) }

def shChain (k : Nat) (r : Chain × Option Fault) : Chain × Option Fault :=
  ({ next := r.1.next, frag := r.1.frag, off := k + r.1.off }, r.2.map (shFault k))

@[simp] theorem shM_apply (k : Nat) (g : Mem) (i : Nat) : shM k g i = g (k + i) := rfl

@[simp] theorem g16_shM (k : Nat) (g : Mem) (i : Nat) : g16 (shM k g) i = g16 g (k + i) := by
  simp [g16, shM, Nat.add_assoc]

@[simp] theorem shCtx_avail (k : Nat) (c : Ctx) : (shCtx k c).avail = c.avail := by
  simp [shCtx, Ctx.avail, Nat.add_sub_add_left]

@[simp] theorem shCtx_off (k : Nat) (c : Ctx) : (shCtx k c).off = k + c.off := rfl
@[simp] theorem shCtx_stop (k : Nat) (c : Ctx) : (shCtx k c).stop = k + c.stop := rfl
@[simp] theorem shCtx_lim (k : Nat) (c : Ctx) : (shCtx k c).lim = c.lim := rfl
@[simp] theorem shCtx_nExt (k : Nat) (c : Ctx) : (shCtx k c).nExt = c.nExt := rfl

theorem shCtx_mk (k o s : Nat) (l : LenSource) (n : Nat) : shCtx k ⟨o, s, l, n⟩ = ⟨k + o, k + s, l, n⟩ := rfl

theorem shFault_mk (k : Nat) (cls : FaultClass) (u : Unit_) (o a n : Nat) (l : LenSource) (v : Nat) :
    shFault k ⟨cls, u, o, a, n, l, v⟩ = ⟨cls, u, k + o, a, n, l, v⟩ := rfl

theorem shFault_mkFault (k : Nat) (c : Ctx) (cls : FaultClass) (u : Unit_) (need value : Nat) :
    shFault k (mkFault c cls u need value) = mkFault (shCtx k c) cls u need value := by
  simp [shFault, mkFault]

theorem shPacket_setLink (k : Nat) (p : Packet) (x : LinkR) :
    shPacket k (setLink p x) = setLink (shPacket k p) (shLink k x) := by
  simp [shPacket, setLink]

theorem shPacket_addExt (k : Nat) (p : Packet) (x : ExtR) :
    shPacket k (addExt p x) = addExt (shPacket k p) (shExt k x) := by
  simp [shPacket, addExt]

theorem shPacket_setNet (k : Nat) (p : Packet) (x : NetR) :
    shPacket k (setNet p x) = setNet (shPacket k p) (shNet k x) := by
  simp [shPacket, setNet]

theorem shPacket_setTp (k : Nat) (p : Packet) (x : TpR) :
    shPacket k (setTp p x) = setTp (shPacket k p) (shTp k x) := by
  simp [shPacket, setTp]

@[simp] theorem shPacket_empty (k : Nat) : shPacket k Packet.empty = Packet.empty := rfl

@[simp] theorem v4Fragmented_shM (k : Nat) (g : Mem) (o : Nat) :
    v4Fragmented (shM k g) o = v4Fragmented g (k + o) := by
  simp [v4Fragmented, Nat.add_assoc]

@[simp] theorem v6Fragmented_shM (k : Nat) (g : Mem) (o : Nat) :
    v6Fragmented (shM k g) o = v6Fragmented g (k + o) := by
  simp [v6Fragmented, Nat.add_assoc]

def shHead (k : Nat) : Except (Option Fault) (Nat × Bool) → Except (Option Fault) (Nat × Bool)
  | .error fo => .error (fo.map (shFault k))
  | .ok x => .ok x

theorem shHead_error (k : Nat) (f : Fault) : shHead k (.error (some f)) = .error (some (shFault k f)) := rfl

theorem chainHead_shift (k : Nat) (g : Mem) (c : Ctx) (first : Bool) (nh : Nat) :
    chainHead g (shCtx k c) first nh = shHead k (chainHead (shM k g) c first nh) := by
  simp -implicitDefEqProofs only [chainHead, extHead, apply_ite (shHead k), shHead_error, shFault_mkFault, shCtx_avail, shCtx_off,
    shM_apply, v6Fragmented_shM, Nat.add_assoc]
  rfl

theorem chain_shift (k : Nat) (g : Mem) (lim : LenSource) (first : Bool) (nh : Nat) (frag : Bool)
    (o stop : Nat) :
    chain g lim first nh frag (k + o) (k + stop) = shChain k (chain (shM k g) lim first nh frag o stop) := by
  induction first, nh, frag, o using chain_induct (shM k g) lim stop with
  | h first nh frag o ih =>
    rw [chain_eq g, chain_eq (shM k g), ← shCtx_mk, chainHead_shift]
    cases hh : chainHead (shM k g) ⟨o, stop, lim, 0⟩ first nh with
    | error fo => rfl
    | ok x =>
      have := ih x.1 x.2 hh
      rw [← Nat.add_assoc] at this
      exact this

theorem g16_sh (k : Nat) (g g' : Mem) (hg : ∀ i, g' i = g (k + i)) (i : Nat) : g16 g' i = g16 g (k + i) := by
  simp [g16, hg, Nat.add_assoc]

theorem shStepR_good (k : Nat) (p : Packet) (t : Tag) (c : Ctx) :
    shStepR k (.good p t c) = .good (shPacket k p) t (shCtx k c) := rfl

theorem shStepR_bad (k : Nat) (p : Packet) (c : Ctx) (f : Fault) :
    shStepR k (.bad p c f) = .bad (shPacket k p) (shCtx k c) (shFault k f) := rfl

theorem shStepR_ite (k : Nat) (a : Prop) [Decidable a] (x y : StepR) :
    shStepR k (if a then x else y) = if a then shStepR k x else shStepR k y := apply_ite _ _ _ _

/- Below, both sides of a shift equation are brought into the same form, the shift operators moved to the
   leaves.  `shM_apply`, `shCtx_off` hold by `rfl`; they have to act as rewrite steps (`-implicitDefEqProofs`),
   so that the `Decidable` instances of the conditions follow and the `if`s stay recognisable. -/
section
attribute [local simp] step_eth step_sll step_ether step_ipAny step_ipv4 step_ipv6 step_tp macsecStep icmp4Step
  StepR.withBound_ite StepR.withBound_ok StepR.withBound_error
attribute [local simp] shStepR_ite shStepR_good shStepR_bad shFault_mkFault shFault_mk shCtx_mk shPacket_setLink
  shPacket_addExt shPacket_setNet shPacket_setTp shLink shExt shNet shTp shW shIp shPl shSlots ExtSlots.none avail_mk Nat.add_sub_add_left Nat.add_assoc

section
variable (k : Nat) (lax : Bool) (g : Mem) (p : Packet) (c : Ctx)

theorem macsecTag_shift (sc unmod : Prop) [Decidable sc] [Decidable unmod] (sl : Nat) :
    macsecTag lax g (shPacket k p) (shCtx k c) sc unmod sl = shStepR k (macsecTag lax (shM k g) p c sc unmod sl) := by
  -- the ether type of an unmodified frame sits in the last two octets of the SecTAG
  have h2 : k + (c.off + secTagLen sc unmod) - 2 = k + (c.off + secTagLen sc unmod - 2) := by
    unfold secTagLen
    omega
  simp -implicitDefEqProofs [macsecTag, h2]

theorem ipv6Rest_shift (s : Nat) (l : LenSource) (i : Bool) :
    shStepR k (ipv6Rest (shM k g) p c s l i) = ipv6Rest g (shPacket k p) (shCtx k c) (k + s) l i := by
  simp -implicitDefEqProofs only [ipv6Rest, shCtx_off, shCtx_lim, shCtx_nExt, shM_apply, Nat.add_assoc, chain_shift]
  generalize chain (shM k g) (inherit c.lim l) true (g (k + (c.off + 6))) false (c.off + 40) s = r
  rcases r with ⟨r, _ | f⟩ <;> simp -implicitDefEqProofs [shChain]

end

theorem step_shift (k : Nat) (lax : Bool) (g : Mem) (p : Packet) (t : Tag) (c : Ctx) :
    step lax g (shPacket k p) t (shCtx k c) = shStepR k (step lax (shM k g) p t c) := by
  cases t <;>
    simp -implicitDefEqProofs [step_done, macsecTag_shift, bound, ipv4Rest, ipv6Rest_shift]

end

def shRes (k : Nat) (r : Packet × Option Fault) : Packet × Option Fault :=
  (shPacket k r.1, r.2.map (shFault k))

theorem walkN_shift (k : Nat) (lax : Bool) (g : Mem) (n : Nat) (p : Packet) (t : Tag) (c : Ctx) :
    walkN lax g n (shPacket k p) t (shCtx k c) = shRes k (walkN lax (shM k g) n p t c) := by
  induction n generalizing p t c with
  | zero =>
    simp only [walkN]
    split <;> simp [shRes, shFault_mkFault]
  | succ n ih =>
    simp only [walkN]
    split
    · simp [shRes]
    · rw [step_shift]
      cases hf : (step lax (shM k g) p t c).fault with
      | some f => simp [shStepR, hf, shRes]
      | none => simp [shStepR, hf, ih]

def setLk (lk : Option LinkR) (p : Packet) : Packet :=
  { link := lk, exts := p.exts, net := p.net, tp := p.tp, stop := p.stop }

def stepLk (lk : Option LinkR) (r : StepR) : StepR := { p := setLk lk r.p, next := r.next, c := r.c, fault := r.fault }

theorem setNet_setLk (lk : Option LinkR) (p : Packet) (x : NetR) : setNet (setLk lk p) x = setLk lk (setNet p x) := rfl
theorem setTp_setLk (lk : Option LinkR) (p : Packet) (x : TpR) : setTp (setLk lk p) x = setLk lk (setTp p x) := rfl
theorem addExt_setLk (lk : Option LinkR) (p : Packet) (x : ExtR) : addExt (setLk lk p) x = setLk lk (addExt p x) := rfl
theorem stepLk_mk (lk : Option LinkR) (p : Packet) (t : Tag) (c : Ctx) (f : Option Fault) :
    stepLk lk ⟨p, t, c, f⟩ = ⟨setLk lk p, t, c, f⟩ := rfl

theorem stepLk_ite (lk : Option LinkR) (a : Prop) [Decidable a] (x y : StepR) :
    stepLk lk (if a then x else y) = if a then stepLk lk x else stepLk lk y := apply_ite _ _ _ _

section
variable (lax : Bool) (g : Mem) (p : Packet) (c : Ctx) (lk : Option LinkR)
attribute [local simp] step_eth step_sll step_ether step_ipAny step_ipv4 step_ipv6 step_tp macsecStep icmp4Step
  StepR.withBound_ite StepR.withBound_ok StepR.withBound_error
attribute [local simp] stepLk_ite StepR.good StepR.bad stepLk_mk setNet_setLk setTp_setLk addExt_setLk

theorem ipv6Rest_link (s : Nat) (l : LenSource) (i : Bool) :
    stepLk lk (ipv6Rest g p c s l i) = ipv6Rest g (setLk lk p) c s l i := by
  simp only [ipv6Rest]
  split <;> simp

theorem step_link (t : Tag) (h1 : t ≠ .eth) (h2 : t ≠ .sll) :
    step lax g (setLk lk p) t c = stepLk lk (step lax g p t c) := by
  cases t <;>
    simp [step_done, h1, h2, macsecTag, bound, ipv4Rest, ipv6Rest_link] at h1 h2 ⊢

end

/-- an upper bound on the number of steps that can still follow (`e`: link extensions so far) -/
def rank : Tag → Nat → Nat
  | .done, _ => 0
  | .tp _, _ => 1
  | .ipv4, _ => 2
  | .ipv6, _ => 2
  | .ipAny, _ => 3
  | .ether _, e => 7 - e
  | .eth, _ => 8
  | .sll, _ => 8

def Desc (t : Tag) (c : Ctx) (r : StepR) : Prop :=
  r.c.nExt ≤ 3 ∧ (r.fault = none → rank r.next r.c.nExt < rank t c.nExt)

theorem desc_mk (t : Tag) (c : Ctx) (p : Packet) (t' : Tag) (c' : Ctx) (f : Option Fault) :
    Desc t c ⟨p, t', c', f⟩ = (c'.nExt ≤ 3 ∧ (f = none → rank t' c'.nExt < rank t c.nExt)) := rfl

theorem desc_ite_next (t : Tag) (c : Ctx) (p : Packet) (a : Prop) [Decidable a] (x y : Tag) (c' : Ctx)
    (f : Option Fault) :
    Desc t c ⟨p, if a then x else y, c', f⟩ ↔ (a → Desc t c ⟨p, x, c', f⟩) ∧ (¬ a → Desc t c ⟨p, y, c', f⟩) :=
  apply_ite_iff (fun t' => Desc t c ⟨p, t', c', f⟩) a x y

section
variable (lax : Bool) (g : Mem) (p : Packet) (c : Ctx) (h3 : c.nExt ≤ 3)
include h3
attribute [local simp] step_eth step_sll step_ether step_ipAny step_ipv4 step_ipv6 step_tp macsecStep icmp4Step
  StepR.withBound_ite StepR.withBound_ok StepR.withBound_error
attribute [local simp] StepR.good StepR.bad desc_mk rank
attribute [local simp high] desc_ite_next

theorem ipv6Rest_desc (s : Nat) (l : LenSource) (i : Bool) : Desc .ipv6 c (ipv6Rest g p c s l i) := by
  simp only [ipv6Rest]
  split <;> simp [h3]

theorem step_desc (t : Tag) (ht : t ≠ .done) : Desc t c (step lax g p t c) := by
  cases t <;>
    simp [h3, macsecTag, bound, ipv4Rest, ipv6Rest_desc, apply_ite_iff (Desc _ c)] at ht ⊢ <;>
    omega

end

theorem rank_zero {t : Tag} {e : Nat} (he : e ≤ 3) (h : rank t e = 0) : t = .done := by
  cases t <;> simp [rank] at h ⊢
  omega

theorem rank_le (t : Tag) (e : Nat) : rank t e ≤ 8 := by
  cases t <;> simp [rank] <;> omega

/-- the walk needs no more fuel than its rank: any two sufficient amounts give the same result -/
theorem walkN_fuel (lax : Bool) (g : Mem) (n m : Nat) (p : Packet) (t : Tag) (c : Ctx) (h3 : c.nExt ≤ 3)
    (hn : rank t c.nExt ≤ n) (hm : rank t c.nExt ≤ m) : walkN lax g n p t c = walkN lax g m p t c := by
  induction n generalizing m p t c with
  | zero =>
    have := rank_zero h3 (by omega : rank t c.nExt = 0)
    subst this
    simp [walkN_done]
  | succ n ih =>
    by_cases ht : t = .done
    · subst ht; simp [walkN_done]
    · cases m with
      | zero => exact absurd (rank_zero h3 (by omega : rank t c.nExt = 0)) ht
      | succ m =>
        simp only [walkN, ht, if_false]
        have hd := step_desc lax g p c h3 t ht
        cases hf : (step lax g p t c).fault with
        | some f => rfl
        | none =>
          simp only
          have := hd.2 hf
          exact ih m _ _ _ hd.1 (by omega) (by omega)

theorem walkN_link (lax : Bool) (g : Mem) (n : Nat) (p : Packet) (t : Tag) (c : Ctx) (lk : Option LinkR)
    (h1 : t ≠ .eth) (h2 : t ≠ .sll) (h3 : c.nExt ≤ 3) :
    walkN lax g n (setLk lk p) t c = (setLk lk (walkN lax g n p t c).1, (walkN lax g n p t c).2) := by
  induction n generalizing p t c with
  | zero => simp only [walkN]; split <;> rfl
  | succ n ih =>
    simp only [walkN]
    split
    · rfl
    · rename_i ht
      rw [step_link lax g p c lk t h1 h2]
      have hd := step_desc lax g p c h3 t ht
      cases hf : (step lax g p t c).fault with
      | some f => simp [stepLk, hf]
      | none =>
        simp only [stepLk, hf]
        have hlt := hd.2 hf
        have h8 := rank_le t c.nExt
        refine ih _ _ _ ?_ ?_ hd.1 <;> (intro h; rw [h, rank] at hlt; omega)

/-- what the Ethernet II start makes of the result of the ether-type start on the bytes behind the
    header: every offset moved by 14, the link is the Ethernet II frame -/
def ethOfEtherType (n : Nat) (r : Packet × Option Fault) : Packet × Option Fault :=
  (setLk (some (.eth2 ⟨0, n⟩)) (shPacket 14 r.1), r.2.map (shFault 14))

theorem walk_eth_eq_ether_shift (lax : Bool) (g : Mem) (n : Nat) (h : 14 ≤ n) :
    walkN lax g maxSteps Packet.empty .eth { off := 0, stop := n, lim := .slice, nExt := 0 } =
      ethOfEtherType n
        (walkN lax (shM 14 g) maxSteps (startPacket (n - 14) (.etherType (g16 g 12))) (.ether (g16 g 12))
          { off := 0, stop := n - 14, lim := .slice, nExt := 0 }) := by
  have hs : step lax g Packet.empty .eth { off := 0, stop := n, lim := .slice, nExt := 0 } =
      .good (setLk (some (.eth2 ⟨0, n⟩)) (shPacket 14 (startPacket (n - 14) (.etherType (g16 g 12)))))
        (.ether (g16 g 12)) (shCtx 14 { off := 0, stop := n - 14, lim := .slice, nExt := 0 }) := by
    rw [step_eth, avail_mk, Nat.sub_zero, if_neg (Nat.not_lt.2 h), shCtx_mk, Nat.add_sub_cancel' h]
    rfl
  rw [show maxSteps = 11 + 1 from rfl, walkN, if_neg (by decide), hs]
  simp only [StepR.good]
  rw [walkN_link _ _ _ _ _ _ _ (by simp) (by simp) (by simp [shCtx]), walkN_shift,
    walkN_fuel lax (shM 14 g) 11 (11 + 1) _ _ _ (by simp) (by simp [rank]) (by simp [rank])]
  rfl

theorem decodeLax_eth_eq_ether_type (g : Mem) (n : Nat) (h : 14 ≤ n) :
    decodeLax .eth g n = ethOfEtherType n (decodeLax (.etherType (g16 g 12)) (shM 14 g) (n - 14)) :=
  walk_eth_eq_ether_shift true g n h

/-- **strict wire-format decoding, Ethernet II start = ether-type start on the bytes behind the header**:
    the same verdict; the packet with every offset moved by 14 and the Ethernet II frame as link; the
    fault with its offset moved by 14 -/
theorem decode_eth_eq_ether_type (g : Mem) (n : Nat) (h : 14 ≤ n) :
    decode .eth g n =
      match decode (.etherType (g16 g 12)) (shM 14 g) (n - 14) with
      | .ok p => .ok (setLk (some (.eth2 ⟨0, n⟩)) (shPacket 14 p))
      | .error f => .error (shFault 14 f) := by
  unfold decode
  rw [show startTag false .eth = .eth from rfl, show startPacket n .eth = Packet.empty from rfl,
    walk_eth_eq_ether_shift false g n h]
  rw [show startTag false (.etherType (g16 g 12)) = .ether (g16 g 12) from rfl]
  generalize walkN false (shM 14 g) maxSteps (startPacket (n - 14) (.etherType (g16 g 12))) (.ether (g16 g 12))
    { off := 0, stop := n - 14, lim := .slice, nExt := 0 } = r
  obtain ⟨p, fo⟩ := r
  cases fo <;> rfl

theorem walk_eth_short (lax : Bool) (g : Mem) (n : Nat) (h : n < 14) :
    walkN lax g maxSteps Packet.empty .eth { off := 0, stop := n, lim := .slice, nExt := 0 } =
      (Packet.empty, some (mkFault { off := 0, stop := n, lim := .slice, nExt := 0 } .cutShort .eth 14)) := by
  rw [show maxSteps = 11 + 1 from rfl, walkN, if_neg (by decide), step_eth, avail_mk, Nat.sub_zero, if_pos h]
  rfl

theorem decode_eth_short (g : Mem) (n : Nat) (h : n < 14) :
    decode .eth g n = .error (mkFault { off := 0, stop := n, lim := .slice, nExt := 0 } .cutShort .eth 14) := by
  unfold decode
  rw [show startTag false .eth = .eth from rfl, show startPacket n .eth = Packet.empty from rfl,
    walk_eth_short false g n h]
  rfl

end EpModel.Spec
