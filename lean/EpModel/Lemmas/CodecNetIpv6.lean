import EpModel.Lemmas.CodecNetBits
import EpModel.Model.Codec.NetIpv6
/-
  `Ipv6Header` / `Ipv6HeaderSlice`: the bytes `to_bytes` writes as plain arithmetic (version, traffic
  class and flow label share bytes 0–3), what an accepting `from_slice` says, and the two round trips.
-/
namespace EpModel.Lemmas.CodecNet.Ipv6
open EpModel EpModel.CodecNet EpModel.Lemmas.CodecNet EpModel.Lemmas.Codec

/-- the serialised header as plain arithmetic (for in-range values): byte 0 is the version and the
    upper half of the traffic class, byte 1 its lower half and the top four bits of the flow label. -/
theorem toBytes_eq (h : Ipv6Header) (wf : h.WF) :
    h.toBytes =
      [ u8 (6 * 16 + h.trafficClass / 16), u8 (h.trafficClass % 16 * 16 + h.flowLabel / 65536),
        u8 (h.flowLabel / 256), u8 h.flowLabel, u8 (h.payloadLength / 256), u8 h.payloadLength,
        u8 h.nextHeader, u8 h.hopLimit ] ++ h.source ++ h.destination := by
  obtain ⟨h1, h2, _⟩ := wf
  have hf : h.flowLabel / 65536 < 16 := by omega
  have e0 : (6 <<< 4) ||| (h.trafficClass >>> 4) = 6 * 16 + h.trafficClass / 16 := by
    rw [Nat.shiftRight_eq_div_pow]; exact or_eq_add 4 rfl (by omega)
  have e1 : shl8 h.trafficClass 4 ||| (h.flowLabel / 65536 % 256) =
      h.trafficClass % 16 * 16 + h.flowLabel / 65536 := by
    rw [shl8_four, Nat.mod_eq_of_lt (show h.flowLabel / 65536 < 256 by omega)]
    exact or_eq_add 4 (Nat.mul_mod_left ..) hf
  unfold Ipv6Header.toBytes
  rw [e0, e1]

theorem toBytes_length (h : Ipv6Header) (wf : h.WF) : h.toBytes.length = 40 := by
  obtain ⟨_, _, _, _, _, h6, h7⟩ := wf
  simp [Ipv6Header.toBytes, h6, h7]

theorem toHeader_cons (x0 x1 x2 x3 x4 x5 x6 x7 : UInt8) (r : Bytes) :
    Ipv6HeaderSlice.toHeader { slice := x0 :: x1 :: x2 :: x3 :: x4 :: x5 :: x6 :: x7 :: r } =
      { trafficClass := x0.toNat % 16 * 16 + x1.toNat / 16,
        flowLabel := x1.toNat % 16 * 65536 + x2.toNat * 256 + x3.toNat,
        payloadLength := x4.toNat * 256 + x5.toNat, nextHeader := x6.toNat, hopLimit := x7.toNat,
        source := r.take 16, destination := (r.drop 16).take 16 } := by
  have e : shl8 x0.toNat 4 ||| x1.toNat >>> 4 = x0.toNat % 16 * 16 + x1.toNat / 16 := by
    have := x1.toNat_lt
    rw [shl8_four, Nat.shiftRight_eq_div_pow]
    exact or_eq_add 4 (Nat.mul_mod_left ..) (by omega)
  simp only [Ipv6HeaderSlice.toHeader, Ipv6HeaderSlice.trafficClass, Ipv6HeaderSlice.flowLabel,
    Ipv6HeaderSlice.payloadLength, Ipv6HeaderSlice.nextHeader, Ipv6HeaderSlice.hopLimit,
    Ipv6HeaderSlice.source, Ipv6HeaderSlice.destination, be16, bAt_cons_zero, bAt_cons_succ,
    sub_cons_succ, and15, e]
  rfl

theorem slice_of_toBytes (h : Ipv6Header) (tail : Bytes) (wf : h.WF) :
    Ipv6HeaderSlice.fromSlice (h.toBytes ++ tail) = .ok { slice := h.toBytes } := by
  have hl := toBytes_length h wf
  have hv : bAt (h.toBytes ++ tail) 0 >>> 4 = 6 := by
    rw [toBytes_eq h wf]
    simp only [List.cons_append, bAt_cons_zero, u8_toNat]
    have htc : h.trafficClass / 16 < 16 := by have := wf.1; omega
    rw [Nat.mod_eq_of_lt (pack_lt (k := 16) (by decide) htc), Nat.shiftRight_eq_div_pow]
    exact pack_div htc
  unfold Ipv6HeaderSlice.fromSlice
  rw [if_neg (by rw [List.length_append, hl]; omega)]
  simp only [hv]
  rw [if_neg (fun h => h rfl), List.take_left' hl]

theorem toHeader_toBytes (h : Ipv6Header) (wf : h.WF) :
    Ipv6HeaderSlice.toHeader { slice := h.toBytes } = h := by
  rw [toBytes_eq h wf]
  obtain ⟨tc, fl, pl, nh, hop, src, dst⟩ := h
  obtain ⟨h1, h2, h3, h4, h5, h6, h7⟩ := wf
  simp only at h1 h2 h3 h4 h5 h6 h7
  have htc : tc / 16 < 16 := by omega
  have hfl : fl / 65536 < 16 := by omega
  have b0 : (u8 (6 * 16 + tc / 16)).toNat = 6 * 16 + tc / 16 :=
    (u8_toNat _).trans (Nat.mod_eq_of_lt (pack_lt (k := 16) (by decide) htc))
  have b1 : (u8 (tc % 16 * 16 + fl / 65536)).toNat = tc % 16 * 16 + fl / 65536 :=
    (u8_toNat _).trans (Nat.mod_eq_of_lt (pack_lt (k := 16) (Nat.mod_lt _ (by decide)) hfl))
  simp only [List.cons_append, List.nil_append, toHeader_cons, b0, b1, u8_toNat, pack_mod htc,
    pack_div hfl, pack_mod hfl, Nat.div_add_mod', digits3, hi_lo16 h3, Nat.mod_eq_of_lt h4,
    Nat.mod_eq_of_lt h5, List.take_left' h6, List.drop_left' h6, List.take_of_length_le (Nat.le_of_eq h7)]

theorem toHeader_wf (s : Ipv6HeaderSlice) (hs : s.slice.length = 40) : s.toHeader.WF := by
  have a0 := bAt_lt s.slice 0; have a1 := bAt_lt s.slice 1; have a2 := bAt_lt s.slice 2
  have a3 := bAt_lt s.slice 3
  refine ⟨?_, ?_, be16_lt _ _, bAt_lt _ _, bAt_lt _ _, ?_, ?_⟩
  · show shl8 (bAt s.slice 0) 4 ||| bAt s.slice 1 >>> 4 < 2 ^ 8
    apply Nat.or_lt_two_pow
    · unfold shl8; omega
    · rw [Nat.shiftRight_eq_div_pow]; omega
  · show (bAt s.slice 1 &&& 0xf) * 65536 + bAt s.slice 2 * 256 + bAt s.slice 3 < 1048576
    rw [and15]; omega
  · exact sub_length _ _ _ (by omega)
  · exact sub_length _ _ _ (by omega)

theorem toBytes_toHeader (s : Ipv6HeaderSlice) (hs : s.slice.length = 40) (hv : bAt s.slice 0 / 16 = 6) :
    s.toHeader.toBytes = s.slice := by
  have wf := toHeader_wf s hs
  obtain ⟨sl⟩ := s
  match sl, hs, hv, wf with
  | b0 :: b1 :: b2 :: b3 :: b4 :: b5 :: b6 :: b7 :: r, hs, hv, wf =>
    rw [toBytes_eq _ wf, toHeader_cons]
    simp only [bAt_cons_zero] at hv
    have l2 : b2.toNat < 256 := b2.toNat_lt
    have l3 : b3.toNat < 256 := b3.toNat_lt
    have l16 : b1.toNat / 16 < 16 := by have := b1.toNat_lt; omega
    have e0 : 6 * 16 + (b0.toNat % 16 * 16 + b1.toNat / 16) / 16 = b0.toNat := by
      rw [pack_div l16, ← hv, Nat.div_add_mod']
    have e1 : (b0.toNat % 16 * 16 + b1.toNat / 16) % 16 * 16 +
        (b1.toNat % 16 * 65536 + b2.toNat * 256 + b3.toNat) / 65536 = b1.toNat := by
      rw [pack_mod l16, digits3_hi l2 l3, Nat.div_add_mod']
    have e2 : u8 ((b1.toNat % 16 * 65536 + b2.toNat * 256 + b3.toNat) / 256) = b2 :=
      u8_eq_of (digits3_mid l2 l3)
    have e3 : u8 (b1.toNat % 16 * 65536 + b2.toNat * 256 + b3.toNat) = b3 :=
      u8_eq_of (digits3_lo l3)
    simp only [e0, e1, e2, e3, u8_hi_lo, u8_toNat_self, List.cons_append, List.nil_append]
    simp only [List.length_cons] at hs
    rw [← List.take_add, List.take_of_length_le (by omega)]

theorem fromSlice_ok (b : Bytes) (h : Ipv6Header) (rest : Bytes)
    (hd : Ipv6Header.fromSlice b = .ok (h, rest)) :
    40 ≤ b.length ∧ bAt b 0 / 16 = 6 ∧ h = Ipv6HeaderSlice.toHeader { slice := b.take 40 } ∧
      rest = b.drop 40 := by
  unfold Ipv6Header.fromSlice Ipv6HeaderSlice.fromSlice at hd
  by_cases hlen : b.length < 40
  · simp [hlen] at hd
  · by_cases hver : 6 = bAt b 0 >>> 4
    · simp [hlen, ← hver] at hd
      rw [Nat.shiftRight_eq_div_pow] at hver
      exact ⟨by omega, by omega, hd.1.symm, hd.2.symm⟩
    · simp [hlen, hver] at hd

end EpModel.Lemmas.CodecNet.Ipv6
