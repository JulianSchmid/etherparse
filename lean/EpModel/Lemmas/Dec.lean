import EpModel.Model.Dec.Headers
import EpModel.Lemmas.ExtsLoop
/-
  Helper lemmas about the decode model (EpModel/Model/Dec): decoders that are chains of checks or
  dispatches, what `.ok` means for each single-layer decoder and for the dispatching IP header check,
  the extension walks, and the unchecked re-walk iterator.  At the end, in the namespace of their users
  (`EpModel.Lemmas.Refine`): the version-dispatching `IpSlice::from_slice` in terms of the version-specific decoders.
-/
namespace EpModel.Lemmas.Dec
open EpModel EpModel.Dec EpModel.Lemmas.ExtsLoop

-- implicit in a lemma one of whose hypotheses mentions them; lemmas that other files call bind them explicitly
variable {g : Mem} {o l : Nat}

theorem guard_ok {ε α : Type} {c : Prop} [Decidable c] {e : ε} {x : Except ε α} {w : α} :
    (if c then .error e else x) = .ok w ↔ ¬ c ∧ x = .ok w := by
  split <;> simp [*]

theorem guard_error {ε α : Type} {c : Prop} [Decidable c] {e e' : ε} {x : Except ε α} :
    (if c then .error e else x) = .error e' ↔ (c ∧ e = e') ∨ (¬ c ∧ x = .error e') := by
  split <;> simp [*]

theorem guard_some {α : Type} {c : Prop} [Decidable c] {x : Option α} {y : α} :
    (if c then none else x) = some y ↔ ¬ c ∧ x = some y := by
  split <;> simp [*]

theorem guard_some_ok {ε α : Type} {c : Prop} [Decidable c] {e : ε} {x : Option (Except ε α)} {y : α} :
    (if c then some (.error e) else x) = some (.ok y) ↔ ¬ c ∧ x = some (.ok y) := by
  split <;> simp [*]

theorem ite4 {α : Sort _} {P : α → Prop} {p q r s : Prop} [Decidable p] [Decidable q] [Decidable r] [Decidable s]
    {a b c d e : α} (ha : P a) (hb : P b) (hc : P c) (hd : P d) (he : P e) :
    P (if p then a else if q then b else if r then c else if s then d else e) :=
  iteInduction (fun _ => ha) fun _ => iteInduction (fun _ => hb) fun _ =>
    iteInduction (fun _ => hc) fun _ => iteInduction (fun _ => hd) fun _ => he

theorem ite4₂ {α β : Type} {P : α → β → Prop} {p q r s : Prop} [Decidable p] [Decidable q] [Decidable r]
    [Decidable s] {a b c d e : α} {a' b' c' d' e' : β} (ha : P a a') (hb : P b b') (hc : P c c') (hd : P d d')
    (he : P e e') :
    P (if p then a else if q then b else if r then c else if s then d else e)
      (if p then a' else if q then b' else if r then c' else if s then d' else e') :=
  ite_rel (fun _ => ha) fun _ => ite_rel (fun _ => hb) fun _ => ite_rel (fun _ => hc) fun _ =>
    ite_rel (fun _ => hd) fun _ => he

theorem tcp_ok (g : Mem) (o l hl : Nat) (h : tcpFromSlice g o l = .ok hl) : 20 ≤ hl ∧ hl ≤ l := by
  simp only [tcpFromSlice, guard_ok, Except.ok.injEq] at h
  omega

theorem icmp4_ok (g : Mem) (o l : Nat) (w : Win) (h : icmp4FromSlice g o l = .ok w) : w = ⟨o, l⟩ ∧ 8 ≤ l := by
  simp only [icmp4FromSlice, guard_ok, Except.ok.injEq] at h
  exact ⟨h.2.2.2.symm, Nat.le_of_not_lt h.1⟩

theorem icmp6_ok (o l : Nat) (w : Win) (h : icmp6FromSlice o l = .ok w) : w = ⟨o, l⟩ ∧ 8 ≤ l := by
  simp only [icmp6FromSlice, guard_ok, Except.ok.injEq] at h
  exact ⟨h.2.2.symm, Nat.le_of_not_lt h.1⟩

theorem vlan_ok (o l : Nat) (w : Win) (h : vlanFromSlice o l = .ok w) : w = ⟨o, l⟩ ∧ 4 ≤ l := by
  simp only [vlanFromSlice, guard_ok, Except.ok.injEq] at h
  exact ⟨h.2.symm, Nat.le_of_not_lt h.1⟩

theorem vlan_err {o l : Nat} {e : LenError} (h : vlanFromSlice o l = .error e) :
    l < 4 ∧ e = { req := 4, len := l, src := .slice, layer := .vlanHeader, off := 0 } := by
  unfold vlanFromSlice at h
  split at h
  · cases h; exact ⟨by assumption, rfl⟩
  · contradiction

theorem eth2_ok (w : Win) (h : eth2FromSlice o l = .ok w) : w = ⟨o, l⟩ ∧ 14 ≤ l := by
  simp only [eth2FromSlice, guard_ok, Except.ok.injEq] at h
  exact ⟨h.2.symm, Nat.le_of_not_lt h.1⟩

theorem sll_ok (w : Win) (h : sllFromSlice g o l = .ok w) : w = ⟨o, l⟩ ∧ 16 ≤ l := by
  simp only [sllFromSlice, guard_ok] at h
  obtain ⟨h16, _, h⟩ := h
  split at h
  · contradiction
  · cases h; exact ⟨rfl, Nat.le_of_not_lt h16⟩

theorem macsecHeaderLen_bounds (t : Nat) : 6 ≤ macsecHeaderLen t ∧ macsecHeaderLen t ≤ 16 := by
  unfold macsecHeaderLen; constructor <;> (repeat' split) <;> omega

theorem macsecHeader_ok (hl : Nat) (h : macsecHeaderFromSlice g o l = .ok hl) :
    hl = macsecHeaderLen (g o) ∧ hl ≤ l := by
  simp only [macsecHeaderFromSlice, guard_ok, Except.ok.injEq] at h
  obtain ⟨_, _, _, hle, rfl⟩ := h
  exact ⟨rfl, Nat.le_of_not_lt hle⟩

theorem ah_ok (g : Mem) (o l al : Nat) (h : ahFromSlice g o l = .ok al) :
    12 ≤ al ∧ al ≤ l ∧ al = (g (o + 1) + 2) * 4 := by
  simp only [ahFromSlice, guard_ok, Except.ok.injEq] at h
  omega

theorem ipv4Header_ok_iff (g : Mem) (o l hl : Nat) : ipv4HeaderFromSlice g o l = .ok hl ↔
    g o / 16 = 4 ∧ 20 ≤ hl ∧ hl ≤ l ∧ hl = (g o % 16) * 4 := by
  simp only [ipv4HeaderFromSlice, guard_ok, Except.ok.injEq]
  generalize g o % 16 = i
  omega

theorem ipv4Header_ok (g : Mem) (o l hl : Nat) (h : ipv4HeaderFromSlice g o l = .ok hl) :
    20 ≤ hl ∧ hl ≤ l ∧ hl = (g o % 16) * 4 :=
  ((ipv4Header_ok_iff g o l hl).1 h).2

theorem ipv6Header_ok_iff (g : Mem) (o l : Nat) : ipv6HeaderFromSlice g o l = .ok () ↔
    g o / 16 = 6 ∧ 40 ≤ l := by
  simp only [ipv6HeaderFromSlice, guard_ok, and_true]
  omega

theorem ipDispatch_inl_iff (g : Mem) (m : Bool) (o l hl : Nat) :
    ipDispatchHeader g m o l = .ok (.inl hl) ↔ ipv4HeaderFromSlice g o l = .ok hl := by
  rw [ipv4Header_ok_iff]
  unfold ipDispatchHeader
  by_cases h4 : g o / 16 = 4
  · simp only [h4, if_true, guard_ok, Except.ok.injEq, Sum.inl.injEq, true_and]
    generalize g o % 16 = i
    cases m <;> simp only [Bool.false_eq_true, false_and, true_and, not_false_eq_true] <;> omega
  · by_cases h6 : g o / 16 = 6 <;> simp [h4, h6, guard_ok]

theorem ipDispatch_inr_iff (g : Mem) (m : Bool) (o l : Nat) :
    ipDispatchHeader g m o l = .ok (.inr ()) ↔ ipv6HeaderFromSlice g o l = .ok () := by
  rw [ipv6Header_ok_iff]
  unfold ipDispatchHeader
  by_cases h4 : g o / 16 = 4
  · simp [h4, guard_ok]
  · by_cases h6 : g o / 16 = 6 <;> simp [h4, h6, guard_ok]
    omega

theorem rawExt_ok_iff (g : Mem) (o l hl : Nat) :
    rawExtFromSlice g o l = .ok hl ↔ hl = (g (o + 1) + 1) * 8 ∧ hl ≤ l := by
  simp only [rawExtFromSlice, guard_ok, Except.ok.injEq]
  omega

theorem rawExt_ok (hl : Nat) (h : rawExtFromSlice g o l = .ok hl) :
    8 ≤ hl ∧ hl ≤ l ∧ hl = (g (o + 1) + 1) * 8 := by
  rw [rawExt_ok_iff] at h
  omega

theorem extsWalkStrict_ok (g : Mem) (sm : Bool) (nh o l : Nat) (r : ExtsOut) (h : extsWalkStrict g sm nh o l = .ok r) :
    r = extsWalk g sm nh o l ∧ (extsWalk g sm nh o l).stop = none := by
  unfold extsWalkStrict at h
  simp only at h
  split at h
  · contradiction
  · rename_i hs
    cases h
    exact ⟨rfl, hs⟩

theorem extsLoop_suffix (g : Mem) (sm : Bool) (l0 nh : Nat) (frag : Bool) (slots : ExtSlots) (o l : Nat) :
    (extsLoop g sm l0 nh frag slots o l).rest.o + (extsLoop g sm l0 nh frag slots o l).rest.l = o + l ∧
      (extsLoop g sm l0 nh frag slots o l).rest.l ≤ l := by
  fun_induction extsLoop g sm l0 nh frag slots o l
  -- case5 / case8 / case13: the loop goes on behind a raw (60 / 43), fragment, authentication header;
  -- in all other cases it stops with rest `(o, l)` and the slots it was given
  case case5 ih => omega
  case case8 ih => omega
  case case13 ih => omega
  all_goals exact ⟨rfl, Nat.le_refl _⟩

theorem extsLoop_consumed {sm : Bool} {l0 nh : Nat} {frag : Bool} {slots : ExtSlots} {o l c k : Nat}
    (hc : c + (extsLoop g sm l0 nh frag slots o l).rest.l = k) : k ≤ c + l := by
  have := (extsLoop_suffix g sm l0 nh frag slots o l).2
  omega

theorem extIterAll_zero (g : Mem) (nh o : Nat) : extIterAll g nh o 0 = .ok [] := by
  rw [extIterAll]; split <;> simp_all [extIterNext]

theorem extIterAll_nil (g : Mem) (nh o : Nat) {c l : Nat} (h : c + l = l) : ∃ xs, extIterAll g nh o c = .ok xs :=
  ⟨[], by rw [show c = 0 by omega]; exact extIterAll_zero g nh o⟩

/-- `hl ≤ l` is the length check of the chain walkers -/
theorem extIterNext_raw (nh o l : Nat) (hnh : nh = 0 ∨ nh = 43 ∨ nh = 60)
    (hl : (g (o + 1) + 1) * 8 ≤ l) :
    extIterNext g nh o l = some (.ok (if nh = 0 then .hopByHop else if nh = 43 then .routing else .destOpts,
      ⟨o, (g (o + 1) + 1) * 8⟩, g o, o + (g (o + 1) + 1) * 8, l - (g (o + 1) + 1) * 8)) := by
  unfold extIterNext
  rw [if_neg (by omega), if_pos hnh]
  simp only
  rw [if_neg (by omega), if_neg (by omega)]

theorem extIterNext_frag (g : Mem) (o l : Nat) (hl : 8 ≤ l) :
    extIterNext g 44 o l = some (.ok (.fragment, ⟨o, 8⟩, g o, o + 8, l - 8)) := by
  unfold extIterNext
  rw [if_neg (by omega), if_neg (by omega), if_pos rfl, if_neg (by omega)]

theorem extIterNext_auth (h1 : 1 ≤ g (o + 1)) (hl : (g (o + 1) + 2) * 4 ≤ l) :
    extIterNext g 51 o l =
      some (.ok (.auth, ⟨o, (g (o + 1) + 2) * 4⟩, g o, o + (g (o + 1) + 2) * 4, l - (g (o + 1) + 2) * 4)) := by
  unfold extIterNext
  rw [if_neg (by omega), if_neg (by omega), if_neg (by omega), if_pos rfl]
  simp only
  rw [if_neg (by omega), if_neg (by omega)]

theorem extIterAll_cons (nh o L : Nat) (k : ExtKind) (w : Win) (nh' o' L' : Nat)
    (h1 : extIterNext g nh o L = some (.ok (k, w, nh', o', L'))) (hlt : L' < L)
    (h2 : ∃ xs, extIterAll g nh' o' L' = .ok xs) : ∃ xs, extIterAll g nh o L = .ok xs := by
  obtain ⟨xs, h2⟩ := h2
  rw [extIterAll]
  split
  · simp_all
  · simp_all
  · rename_i k2 w2 nh2 o2 l2 heq
    rw [h1] at heq
    cases heq
    simp [hlt, h2]

/-- the re-walk over the `c` bytes a slice-mode loop consumed -/
theorem extIter_safe_loop (l0 nh : Nat) (frag : Bool) (slots : ExtSlots) (o l c : Nat)
    (hc : c + (extsLoop g false l0 nh frag slots o l).rest.l = l) : ∃ xs, extIterAll g nh o c = .ok xs := by
  fun_induction extsLoop g false l0 nh frag slots o l generalizing c
  -- cases as in `extsLoop_suffix`
  case case5 nh frag slots o l hnh hor _ h8 hl ih =>
    have hs := extsLoop_consumed hc
    exact extIterAll_cons nh o c _ _ _ _ _ (extIterNext_raw nh o c (by omega) (by omega)) (by omega)
      (ih _ (by omega))
  case case8 frag slots o l _ h8 _ _ ih =>
    have hs := extsLoop_consumed hc
    exact extIterAll_cons 44 o c _ _ _ _ _ (extIterNext_frag g o c (by omega)) (by omega) (ih _ (by omega))
  case case13 frag slots o l _ h12 hz hl _ _ _ ih =>
    have hs := extsLoop_consumed hc
    exact extIterAll_cons 51 o c _ _ _ _ _ (extIterNext_auth (by omega) (by omega)) (by omega)
      (ih _ (by omega))
  all_goals exact extIterAll_nil g _ _ hc

def hbhSlots (w : Win) : ExtSlots :=
  { hbh := some w, dest := none, routing := none, finalDest := none, frag := none, auth := none }

theorem extsWalk_of_ne (g : Mem) (sm : Bool) {nh : Nat} (o l : Nat) (h : nh ≠ 0) :
    extsWalk g sm nh o l = extsLoop g sm l nh false ExtSlots.none o l := by
  rw [extsWalk, if_neg h]

theorem extsWalk_hbh (sm : Bool) {o l hl : Nat} (h : rawExtFromSlice g o l = .ok hl) :
    extsWalk g sm 0 o l = extsLoop g sm l (g o) false (hbhSlots ⟨o, hl⟩) (o + hl) (l - hl) := by
  rw [extsWalk, if_pos rfl, h]
  rfl

theorem extsWalk_err (sm : Bool) {o l : Nat} {e : LenError} (h : rawExtFromSlice g o l = .error e) :
    extsWalk g sm 0 o l = ⟨0, false, ⟨o, l⟩, ExtSlots.none, some (.len e, .ipv6HopByHopHeader)⟩ := by
  rw [extsWalk, if_pos rfl, h]

theorem extsWalk_suffix (g : Mem) (sm : Bool) (nh o l : Nat) :
    (extsWalk g sm nh o l).rest.o + (extsWalk g sm nh o l).rest.l = o + l ∧
      (extsWalk g sm nh o l).rest.l ≤ l := by
  by_cases hnh : nh = 0
  · subst hnh
    cases hok : rawExtFromSlice g o l with
    | error e => rw [extsWalk_err sm hok]; exact ⟨rfl, Nat.le_refl _⟩
    | ok hl =>
      rw [extsWalk_hbh sm hok]
      have hb := rawExt_ok hl hok
      have := extsLoop_suffix g sm l (g o) false (hbhSlots ⟨o, hl⟩) (o + hl) (l - hl)
      omega
  · rw [extsWalk_of_ne g sm o l hnh]
    exact extsLoop_suffix g sm l nh false ExtSlots.none o l

/-- **the unchecked re-walk never leaves the slice**: for the extension slice produced by a (strict
    or lax) slice-mode walk, iterating with `Ipv6ExtensionSliceIter` (first header, or UDP when the
    slice is empty) reaches no out-of-range access, whatever the memory holds. -/
theorem extIter_safe_walk (g : Mem) (nh o l : Nat) :
    ∃ xs, extIterAll g ((extsFirst nh l (extsWalk g false nh o l)).getD 17) o
      (l - (extsWalk g false nh o l).rest.l) = .ok xs := by
  by_cases hrest : (extsWalk g false nh o l).rest.l = l
  · exact extIterAll_nil g _ o (l := l) (by omega)
  · rw [extsFirst, if_pos hrest]
    simp only [Option.getD_some]
    by_cases hnh : nh = 0
    · subst hnh
      cases hok : rawExtFromSlice g o l with
      | error e => rw [extsWalk_err false hok] at hrest; exact absurd rfl hrest
      | ok hl =>
        clear hrest
        rw [extsWalk_hbh false hok]
        have hb := rawExt_ok hl hok
        have hs := (extsLoop_suffix g false l (g o) false (hbhSlots ⟨o, hl⟩) (o + hl) (l - hl)).2
        refine extIterAll_cons 0 o _ _ _ _ _ _ (extIterNext_raw 0 o _ (.inl rfl) (by omega)) (by omega) ?_
        rw [← hb.2.2]
        exact extIter_safe_loop l (g o) false (hbhSlots ⟨o, hl⟩) (o + hl) (l - hl) _ (by omega)
    · rw [extsWalk_of_ne g false o l hnh]
      have hs := (extsLoop_suffix g false l nh false ExtSlots.none o l).2
      exact extIter_safe_loop l nh false ExtSlots.none o l _ (by omega)

end EpModel.Lemmas.Dec

namespace EpModel.Lemmas.Refine
open EpModel EpModel.Dec

/-- the version-dispatching decoders name the same faults with their own error variants -/
def renameIp : PErr → PErr
  | .ipv4Ihl v => .ipIhl v
  | .ipv4Version v => .ipVersion v
  | .ipv6Version v => .ipVersion v
  | e => e

/-- the dispatching header check on a version 4 nibble (`IpSlice`: 20 bytes or more) is the IPv4
    header check up to the names of the content errors -/
theorem ipDispatch_v4 {g : Mem} (m : Bool) (o l : Nat) (h4 : g o / 16 = 4) (hm : m = false → 20 ≤ l) (h0 : 0 < l) :
    ipDispatchHeader g m o l =
      match ipv4HeaderFromSlice g o l with
      | .error e => .error (renameIp e)
      | .ok hl => .ok (.inl hl) := by
  unfold ipDispatchHeader ipv4HeaderFromSlice
  rw [if_neg (by omega), if_pos h4]
  by_cases h20 : l < 20
  · have : m = true := by cases m <;> simp_all <;> omega
    rw [if_pos ⟨this, h20⟩, if_pos h20]
    rfl
  · rw [if_neg (fun h => h20 h.2), if_neg h20]
    simp only [h4, ne_eq, not_true_eq_false, if_false]
    split
    · rfl
    · split <;> rfl

/-- … and on a version 6 nibble it is the IPv6 header check -/
theorem ipDispatch_v6 {g : Mem} (m : Bool) (o l : Nat) (h6 : g o / 16 = 6) (h0 : 0 < l) :
    ipDispatchHeader g m o l =
      match ipv6HeaderFromSlice g o l with
      | .error e => .error e
      | .ok _ => .ok (.inr ()) := by
  unfold ipDispatchHeader ipv6HeaderFromSlice
  rw [if_neg (by omega), if_neg (by omega), if_pos h6]
  simp only [h6, ne_eq, not_true_eq_false, if_false]
  split <;> rfl

theorem ipSlice_v4 (g : Mem) (o l : Nat) (h4 : g o / 16 = 4) (h20 : 20 ≤ l) :
    ipSliceFromSlice g o l =
      (match ipv4HeaderFromSlice g o l with
       | .error e => .error (renameIp e)
       | .ok hl => ipv4AfterHeaderStrict g o l hl) := by
  unfold ipSliceFromSlice
  rw [ipDispatch_v4 false o l h4 (fun _ => h20) (by omega)]
  cases ipv4HeaderFromSlice g o l <;> rfl

theorem ipSlice_v6 (g : Mem) (o l : Nat) (h6 : g o / 16 = 6) (h0 : 0 < l) :
    ipSliceFromSlice g o l = ipv6SliceFromSlice g o l := by
  unfold ipSliceFromSlice ipv6SliceFromSlice
  rw [ipDispatch_v6 false o l h6 h0]
  cases ipv6HeaderFromSlice g o l <;> rfl

theorem ipSlice_other (g : Mem) (o l : Nat) (h4 : g o / 16 ≠ 4) (h6 : g o / 16 ≠ 6) (h0 : 0 < l) :
    ipSliceFromSlice g o l = .error (.ipVersion (g o / 16)) := by
  unfold ipSliceFromSlice ipDispatchHeader
  have h0 : ¬ l = 0 := by omega
  simp [h0, h4, h6]

theorem ipv4Header_err_kind (g : Mem) (o l : Nat) (e : PErr) (h4 : g o / 16 = 4)
    (h : ipv4HeaderFromSlice g o l = .error e) : (∃ v, e = .ipv4Ihl v) ∨ ∃ le, e = .len le := by
  unfold ipv4HeaderFromSlice at h
  simp only [h4, ne_eq, not_true_eq_false, if_false] at h
  split at h
  · cases h; exact Or.inr ⟨_, rfl⟩
  · split at h
    · cases h; exact Or.inl ⟨_, rfl⟩
    · split at h
      · cases h; exact Or.inr ⟨_, rfl⟩
      · cases h

end EpModel.Lemmas.Refine
