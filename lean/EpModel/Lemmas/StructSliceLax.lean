import EpModel.Lemmas.StructSlice
import EpModel.Lemmas.DecRefineLaxIp
/- The lax pair of C04: LaxPacketHeaders (lphLoop / lphNet / lphAddIp / lphTransport) against the lax slicing
   cursor, all three doors. -/
namespace EpModel.Lemmas.StructSlice
open EpModel EpModel.Dec EpModel.Lemmas.Dec

/-- stop errors of the struct family against the slice family's: identical, except that the struct
    family keeps `Slice` where the cursor propagates an outer limiter (both admissible under C07) -/
def StopAgree (K : Nat) : Option (PErr × Layer) → Option (PErr × Layer) → Prop
  | none, none => True
  | some (.len a, la), some (.len b, lb) =>
    la = lb ∧ a.req = b.req ∧ a.len = b.len ∧ a.layer = b.layer ∧ a.off + K = b.off ∧ (a.src = b.src ∨ a.src = .slice)
  | some (a, la), some (b, lb) => a = b ∧ la = lb
  | _, _ => False

theorem StopAgree.refl_nonlen (K : Nat) (e : PErr) (ly : Layer) (h : ∀ le, e ≠ .len le) : StopAgree K (some (e, ly)) (some (e, ly)) := by
  cases e <;> simp_all [StopAgree]

def LaxIpVerdict (s f : IpR × Option (PErr × Layer)) : Prop :=
  (IpAgree s.1 f.1 ∧ s.2 = f.2) ∨ (EarlyIp s.1 ∧ s.2 = none)

theorem ipv6AfterLax_struct_slice (g : Mem) (o l : Nat) :
    LaxIpVerdict (ipv6AfterHeaderLax g true o l) (ipv6AfterHeaderLax g false o l) := by
  simp only [ipv6AfterHeaderLax]
  obtain ⟨hp, src, inc⟩ := ipv6BoundLax o l (g16 g (o + 4))
  have h := extsWalk_struct_slice g (g (o + 6)) hp.o hp.l
  generalize extsWalk g true (g (o + 6)) hp.o hp.l = rs at h ⊢
  generalize extsWalk g false (g (o + 6)) hp.o hp.l = rf at h ⊢
  rcases h with ⟨h1, h2, h3, h4⟩ | ⟨h1, h2⟩
  · exact .inl ⟨⟨rfl, rfl, rfl, by simp [mkV6, h3], by simp [mkV6, extsFirst, h3], by simp [mkV6, h1, h2, h3]⟩,
      by simp only [h4]⟩
  · exact .inr ⟨⟨rfl, h2⟩, by simp only [h1]⟩

def LaxIpRes (s f : Except PErr (IpR × Option (PErr × Layer))) : Prop :=
  match s, f with
  | .ok a, .ok b => LaxIpVerdict a b
  | .error e, .error e' => e = e'
  | _, _ => False

theorem laxIpVerdict_refl (x : IpR × Option (PErr × Layer)) : LaxIpVerdict x x :=
  Or.inl ⟨⟨rfl, rfl, rfl, rfl, rfl, rfl⟩, rfl⟩

theorem laxIpHeaders_vs_laxIpSlice (g : Mem) (o l : Nat) :
    (g o / 16 = 4 ∧ l < 20 ∧
        ipHeadersFromSliceLax g o l =
          .error (.len { req := 20, len := l, src := .slice, layer := .ipv4Header, off := 0 }) ∧
        laxIpSliceFromSlice g o l = .error (if g o % 16 < 5 then .ipIhl (g o % 16) else
          .len { req := g o % 16 * 4, len := l, src := .slice, layer := .ipv4Header, off := 0 })) ∨
      LaxIpRes (ipHeadersFromSliceLax g o l) (laxIpSliceFromSlice g o l) := by
  unfold ipHeadersFromSliceLax laxIpSliceFromSlice
  rcases ipDispatch_min20 g o l with ⟨h4, _, h20, hs, hf⟩ | heq
  · exact .inl ⟨h4, h20, by rw [hs], by rw [hf]⟩
  right
  rw [heq]
  cases ipDispatchHeader g false o l with
  | error e => exact rfl
  | ok x =>
    cases x with
    | inl hl => exact laxIpVerdict_refl _
    | inr u => exact ipv6AfterLax_struct_slice g o l

theorem icmp4_err_src (g : Mem) (o l : Nat) (e : LenError) (h : icmp4FromSlice g o l = .error e) : e.src = .slice := by
  simp only [icmp4FromSlice, guard_error, reduceCtorEq, and_false, or_false] at h
  rcases h with ⟨_, rfl⟩ | ⟨_, ⟨_, rfl⟩ | ⟨_, _, rfl⟩⟩ <;> rfl

theorem udpLax_err_src (g : Mem) (o l : Nat) (e : LenError) (h : udpFromSliceLax g o l = .error e) : e.src = .slice := by
  simp only [udpFromSliceLax, guard_error] at h
  rcases h with ⟨_, rfl⟩ | ⟨_, h⟩
  · rfl
  · split at h <;> cases h

theorem tcp_err_src (g : Mem) (o l : Nat) (e : LenError) (h : tcpFromSlice g o l = .error (.len e)) : e.src = .slice := by
  simp only [tcpFromSlice, guard_error, reduceCtorEq, and_false, or_false, false_or, PErr.len.injEq] at h
  rcases h with ⟨_, rfl⟩ | ⟨_, _, _, rfl⟩ <;> rfl

theorem icmp6_err_src (o l : Nat) (e : LenError) (h : icmp6FromSlice o l = .error e) : e.src = .slice := by
  simp only [icmp6FromSlice, guard_error, reduceCtorEq, and_false, or_false] at h
  rcases h with ⟨_, rfl⟩ | ⟨_, _, rfl⟩ <;> rfl

def PayAgreeLax (g : Mem) (pay : Pay) (p : Packet) : Prop :=
  match p.tp, p.net with
  | some (.udp w), some (.ip f) => pay = .udp ⟨w.o + 8, w.l - 8⟩ f.pl.inc
  | some (.tcp w hl), some (.ip f) => pay = .tcp ⟨w.o + hl, w.l - hl⟩ f.pl.inc
  | some (.icmp4 w), some (.ip f) =>
    pay = .icmp4 ⟨w.o + icmp4HeaderLen g w.o, w.l - icmp4HeaderLen g w.o⟩ f.pl.inc
  | some (.icmp6 w), some (.ip f) => pay = .icmp6 ⟨w.o + 8, w.l - 8⟩ f.pl.inc
  | none, some (.ip f) => pay = .ip f.pl
  | none, some (.arp _) => pay = .empty
  | _, _ => True

/-- the one place where the two lax families stop with differently worded (both true) errors: an IPv4
    nibble in fewer than 20 bytes - the struct door checks `len < 20` first, the slice door the IHL.
    (Not `RefineLax.ShortV4Stop`, which relates one such stop error to the fault of the wire formats.) -/
def ShortV4Stops (g : Mem) (a b : Option (PErr × Layer)) : Prop :=
  ∃ (o : Nat) (la lb : LenError),
    g o / 16 = 4 ∧
    a = some (.len { req := 20, len := la.len, src := la.src, layer := .ipv4Header, off := la.off }, .ipHeader) ∧
    (b = some (.ipIhl (g o % 16), .ipHeader) ∨
      b = some (.len { req := g o % 16 * 4, len := lb.len, src := lb.src, layer := .ipv4Header, off := lb.off },
        .ipHeader)) ∧
    la.len < 20

structure LaxAgree (g : Mem) (K : Nat) (x : Headers) (p : Packet) (r cr : Packet) : Prop where
  linkS : x.p.link = r.link
  linkF : p.link = cr.link
  exts : x.p.exts = p.exts.map hdrExt
  net : NetAgree x.p.net p.net
  tp : x.p.tp = p.tp
  stop : StopAgree K x.p.stop p.stop ∨ ShortV4Stops g x.p.stop p.stop
  pay : PayAgreeLax g x.pay p

/-- the documented exception (header of Props/C04.lean) in the lax family: the struct ended, without a stop error, at an extension
    header that no longer fits -/
def EarlyLax (x : Headers) : Prop :=
  ∃ ip, x.p.net = some (.ip ip) ∧ EarlyIp ip ∧ x.p.tp = none ∧ x.p.stop = none ∧ x.pay = .ip ip.pl

section
variable {g : Mem} {K : Nat} {r cr : Packet} (hexts : r.exts = cr.exts.map hdrExt)
  (hr : r.net = none ∧ r.tp = none ∧ r.stop = none) (hc : cr.net = none ∧ cr.tp = none ∧ cr.stop = none)
include hexts hr hc

theorem LaxAgree.keep (pay : Pay) : LaxAgree g K { p := r, pay := pay } cr r cr :=
  ⟨rfl, rfl, hexts, by simp [hr.1, hc.1, NetAgree], by simp [hr.2.1, hc.2.1], by left; simp [hr.2.2, hc.2.2, StopAgree],
    by simp [PayAgreeLax, hc.1, hc.2.1]⟩

theorem LaxAgree.stopped (pay : Pay) {e e' : PErr} {ly : Layer}
    (hs : StopAgree K (some (e, ly)) (some (e', ly)) ∨ ShortV4Stops g (some (e, ly)) (some (e', ly))) :
    LaxAgree g K { p := r.setStop e ly, pay := pay } (cr.setStop e' ly) r cr :=
  ⟨rfl, rfl, hexts, by simp [Packet.setStop, hr.1, hc.1, NetAgree], by simp [Packet.setStop, hr.2.1, hc.2.1], hs,
    by simp [PayAgreeLax, Packet.setStop, hc.1, hc.2.1]⟩

theorem LaxAgree.arp (w : Win) : LaxAgree g K { p := r.setNet (.arp w), pay := .empty } (cr.setNet (.arp w)) r cr :=
  ⟨rfl, rfl, hexts, by simp [Packet.setNet, NetAgree], by simp [Packet.setNet, hr.2.1, hc.2.1],
    by left; simp [Packet.setNet, hr.2.2, hc.2.2, StopAgree], by simp [PayAgreeLax, Packet.setNet, hc.2.1]⟩

variable {ipS ipF : IpR} (hag : IpAgree ipS ipF)
include hag

theorem LaxAgree.ip {pl : IpPl} (hpl : pl = ipF.pl) :
    LaxAgree g K { p := r.setNet (.ip ipS), pay := .ip pl } (cr.setNet (.ip ipF)) r cr :=
  ⟨rfl, rfl, hexts, hag, by simp [Packet.setNet, hr.2.1, hc.2.1], by left; simp [Packet.setNet, hr.2.2, hc.2.2, StopAgree],
    by simp [PayAgreeLax, Packet.setNet, hc.2.1, hpl]⟩

theorem LaxAgree.ip_stopped {pl : IpPl} (hpl : pl = ipF.pl) {e e' : PErr} {ly : Layer}
    (hs : StopAgree K (some (e, ly)) (some (e', ly))) :
    LaxAgree g K { p := (r.setNet (.ip ipS)).setStop e ly, pay := .ip pl }
      ((cr.setNet (.ip ipF)).setStop e' ly) r cr :=
  ⟨rfl, rfl, hexts, hag, by simp [Packet.setNet, Packet.setStop, hr.2.1, hc.2.1], Or.inl hs,
    by simp [PayAgreeLax, Packet.setNet, Packet.setStop, hc.2.1, hpl]⟩

theorem LaxAgree.ip_tp (t : TpR) {pay : Pay} (hpay : PayAgreeLax g pay ((cr.setNet (.ip ipF)).setTp t)) :
    LaxAgree g K { p := (r.setNet (.ip ipS)).setTp t, pay := pay } ((cr.setNet (.ip ipF)).setTp t) r cr :=
  ⟨rfl, rfl, hexts, hag, rfl, by left; simp [Packet.setNet, Packet.setTp, hr.2.2, hc.2.2, StopAgree], hpay⟩

end

theorem stop_src_agree (K off : Nat) (e : LenError) (s : LenSource) (ly : Layer) (coff : Nat) (hoff : coff = off + K) :
    StopAgree K (some (.len (e.addOffset off), ly)) (some (.len ((e.addOffset coff).srcIfSlice s), ly)) := by
  subst hoff
  by_cases hsl : e.src = .slice <;>
    simp [StopAgree, LenError.addOffset, LenError.srcIfSlice, LenError.withSrc, hsl, Nat.add_assoc]

/-- the two families test the protocol numbers in different orders, see `transport_agree` -/
theorem laxTransport_agree (g : Mem) (K coff : Nat) (csrc : LenSource) (ipS ipF : IpR) (r cr : Packet) (off' : Nat)
    (hag : IpAgree ipS ipF) (hoff : coff = off' + K) (hnf : ipF.pl.frag = false)
    (hexts : r.exts = cr.exts.map hdrExt) (hr : r.net = none ∧ r.tp = none ∧ r.stop = none)
    (hc : cr.net = none ∧ cr.tp = none ∧ cr.stop = none) :
    LaxAgree g K (lphTransport g ipS (r.setNet (.ip ipS)) off')
      (Cur.laxSliceTransport { off := coff, src := csrc, r := cr.setNet (.ip ipF) } g ipF.pl) r cr := by
  have h6 : ipS.pl = ipF.pl := hag.2.2.2.2.2
  have stop : ∀ (e : LenError) (ly : Layer), e.src = .slice →
      LaxAgree g K
        { p := (r.setNet (.ip ipS)).setStop
            (if e.src = .slice then .len ((e.withSrc ipF.pl.src).addOffset off') else .len e) ly,
          pay := .ip ipF.pl }
        ((cr.setNet (.ip ipF)).setStop (.len ((e.addOffset coff).srcIfSlice ipF.pl.src)) ly) r cr := by
    intro e ly hs
    refine .ip_stopped hexts hr hc hag rfl ?_
    simp [StopAgree, LenError.addOffset, LenError.srcIfSlice, LenError.withSrc, hs, hoff, Nat.add_assoc]
  unfold Cur.laxSliceTransport lphTransport
  simp only [hnf, show (cr.setNet (.ip ipF)).stop = none from hc.2.2, Option.isSome_none, Bool.false_eq_true, or_self,
    if_false]
  rw [h6]
  by_cases n1 : ipF.pl.num = 1
  · simp only [n1, if_true]
    cases hx : icmp4FromSlice g ipF.pl.w.o ipF.pl.w.l with
    | error e => exact stop e _ (icmp4_err_src g _ _ e hx)
    | ok w => exact .ip_tp hexts hr hc hag _ (by simp [PayAgreeLax, Packet.setTp, Packet.setNet, (icmp4_ok g _ _ w hx).1])
  simp only [n1, if_false]
  by_cases n58 : ipF.pl.num = 58
  · simp only [n58, if_true, show ¬ ((58 : Nat) = 17) by omega, show ¬ ((58 : Nat) = 6) by omega, if_false]
    cases hx : icmp6FromSlice ipF.pl.w.o ipF.pl.w.l with
    | error e => exact stop e _ (icmp6_err_src _ _ e hx)
    | ok w => exact .ip_tp hexts hr hc hag _ (by simp [PayAgreeLax, Packet.setTp, Packet.setNet, (icmp6_ok _ _ w hx).1])
  simp only [n58, if_false]
  by_cases n17 : ipF.pl.num = 17
  · simp only [n17, if_true]
    cases hx : udpFromSliceLax g ipF.pl.w.o ipF.pl.w.l with
    | error e => exact stop e _ (udpLax_err_src g _ _ e hx)
    | ok w => exact .ip_tp hexts hr hc hag _ (by simp [PayAgreeLax, Packet.setTp, Packet.setNet])
  simp only [n17, if_false]
  by_cases n6 : ipF.pl.num = 6
  · simp only [n6, if_true]
    cases hx : tcpFromSlice g ipF.pl.w.o ipF.pl.w.l with
    | error e =>
      cases e with
      | len le => exact stop le _ (tcp_err_src g _ _ le hx)
      | _ =>
        refine .ip_stopped hexts hr hc hag rfl ?_
        exact StopAgree.refl_nonlen K _ _ (fun le h => by cases h)
    | ok hl => exact .ip_tp hexts hr hc hag _ (by simp [PayAgreeLax, Packet.setTp, Packet.setNet])
  simp only [n6, if_false]
  exact .ip hexts hr hc hag rfl

theorem ipv4AfterLax_stop_src (g : Mem) (o l hl : Nat) (ip : IpR) (e : LenError) (ly : Layer)
    (h : ipv4AfterHeaderLax g o l hl = (ip, some (.len e, ly))) : e.src = ip.pl.src := by
  simp only [ipv4AfterHeaderLax] at h
  split at h
  · split at h
    · cases h
    · rename_i ae _
      cases ae <;> cases h
      rfl
  · cases h

theorem ipv6AfterLax_stop_src (g : Mem) (sm : Bool) (o l : Nat) (ip : IpR) (e : LenError) (ly : Layer)
    (h : ipv6AfterHeaderLax g sm o l = (ip, some (.len e, ly))) : e.src = ip.pl.src := by
  simp only [ipv6AfterHeaderLax] at h
  split at h
  · cases h
  · cases h; rfl
  · rename_i e' _ hne _
    cases e' <;> cases h
    exact (hne _ rfl).elim

theorem laxIpSlice_stop_src (g : Mem) (o l : Nat) (ip : IpR) (e : LenError) (ly : Layer)
    (h : laxIpSliceFromSlice g o l = .ok (ip, some (.len e, ly))) : e.src = ip.pl.src := by
  unfold laxIpSliceFromSlice at h
  split at h
  · cases h
  · exact ipv4AfterLax_stop_src g o l _ ip e ly (Except.ok.inj h)
  · exact ipv6AfterLax_stop_src g false o l ip e ly (Except.ok.inj h)

def lphIpBranch (g : Mem) (off o l : Nat) (r : Packet) (pay : Pay) : Headers :=
  match lphAddIp g off o l r with
  | .ok h => h
  | .error (.len e) => { p := r.setStop (.len (e.addOffset off)) .ipHeader, pay := pay }
  | .error e => { p := r.setStop e .ipHeader, pay := pay }

theorem lphNet_ip (g : Mem) (off et o l : Nat) (r : Packet) (pay : Pay) (h : et = 0x0800 ∨ et = 0x86dd) :
    lphNet g off et o l r pay = lphIpBranch g off o l r pay := by
  unfold lphNet lphIpBranch
  simp only [h, if_true]
  cases lphAddIp g off o l r with
  | ok x => rfl
  | error e => cases e <;> rfl

theorem lphTransport_early (g : Mem) (ip : IpR) (r1 : Packet) (k : Nat)
    (h : ip.pl.num = 43 ∨ ip.pl.num = 44 ∨ ip.pl.num = 51 ∨ ip.pl.num = 60) :
    lphTransport g ip r1 k = { p := r1, pay := .ip ip.pl } := by
  unfold lphTransport
  dsimp only
  rw [if_neg (by omega), if_neg (by omega), if_neg (by omega), if_neg (by omega)]

theorem lax_ip_agree (c : Cur) (g : Mem) (K off o l : Nat) (r : Packet) (pay : Pay)
    (hoff : c.off = off + K) (hexts : r.exts = c.r.exts.map hdrExt)
    (hr : r.net = none ∧ r.tp = none ∧ r.stop = none) (hc : c.r.net = none ∧ c.r.tp = none ∧ c.r.stop = none) :
    LaxAgree g K (lphIpBranch g off o l r pay) (c.laxSliceIp g o l) r c.r ∨
      EarlyLax (lphIpBranch g off o l r pay) := by
  unfold lphIpBranch lphAddIp Cur.laxSliceIp
  rcases laxIpHeaders_vs_laxIpSlice g o l with ⟨h4, h20, hs, hf⟩ | hres
  · -- IPv4 nibble in fewer than 20 bytes: both stop at the IP header, with differently worded errors
    left
    rw [hs, hf]
    by_cases hi : g o % 16 < 5
    · simp only [hi, if_true]
      exact .stopped hexts hr hc pay (Or.inr ⟨o, { req := 20, len := l, src := .slice, layer := .ipv4Header, off := 0 + off },
        { req := 0, len := 0, src := .slice, layer := .ipv4Header, off := 0 }, h4, rfl, Or.inl rfl, h20⟩)
    · simp only [hi, if_false]
      exact .stopped hexts hr hc pay (Or.inr ⟨o, { req := 20, len := l, src := .slice, layer := .ipv4Header, off := 0 + off },
        { req := 0, len := l, src := if (LenSource.slice = LenSource.slice) then c.src else .slice,
          layer := .ipv4Header, off := 0 + c.off }, h4, rfl,
        Or.inr (by simp [LenError.addOffset, LenError.srcIfSlice, LenError.withSrc]), h20⟩)
  cases hS : ipHeadersFromSliceLax g o l with
  | error e =>
    cases hF : laxIpSliceFromSlice g o l with
    | ok y => rw [hS, hF] at hres; exact hres.elim
    | error e' =>
      rw [hS, hF] at hres
      obtain rfl : e = e' := hres
      left
      cases e with
      | len le => exact .stopped hexts hr hc pay (Or.inl (stop_src_agree K off le c.src .ipHeader c.off hoff))
      | _ =>
        refine .stopped hexts hr hc pay (Or.inl ?_)
        exact StopAgree.refl_nonlen K _ _ (fun le h => by cases h)
  | ok sx =>
    cases hF : laxIpSliceFromSlice g o l with
    | error e' => rw [hS, hF] at hres; exact hres.elim
    | ok fx =>
      rw [hS, hF] at hres
      obtain ⟨ipS, stS⟩ := sx
      obtain ⟨ipF, stF⟩ := fx
      dsimp only
      rcases hres with ⟨hag, hst⟩ | ⟨hE, hst⟩
      · obtain rfl : stS = stF := hst
        replace hag : IpAgree ipS ipF := hag
        have hpl : ipS.pl = ipF.pl := hag.2.2.2.2.2
        left
        cases stS with
        | some st =>
          obtain ⟨e, ly⟩ := st
          cases e with
          | len le =>
            dsimp only
            rw [RefineLax.laxSliceTransport_stopped _ g ipF.pl rfl]
            refine .ip_stopped hexts hr hc hag hpl ?_
            have hsrc := laxIpSlice_stop_src g o l ipF le ly hF
            simp only [StopAgree, LenError.addOffset, LenError.srcIfSlice, LenError.withSrc, hoff, true_and, hpl]
            by_cases hsl : le.src = .slice
            · simp [hsl, ← hsrc, Nat.add_assoc]
            · have hsl' : ¬ ipF.pl.src = .slice := by rw [← hsrc]; exact hsl
              simp [hsrc, hsl', Nat.add_assoc]
          | _ =>
            dsimp only
            rw [RefineLax.laxSliceTransport_stopped _ g ipF.pl rfl]
            refine .ip_stopped hexts hr hc hag hpl ?_
            exact StopAgree.refl_nonlen K _ _ (fun le h => by cases h)
        | none =>
          dsimp only
          by_cases hfr : ipS.pl.frag = true
          · have hfr' : ipF.pl.frag = true := hpl ▸ hfr
            rw [if_pos hfr, show Cur.laxSliceTransport _ g ipF.pl = c.r.setNet (.ip ipF) by
              unfold Cur.laxSliceTransport; simp [hfr']]
            exact .ip hexts hr hc hag hpl
          · have hfr' : ipF.pl.frag = false := by rw [← hpl]; simpa using hfr
            rw [if_neg hfr]
            exact laxTransport_agree g K _ _ ipS ipF r c.r _ hag (by rw [hoff, hpl]; omega) hfr' hexts hr hc
      · obtain rfl : stS = none := hst
        replace hE : EarlyIp ipS := hE
        right
        dsimp only
        rw [lphTransport_early g ipS _ _ hE.2, ite_self]
        exact ⟨ipS, rfl, hE, hr.2.1, hr.2.2, rfl⟩

theorem LaxAgree.relink {g : Mem} {K : Nat} {x : Headers} {p r r' cr cr' : Packet}
    (hv : LaxAgree g K x p r' cr') (h1 : r'.link = r.link) (h2 : cr'.link = cr.link) : LaxAgree g K x p r cr :=
  ⟨hv.linkS.trans h1, hv.linkF.trans h2, hv.exts, hv.net, hv.tp, hv.stop, hv.pay⟩

def LaxVerdict (g : Mem) (K : Nat) (r cr p : Packet) (x : Headers) : Prop :=
  LaxAgree g K x p r cr ∨ EarlyLax x

theorem LaxVerdict.relink {g : Mem} {K : Nat} {x : Headers} {p r r' cr cr' : Packet}
    (hv : LaxVerdict g K r' cr' p x) (h1 : r'.link = r.link) (h2 : cr'.link = cr.link) : LaxVerdict g K r cr p x :=
  hv.imp (·.relink h1 h2) id

theorem lphNet_agree (c : Cur) (g : Mem) (K off et o l : Nat) (r : Packet) (pay : Pay)
    (hoff : c.off = off + K) (hexts : r.exts = c.r.exts.map hdrExt)
    (hr : r.net = none ∧ r.tp = none ∧ r.stop = none) (hc : c.r.net = none ∧ c.r.tp = none ∧ c.r.stop = none) :
    LaxVerdict g K r c.r
      (if et = 0x0806 then c.laxSliceArp g o l else if et = 0x0800 ∨ et = 0x86dd then c.laxSliceIp g o l else c.r)
      (lphNet g off et o l r pay) := by
  by_cases hip : et = 0x0800 ∨ et = 0x86dd
  · rw [lphNet_ip g off et o l r pay hip, if_neg (by omega), if_pos hip]
    exact lax_ip_agree c g K off o l r pay hoff hexts hr hc
  left
  unfold lphNet
  rw [if_neg hip, if_neg hip]
  by_cases ha : et = 0x0806
  · rw [if_pos ha, if_pos ha]
    unfold Cur.laxSliceArp
    cases arpFromSlice g o l with
    | error e => exact .stopped hexts hr hc pay (.inl (stop_src_agree K off e c.src .arp c.off hoff))
    | ok w => exact .arp hexts hr hc w
  · rw [if_neg ha, if_neg ha]
    exact .keep hexts hr hc pay

theorem lphNet_stop (c : Cur) (g : Mem) (K off et o l : Nat) (r : Packet) (pay : Pay)
    (h : et = 0x8100 ∨ et = 0x88a8 ∨ et = 0x9100 ∨ et = 0x88e5) (hexts : r.exts = c.r.exts.map hdrExt)
    (hr : r.net = none ∧ r.tp = none ∧ r.stop = none) (hc : c.r.net = none ∧ c.r.tp = none ∧ c.r.stop = none) :
    LaxVerdict g K r c.r c.r (lphNet g off et o l r pay) := by
  unfold lphNet
  rw [if_neg (by omega), if_neg (by omega)]
  exact .inl (.keep hexts hr hc pay)

theorem laxMacsec_err_layer (g : Mem) (o l : Nat) (e : LenError) (h : laxMacsecFromSlice g o l = .error (.len e)) :
    e.layer = .macsecHeader := by
  unfold laxMacsecFromSlice at h
  cases hh : macsecHeaderFromSlice g o l with
  | ok hl =>
    rw [hh] at h
    dsimp only at h
    -- behind an accepted header every branch is `.ok`
    repeat' split at h
    all_goals cases h
  | error e' =>
    rw [hh] at h
    cases h
    simp only [macsecHeaderFromSlice, guard_error, reduceCtorEq, and_false, or_false, false_or, PErr.len.injEq] at hh
    rcases hh with ⟨_, rfl⟩ | ⟨_, _, _, _, rfl⟩ <;> rfl

open EpModel.Lemmas.ExtsLoop in
theorem lax_loop_agree (c : Cur) (g : Mem) (K n et o l off : Nat) (src : LenSource) (r : Packet) (pay : Pay)
    (hoff : c.off = off + K) (hexts : r.exts = c.r.exts.map hdrExt)
    (hr : r.net = none ∧ r.tp = none ∧ r.stop = none) (hc : c.r.net = none ∧ c.r.tp = none ∧ c.r.stop = none) :
    LaxVerdict g K r c.r (c.laxSliceEtherType g n et o l) (lphLoop g n off et o l src r pay) := by
  induction n generalizing c off et o l src r pay with
  | zero =>
    unfold Cur.laxSliceEtherType lphLoop
    exact ite_rel (fun h => lphNet_stop c g K off et o l r pay (by omega) hexts hr hc) fun _ =>
      ite_rel (fun h => lphNet_stop c g K off et o l r pay (by omega) hexts hr hc) fun _ =>
      lphNet_agree c g K off et o l r pay hoff hexts hr hc
  | succ n ih =>
    unfold Cur.laxSliceEtherType lphLoop
    refine ite_rel (fun _ => ?_) fun _ => ite_rel (fun _ => ?_) fun _ =>
      lphNet_agree c g K off et o l r pay hoff hexts hr hc
    · cases hv : vlanFromSlice o l with
      | error e =>
        exact .inl (.stopped hexts hr hc pay (.inl (by simp [StopAgree, LenError.addOffset, hoff, Nat.add_assoc])))
      | ok w =>
        have hw := vlan_ok o l w hv
        refine LaxVerdict.relink (ih _ _ _ _ (off + 4) src (r.pushExt (.vlan ⟨w.o, 4⟩)) _ ?_ ?_
          (by simpa [Packet.pushExt] using hr) (by simpa [Packet.pushExt] using hc)) rfl rfl
        · simp only [hoff]; omega
        · simp [Packet.pushExt, hexts, hdrExt]
    · cases hm : laxMacsecFromSlice g o l with
      | error e =>
        cases e with
        | len le =>
          dsimp only
          rw [laxMacsec_err_layer g o l le hm]
          exact .inl (.stopped hexts hr hc pay (.inl (by simp [StopAgree, LenError.addOffset, hoff, Nat.add_assoc])))
        | _ =>
          refine .inl (.stopped hexts hr hc pay (.inl ?_))
          exact StopAgree.refl_nonlen K _ _ (fun le h => by cases h)
      | ok x =>
        cases x with
        | vlan w => exact .inl (.keep hexts hr hc pay)
        | macsec hdr pl msrc inc =>
          have hsh := laxMacsec_shape g o l hdr pl msrc inc hm
          have hexts' : (r.pushExt (.macsec hdr pl msrc inc)).exts =
              (c.r.pushExt (.macsec hdr pl msrc inc)).exts.map hdrExt := by simp [Packet.pushExt, hexts, hdrExt]
          dsimp only
          cases macsecNextEtherType g o with
          | none => exact .inl ((LaxAgree.keep hexts' hr hc _).relink rfl rfl)
          | some et' =>
            refine LaxVerdict.relink (ih _ _ _ _ (off + hdr.l) _ _ _ ?_ hexts' hr hc) rfl rfl
            simp only [hoff]; omega

theorem lax_from_ether_type_agree (g : Mem) (et n : Nat) :
    LaxAgree g 0 (lphFromEtherType g et 0 n) (laxSlicedFromEtherType g et n) Packet.empty
        (Packet.empty.setLink (.etherPayload et ⟨0, n⟩)) ∨
      EarlyLax (lphFromEtherType g et 0 n) := by
  unfold lphFromEtherType laxSlicedFromEtherType
  exact lax_loop_agree _ g 0 3 et 0 n 0 .slice Packet.empty _ (by simp) (by simp [Packet.empty, Packet.setLink])
    (by simp [Packet.empty]) (by simp [Packet.empty, Packet.setLink])

theorem stopAgree_len {K : Nat} {a : LenError} {la : Layer} {t : Option (PErr × Layer)} :
    StopAgree K (some (.len a, la)) t ↔ ∃ b, t = some (.len b, la) ∧ a.req = b.req ∧ a.len = b.len ∧
      a.layer = b.layer ∧ a.off + K = b.off ∧ (a.src = b.src ∨ a.src = .slice) := by
  rcases t with _ | ⟨e, lb⟩
  · simp [StopAgree]
  · cases e with
    | len b =>
      simp only [StopAgree, Option.some.injEq, Prod.mk.injEq, PErr.len.injEq]
      exact ⟨fun ⟨h0, h⟩ => ⟨b, ⟨rfl, h0.symm⟩, h⟩, fun ⟨_, ⟨rfl, h0⟩, h⟩ => ⟨h0.symm, h⟩⟩
    | _ => simp [StopAgree]

/-- only the length row of `StopAgree` looks at the offset -/
theorem stopAgree_nonlen {K K' : Nat} {s t : Option (PErr × Layer)} (hn : ∀ e ly, s = some (.len e, ly) → False)
    (h : StopAgree K s t) : StopAgree K' s t := by
  rcases s with _ | ⟨e, ly⟩ <;> rcases t with _ | ⟨e', ly'⟩
  · exact h
  · exact h
  · cases e <;> first | exact (hn _ _ rfl).elim | exact h
  · cases e <;> first | exact (hn _ _ rfl).elim | exact h

/-- `stopAddOff K` adds `K` to the offset of a length stop and is the identity otherwise; `StopAgree K` asks the
    struct side's offset `+ K` to be the slice side's -/
theorem stopAddOff_agree (K : Nat) (p q : Packet) (h : StopAgree K p.stop q.stop) :
    StopAgree 0 (stopAddOff K p).stop q.stop := by
  unfold stopAddOff
  split
  · next e ly hp =>
    rw [hp] at h
    obtain ⟨b, hq, h1, h2, h3, h4, h5⟩ := stopAgree_len.1 h
    rw [hq]
    exact stopAgree_len.2 ⟨b, rfl, h1, h2, h3, h4, h5⟩
  · next hn => exact stopAgree_nonlen hn h

theorem stopAddOff_short (g : Mem) (K : Nat) (p q : Packet) (h : ShortV4Stops g p.stop q.stop) :
    ShortV4Stops g (stopAddOff K p).stop q.stop := by
  obtain ⟨o, la, lb, h4, ha, hb, hlt⟩ := h
  unfold stopAddOff
  rw [ha]
  exact ⟨o, { req := 0, len := la.len, src := la.src, layer := .ipv4Header, off := la.off + K }, lb, h4,
    by simp [LenError.addOffset], hb, hlt⟩

theorem stopAddOff_fields (K : Nat) (p : Packet) :
    (stopAddOff K p).link = p.link ∧ (stopAddOff K p).exts = p.exts ∧ (stopAddOff K p).net = p.net ∧
      (stopAddOff K p).tp = p.tp ∧ ((stopAddOff K p).stop = none ↔ p.stop = none) := by
  unfold stopAddOff
  cases hp : p.stop with
  | none => simp [hp]
  | some x => obtain ⟨e, ly⟩ := x; cases e <;> simp [hp]

theorem lax_from_ethernet_agree (g : Mem) (n : Nat) :
    match laxSlicedFromEthernet g n, lphFromEthernet g n with
    | .ok p, .ok x =>
      (x.p.link = some (.eth2 ⟨0, 14⟩) ∧ p.link = some (.eth2 ⟨0, n⟩) ∧ x.p.exts = p.exts.map hdrExt ∧
        NetAgree x.p.net p.net ∧ x.p.tp = p.tp ∧ (StopAgree 0 x.p.stop p.stop ∨ ShortV4Stops g x.p.stop p.stop) ∧
        PayAgreeLax g x.pay p) ∨ EarlyLax x
    | .error e, .error e' => e = e'
    | _, _ => False := by
  unfold laxSlicedFromEthernet lphFromEthernet eth2FromSlice
  by_cases h : n < 14
  · simp [h]
  · simp only [h, if_false]
    unfold lphFromEtherType
    have key := lax_loop_agree { off := 14, src := .slice, r := Packet.empty.setLink (.eth2 ⟨0, n⟩) } g 14 3
      (g16 g 12) 14 (n - 14) 0 .slice Packet.empty (.ether (g16 g 12) .slice ⟨14, n - 14⟩ false) (by simp)
      (by simp [Packet.empty, Packet.setLink]) (by simp [Packet.empty]) (by simp [Packet.empty, Packet.setLink])
    revert key
    generalize Cur.laxSliceEtherType { off := 14, src := .slice, r := Packet.empty.setLink (.eth2 ⟨0, n⟩) } g 3
      (g16 g 12) 14 (n - 14) = sres
    generalize lphLoop g 3 0 (g16 g 12) 14 (n - 14) .slice Packet.empty
      (.ether (g16 g 12) .slice ⟨14, n - 14⟩ false) = hres
    intro key
    have hf := stopAddOff_fields 14 hres.p
    rcases key with key | key
    · left
      refine ⟨rfl, key.linkF, hf.2.1.trans key.exts, hf.2.2.1 ▸ key.net, hf.2.2.2.1.trans key.tp, ?_, key.pay⟩
      exact key.stop.imp (stopAddOff_agree 14 hres.p sres) (stopAddOff_short g 14 hres.p sres)
    · right
      obtain ⟨ip, h1, h2, h3, h4, h5⟩ := key
      exact ⟨ip, hf.2.2.1.trans h1, h2, hf.2.2.2.1.trans h3, hf.2.2.2.2.mpr h4, h5⟩

theorem lax_from_ip_agree (g : Mem) (n : Nat) :
    match laxSlicedFromIp g n, lphFromIp g n with
    | .ok p, .ok x => LaxAgree g 0 x p Packet.empty Packet.empty ∨ EarlyLax x
    | .error e, .error e' => e = e' ∨ (g 0 / 16 = 4 ∧ n < 20)
    | _, _ => False := by
  rcases laxIpHeaders_vs_laxIpSlice g 0 n with ⟨h4, h20, hs, hf⟩ | hres
  · have e1 : lphFromIp g n =
        .error (.len { req := 20, len := n, src := .slice, layer := .ipv4Header, off := 0 }) := by
      unfold lphFromIp lphAddIp; rw [hs]
    have e2 : laxSlicedFromIp g n = .error (if g 0 % 16 < 5 then PErr.ipIhl (g 0 % 16) else
        PErr.len { req := g 0 % 16 * 4, len := n, src := .slice, layer := .ipv4Header, off := 0 }) := by
      unfold laxSlicedFromIp; rw [hf]
    rw [e1, e2]
    exact Or.inr ⟨h4, h20⟩
  · cases hS : ipHeadersFromSliceLax g 0 n with
    | error e =>
      cases hF : laxIpSliceFromSlice g 0 n with
      | ok y => rw [hS, hF] at hres; simp [LaxIpRes] at hres
      | error e' =>
        rw [hS, hF] at hres
        simp only [LaxIpRes] at hres
        have e1 : lphFromIp g n = .error e := by unfold lphFromIp lphAddIp; rw [hS]
        have e2 : laxSlicedFromIp g n = .error e' := by unfold laxSlicedFromIp; rw [hF]
        rw [e1, e2]
        exact Or.inl hres.symm
    | ok sx =>
      cases hF : laxIpSliceFromSlice g 0 n with
      | error e' => rw [hS, hF] at hres; simp [LaxIpRes] at hres
      | ok fx =>
        rw [laxSlicedFromIp_ok g n fx hF]
        have key := lax_ip_agree Cur.new g 0 0 0 n Packet.empty .empty (by simp [Cur.new])
          (by simp [Cur.new, Packet.empty]) (by simp [Packet.empty]) (by simp [Cur.new, Packet.empty])
        have hb : ∃ h, lphAddIp g 0 0 n Packet.empty = .ok h := by
          unfold lphAddIp
          rw [hS]
          obtain ⟨ip, stop⟩ := sx
          cases stop with
          | none => dsimp only; split <;> exact ⟨_, rfl⟩
          | some st => obtain ⟨e, ly⟩ := st; cases e <;> exact ⟨_, rfl⟩
        obtain ⟨h, hh⟩ := hb
        have hbr : lphIpBranch g 0 0 n Packet.empty .empty = h := by unfold lphIpBranch; rw [hh]
        rw [hbr] at key
        unfold lphFromIp
        rw [hh]
        exact key

end EpModel.Lemmas.StructSlice
